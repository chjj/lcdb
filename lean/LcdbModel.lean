import LcdbModel.Model.Coding
import LcdbModel.Model.Crc32c
import LcdbModel.Model.LogFormat
import LcdbModel.Props.Consts
import LcdbModel.Props.CrcTablesOk
import LcdbModel.Props.C15
import LcdbModel.Props.CodingProps
import LcdbModel.Props.CrcProps
import LcdbModel.Model.WriteBatch
import LcdbModel.Model.InternalKey
import LcdbModel.Model.VersionEdit
import LcdbModel.Model.FileName
import LcdbModel.Props.C17
import LcdbModel.Props.C04
import LcdbModel.Props.C20
import LcdbModel.Model.Lsm
import LcdbModel.Model.Compaction
import LcdbModel.Model.DbIter
import LcdbModel.Lemmas.ListBasic
import LcdbModel.Lemmas.IterSim
import LcdbModel.Lemmas.LogFormat
import LcdbModel.Props.KeyProps
import LcdbModel.Props.C01
import LcdbModel.Props.C06
import LcdbModel.Props.C14
import LcdbModel.Props.C13
import LcdbModel.Props.C07
import LcdbModel.Model.Disk
import LcdbModel.Model.Bloom
import LcdbModel.Model.FilterBlock
import LcdbModel.Model.TableFormat0
import LcdbModel.Lemmas.Bloom
import LcdbModel.Lemmas.FilterBlock
import LcdbModel.Lemmas.TableFormat0
import LcdbModel.Props.FilterProps
import LcdbModel.Model.Block
import LcdbModel.Lemmas.CursorDefs
import LcdbModel.Lemmas.BlockWf
import LcdbModel.Lemmas.Cursor
import LcdbModel.Lemmas.IkOrder
import LcdbModel.Lemmas.InternalKey
import LcdbModel.Lemmas.BlockBuild
import LcdbModel.Lemmas.BlockSafety
import LcdbModel.Lemmas.BlockIter
import LcdbModel.Lemmas.BlockExtras
import LcdbModel.Props.BlockProps
import LcdbModel.Lemmas.Disk
import LcdbModel.Props.C02
import LcdbModel.Props.C03
import LcdbModel.Props.C05
import LcdbModel.Model.Snappy
import LcdbModel.Lemmas.Snappy
import LcdbModel.Props.SnappyProps
import LcdbModel.Props.C12
import LcdbModel.Model.Files
import LcdbModel.Props.C16
import LcdbModel.Props.C18
import LcdbModel.Lemmas.Files
import LcdbModel.Props.C19
import LcdbModel.Model.Repair
import LcdbModel.Model.Conc
import LcdbModel.Props.C08
import LcdbModel.Props.C09
import LcdbModel.Spec.ConcTypes
import LcdbModel.Generated.Atomics
import LcdbModel.Generated.AtomicsMeta
import LcdbModel.Generated.LockTable
import LcdbModel.Spec.ConcPolicy
import LcdbModel.Model.HB
import LcdbModel.Model.SkiplistPub
import LcdbModel.Props.C10
import LcdbModel.Props.C10Skiplist
import LcdbModel.Model.MergeIter
import LcdbModel.Model.DbIterImpl
import LcdbModel.Lemmas.IterSimDefs
import LcdbModel.Lemmas.VisibleMap
import LcdbModel.Lemmas.MapCursor
import LcdbModel.Lemmas.DbIterScan
import LcdbModel.Lemmas.DbIterLive
import LcdbModel.Lemmas.DbIterImpl
import LcdbModel.Lemmas.MergeIter
import LcdbModel.Props.IterProps
import LcdbModel.Props.C11
import LcdbModel.Model.Table
import LcdbModel.Lemmas.TableDefs
import LcdbModel.Lemmas.TableBlockCursor
import LcdbModel.Lemmas.TableRead
import LcdbModel.Lemmas.TableSep
import LcdbModel.Lemmas.IterOps
import LcdbModel.Lemmas.TwoIter
import LcdbModel.Lemmas.TableSafety
import LcdbModel.Lemmas.TablePartition
import LcdbModel.Lemmas.TableTwoLevel
import LcdbModel.Lemmas.TableCursor
import LcdbModel.Lemmas.TableCursorGet
import LcdbModel.Lemmas.TableAssemble
import LcdbModel.Lemmas.TableAssembleRead
import LcdbModel.Lemmas.TableBuildWf
import LcdbModel.Lemmas.TableAlteredByte
import LcdbModel.Lemmas.TableAltered
import LcdbModel.Props.TableProps
import LcdbModel.Lemmas.Conc
import LcdbModel.Lemmas.ConcRank
import LcdbModel.Lemmas.ConcDemo
import LcdbModel.Props.C04Conc
import LcdbModel.Lemmas.Compaction
import LcdbModel.Props.CompactionProps
import LcdbModel.Model.WFile
import LcdbModel.Lemmas.WFile
import LcdbModel.Lemmas.WFileFs
import LcdbModel.Props.WFileProps
import LcdbModel.Model.Policy
import LcdbModel.Lemmas.PolicyDefs
import LcdbModel.Lemmas.PolicyFind
import LcdbModel.Lemmas.PolicyGoi
import LcdbModel.Lemmas.PolicyBoundary
import LcdbModel.Lemmas.PolicyInterval
import LcdbModel.Lemmas.PolicySetup
import LcdbModel.Props.PolicyProps
import LcdbModel.Model.Skiplist
import LcdbModel.Model.Memtable
import LcdbModel.Lemmas.Skiplist
import LcdbModel.Lemmas.SkiplistInsert
import LcdbModel.Lemmas.SkiplistChain
import LcdbModel.Lemmas.Memtable
import LcdbModel.Lemmas.MemtableIter
import LcdbModel.Props.SkiplistProps
import LcdbModel.Model.LruCache
import LcdbModel.Model.LruHTable
import LcdbModel.Lemmas.LruCache
import LcdbModel.Lemmas.LruCacheOps
import LcdbModel.Lemmas.LruCacheRun
import LcdbModel.Lemmas.LruCacheSpec
import LcdbModel.Lemmas.LruHTable
import LcdbModel.Props.LruCacheProps
import LcdbModel.Lemmas.LruCacheWrap
import LcdbModel.Props.SkiplistIterProps
import LcdbModel.Props.CompactionCapstone
import LcdbModel.Props.MechanismEndToEnd
