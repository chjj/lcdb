/-
  `find_file` (binary search) = index of the first file whose largest key is ≥ the target;
  `some_file_overlaps_range` (linear and binary branch) = "some file's user range hits [lo, hi]";
  the contract of `pick_level_for_memtable_output`.
-/
import LcdbModel.Lemmas.PolicyGoi
import LcdbModel.Lemmas.ListBasic
namespace Lcdb.Policy
open Lcdb.CmpBasic Lcdb.Lsm

theorem findFileGo_le (c : Cmp) (files : List FileMeta) (k : Bytes) (p : Nat) (left right : Nat)
    (h : right ≤ files.length) : findFileGo c files k p left right h ≤ files.length := by
  fun_induction findFileGo c files k p left right h with
  | case1 left right h hlt hm hc ih => exact ih
  | case2 left right h hlt hm hc ih => exact ih
  | case3 left right h hlt => exact h

theorem findFile_in_bounds (c : Cmp) (files : List FileMeta) (k : Bytes) (p : Nat) :
    findFile c files k p ≤ files.length :=
  findFileGo_le c files k p 0 files.length (Nat.le_refl _)

theorem largestSorted_mono {c : Cmp} {files : List FileMeta} (h : LargestSorted c files) {k : Bytes} {p : Nat}
    {i j : Nat} (hij : i ≤ j) (hj : j < files.length)
    (hlt : ikLt c (files[j]'hj).lk (files[j]'hj).lp k p = true) :
    ikLt c (files[i]'(Nat.lt_of_le_of_lt hij hj)).lk (files[i]'(Nat.lt_of_le_of_lt hij hj)).lp k p = true := by
  rcases Nat.eq_or_lt_of_le hij with rfl | hlt'
  · exact hlt
  · have := (List.pairwise_iff_getElem.mp h) i j (Nat.lt_trans hlt' hj) hj hlt'
    exact ikLt_trans c this hlt

theorem findFileGo_spec (c : Cmp) (files : List FileMeta) (k : Bytes) (p : Nat) (left right : Nat)
    (h : right ≤ files.length) (hs : LargestSorted c files) (hlr : left ≤ right)
    (hL : ∀ i (hi : i < files.length), i < left → ikLt c (files[i]'hi).lk (files[i]'hi).lp k p = true)
    (hR : ∀ (hr : right < files.length), ikLt c (files[right]'hr).lk (files[right]'hr).lp k p = false)
    (r : Nat) (hres : findFileGo c files k p left right h = r) :
    (∀ i (hi : i < files.length), i < r → ikLt c (files[i]'hi).lk (files[i]'hi).lp k p = true) ∧
    (∀ (hr : r < files.length), ikLt c (files[r]'hr).lk (files[r]'hr).lp k p = false) := by
  fun_induction findFileGo c files k p left right h with
  | case1 left right h hlt hm hc ih =>
    apply ih (by omega) _ hR hres
    intro i hi hil
    exact largestSorted_mono hs (Nat.le_of_lt_succ hil) hm hc
  | case2 left right h hlt hm hc ih =>
    apply ih (by omega) hL _ hres
    intro _
    exact Bool.eq_false_iff.mpr hc
  | case3 left right h hlt =>
    have : left = right := Nat.le_antisymm hlr (Nat.le_of_not_lt hlt)
    subst this hres
    exact ⟨hL, hR⟩

theorem findFile_eq_findIdx (c : Cmp) (files : List FileMeta) (k : Bytes) (p : Nat)
    (h : LargestSorted c files) :
    findFile c files k p = files.findIdx (fun f => !ikLt c f.lk f.lp k p) := by
  have hle := findFile_in_bounds c files k p
  unfold findFile at hle ⊢
  obtain ⟨h1, h2⟩ := findFileGo_spec c files k p 0 files.length (Nat.le_refl _) h (Nat.zero_le _)
    (fun i _ hi => absurd hi (Nat.not_lt_zero i)) (fun hr => absurd hr (Nat.lt_irrefl _)) _ rfl
  generalize findFileGo c files k p 0 files.length (Nat.le_refl _) = r at h1 h2 hle
  symm
  rcases Nat.eq_or_lt_of_le hle with rfl | hlt
  · apply List.findIdx_eq_length_of_false
    intro x hx
    obtain ⟨i, hi, rfl⟩ := List.getElem_of_mem hx
    rw [h1 i hi hi]; rfl
  · rw [List.findIdx_eq hlt]
    refine ⟨by rw [h2 hlt]; rfl, ?_⟩
    intro j hj
    rw [h1 j (Nat.lt_trans hj hlt) hj]; rfl

theorem findFile_getElem?_eq_find (c : Cmp) (files : List FileMeta) (k : Bytes) (p : Nat)
    (h : LargestSorted c files) :
    files[findFile c files k p]? = files.find? (fun f => !ikLt c f.lk f.lp k p) := by
  rw [findFile_eq_findIdx c files k p h, List.find?_eq_getElem?_findIdx]

theorem largestSorted_of_levelSorted {c : Cmp} {files : List FileMeta} (hs : LevelSorted c files)
    (hb : BoundsOk c files) : LargestSorted c files := by
  unfold LargestSorted
  unfold LevelSorted at hs
  refine List.Pairwise.imp_of_mem ?_ hs
  intro f g _ hg hfg
  exact ikLt_of_lt_of_not_lt c hfg (hb g hg)

theorem someFileOverlapsRange_linear_iff (c : Cmp) (files : List FileMeta) (lo hi : Option Bytes) :
    someFileOverlapsRange c false files lo hi = true ↔ ∃ f ∈ files, rangeHits c lo hi f = true := by
  simp [someFileOverlapsRange, rangeHits, List.any_eq_true]

theorem not_ikLt_maxPacked_eq (c : Cmp) (f : FileMeta) (k : Bytes) (hp : f.lp ≤ maxPacked) :
    (!ikLt c f.lk f.lp k maxPacked) = !afterFile c (some k) f := by
  have hnot : c.compare f.lk k ≠ .lt → ikLt c f.lk f.lp k maxPacked = false := fun hne =>
    Bool.eq_false_iff.mpr (fun h => by
      rcases (ikLt_iff c _ _ _ _).mp h with h | ⟨_, h⟩
      · exact hne h
      · omega)
  rw [afterFile, compare_swap c f.lk k]
  cases hc : c.compare f.lk k with
  | lt => rw [ikLt_of_ult hc]; rfl
  | eq => rw [hnot (by rw [hc]; decide)]; rfl
  | gt => rw [hnot (by rw [hc]; decide)]; rfl

theorem someFileOverlapsRange_binary_eq (c : Cmp) (files : List FileMeta) (lo hi : Option Bytes)
    (hs : LargestSorted c files) (hp : PackedOk files) :
    someFileOverlapsRange c true files lo hi =
      match files.find? (fun f => !afterFile c lo f) with
      | none => false
      | some f => !beforeFile c hi f := by
  cases lo with
  | none =>
    simp only [someFileOverlapsRange, Bool.not_true, Bool.false_eq_true, ↓reduceIte]
    cases files <;> simp [afterFile]
  | some k =>
    simp only [someFileOverlapsRange, Bool.not_true, Bool.false_eq_true, ↓reduceIte]
    rw [findFile_getElem?_eq_find c files k maxPacked hs,
      find?_congr_mem (fun f hf => not_ikLt_maxPacked_eq c f k (hp f hf))]
    cases List.find? (fun f => !afterFile c (some k) f) files <;> rfl

/-- what is left of "sorted and disjoint" when only the user keys are looked at -/
def UserSorted (c : Cmp) (files : List FileMeta) : Prop :=
  files.Pairwise (fun f g => c.compare f.sk g.sk ≠ .gt)

theorem userSorted_of_levelSorted {c : Cmp} {files : List FileMeta} (hs : LevelSorted c files)
    (hb : BoundsOk c files) : UserSorted c files := by
  unfold UserSorted
  unfold LevelSorted at hs
  refine List.Pairwise.imp_of_mem ?_ hs
  intro f g hf _ hfg
  -- f.sk ≤ f.lk ≤ g.sk
  exact ule_trans (hb.user f hf) (ikLt_ne_gt hfg)

/-- if the first file that is not entirely before `lo` is entirely after `hi`, so is every later one (their smallest
    user keys do not decrease), and the earlier ones are before `lo` -/
theorem first_not_after_iff (c : Cmp) (files : List FileMeta) (lo hi : Option Bytes)
    (hu : UserSorted c files) :
    (match files.find? (fun f => !afterFile c lo f) with
      | none => false
      | some f => !beforeFile c hi f) = true ↔ ∃ f ∈ files, rangeHits c lo hi f = true := by
  induction files with
  | nil => simp
  | cons f rest ih =>
    have hu' := List.pairwise_cons.mp hu
    rw [List.find?_cons]
    cases haf : afterFile c lo f with
    | true =>
      simp only [Bool.not_true]
      rw [ih hu'.2]
      simp [rangeHits, haf]
    | false =>
      simp only [Bool.not_false]
      cases hbf : beforeFile c hi f with
      | false =>
        simp only [Bool.not_false, true_iff]
        exact ⟨f, List.mem_cons_self .., by simp [rangeHits, haf, hbf]⟩
      | true =>
        simp only [Bool.not_true, Bool.false_eq_true, false_iff]
        rintro ⟨g, hg, hhit⟩
        rcases List.mem_cons.mp hg with rfl | hg
        · simp [rangeHits, hbf] at hhit
        · cases hi with
          | none => simp [beforeFile] at hbf
          | some h =>
            simp only [beforeFile, beq_iff_eq] at hbf
            have hfg := hu'.1 g hg
            have : c.compare h g.sk = .lt := (cmp3_compare c).lt_of_lt_of_ne_gt hbf hfg
            simp [rangeHits, beforeFile, this] at hhit

theorem someFileOverlapsRange_binary_iff (c : Cmp) (files : List FileMeta) (lo hi : Option Bytes)
    (hs : LevelSorted c files) (hb : BoundsOk c files) (hp : PackedOk files) :
    someFileOverlapsRange c true files lo hi = true ↔ ∃ f ∈ files, rangeHits c lo hi f = true := by
  rw [someFileOverlapsRange_binary_eq c files lo hi (largestSorted_of_levelSorted hs hb) hp]
  exact first_not_after_iff c files lo hi (userSorted_of_levelSorted hs hb)

/-- `none` only for `level ≥ LDB_NUM_LEVELS` (the assert) -/
theorem versionGoi_total (c : Cmp) (v : Version) (level : Nat) (b e : Option IKey) (h : level < numLevels) :
    ∃ r, versionGoi c v level b e = some r ∧ r.Sublist (v.files level) := by
  unfold versionGoi
  rw [if_pos h]
  obtain ⟨r, hr⟩ := goi_total c (level == 0) (v.files level) b e
  exact ⟨r, hr, goi_sublist hr⟩

theorem pickLevelGo_spec (c : Cmp) (v : Version) (mfs : Nat) (sk lk : Bytes) (n level : Nat) :
    ∃ L, pickLevelGo c v mfs sk lk n level = some L ∧ L ≤ level + n ∧
      ∀ l, level < l → l ≤ L → overlapInLevel c v l (some sk) (some lk) = false := by
  induction n generalizing level with
  | zero => exact ⟨level, rfl, Nat.le_refl _, fun l h1 h2 => absurd (Nat.lt_of_lt_of_le h1 h2) (Nat.lt_irrefl _)⟩
  | succ n ih =>
    -- an iteration ends in one of two ways: it returns `level` (`stop`), or it goes on from `level + 1`, a level
    -- without overlap (`step`, from the induction hypothesis)
    have stop : level ≤ level + (n + 1) ∧
        ∀ l, level < l → l ≤ level → overlapInLevel c v l (some sk) (some lk) = false :=
      ⟨Nat.le_add_right _ _, fun l h1 h2 => absurd (Nat.lt_of_lt_of_le h1 h2) (Nat.lt_irrefl _)⟩
    unfold pickLevelGo
    cases hov : overlapInLevel c v (level + 1) (some sk) (some lk) with
    | true => exact ⟨level, rfl, stop⟩
    | false =>
      obtain ⟨L, hL, h2, h3⟩ := ih (level + 1)
      have step : L ≤ level + (n + 1) ∧
          ∀ l, level < l → l ≤ L → overlapInLevel c v l (some sk) (some lk) = false := by
        refine ⟨by omega, fun l hl1 hl2 => ?_⟩
        rcases Nat.eq_or_lt_of_le hl1 with rfl | hl
        · exact hov
        · exact h3 l hl hl2
      rw [if_neg Bool.false_ne_true]
      by_cases hlt : level + 2 < numLevels
      · obtain ⟨r, hr, _⟩ := versionGoi_total c v (level + 2) (some (sk, maxPacked)) (some (lk, 0)) hlt
        rw [if_pos hlt, hr]
        dsimp only
        by_cases hsz : totalFileSize r > maxGrandparentOverlapBytes mfs
        · rw [if_pos hsz]
          exact ⟨level, rfl, stop⟩
        · rw [if_neg hsz]
          exact ⟨L, hL, step⟩
      · rw [if_neg hlt]
        exact ⟨L, hL, step⟩

/-- 2 is `maxMemCompactLevel` (LDB_MAX_MEM_COMPACT_LEVEL, dbformat.h:45) -/
theorem pickLevel_le (c : Cmp) (v : Version) (mfs : Nat) (sk lk : Bytes) (L : Nat)
    (h : pickLevel c v mfs sk lk = some L) : L ≤ 2 := by
  unfold pickLevel at h
  by_cases h0 : overlapInLevel c v 0 (some sk) (some lk) = true
  · rw [if_pos h0] at h
    cases h
    exact Nat.zero_le _
  · obtain ⟨L', hL', h2, _⟩ := pickLevelGo_spec c v mfs sk lk maxMemCompactLevel 0
    rw [if_neg h0, hL'] at h
    cases h
    exact h2

theorem overlapInLevel_false (c : Cmp) (v : Version) (l : Nat) (lo hi : Option Bytes)
    (hs : 1 ≤ l → LevelSorted c (v.files l)) (hb : BoundsOk c (v.files l)) (hp : PackedOk (v.files l))
    (h : overlapInLevel c v l lo hi = false) : ∀ g ∈ v.files l, rangeHits c lo hi g = false := by
  intro g hg
  refine Bool.eq_false_iff.mpr (fun hh => ?_)
  have hex : ∃ f ∈ v.files l, rangeHits c lo hi f = true := ⟨g, hg, hh⟩
  unfold overlapInLevel at h
  by_cases hpos : l > 0
  · rw [decide_eq_true hpos, (someFileOverlapsRange_binary_iff c _ lo hi (hs hpos) hb hp).mpr hex] at h
    cases h
  · rw [decide_eq_false hpos, (someFileOverlapsRange_linear_iff c _ lo hi).mpr hex] at h
    cases h

theorem pickLevel_contract (c : Cmp) (v : Version) (mfs : Nat) (sk lk : Bytes)
    (hs : ∀ l, 1 ≤ l → LevelSorted c (v.files l)) (hb : ∀ l, BoundsOk c (v.files l))
    (hp : ∀ l, PackedOk (v.files l)) :
    ∃ L, pickLevel c v mfs sk lk = some L ∧ L ≤ 2 ∧
      ∀ f : FileMeta, f.sk = sk → f.lk = lk → ∀ l, l ≤ L → L ≠ 0 →
        ∀ g ∈ v.files l, userRangesOverlap c f g = false := by
  simp only [pickLevel]
  cases h0 : overlapInLevel c v 0 (some sk) (some lk) with
  | true => exact ⟨0, rfl, Nat.zero_le _, fun f _ _ l _ hne => absurd rfl hne⟩
  | false =>
    obtain ⟨L, hL, h2, h3⟩ := pickLevelGo_spec c v mfs sk lk maxMemCompactLevel 0
    refine ⟨L, hL, h2, ?_⟩
    intro f hfs hfl l hl _ g hg
    have hov : overlapInLevel c v l (some sk) (some lk) = false := by
      rcases Nat.eq_zero_or_pos l with rfl | hpos
      · exact h0
      · exact h3 l hpos hl
    have := overlapInLevel_false c v l (some sk) (some lk) (hs l) (hb l) (hp l) hov g hg
    rwa [← hfs, ← hfl, rangeHits_eq_userRangesOverlap] at this

end Lcdb.Policy
