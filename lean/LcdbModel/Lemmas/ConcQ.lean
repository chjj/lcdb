/-
  The queue invariant of the concurrency model (`C09.queue_inv`, `C09.wakeup_inv`), and with it the writers' steps as
  cases of `WStep` (`step_writer`).
-/
import LcdbModel.Lemmas.ConcStep

namespace Lcdb.Conc

def WQ (st : St) (w : Writer) : Prop :=
  match w.pc with
  | .idle => w.done = false ∧ w.tid ∉ st.queue
  | .asleepW => w.done = false ∧ w.tid ∈ st.queue ∧ st.queue.head? ≠ some w.tid
  | .wokenW => (w.done = true ∧ w.tid ∉ st.queue) ∨ (w.done = false ∧ st.queue.head? = some w.tid ∧ st.inflight = [])
  | .asleepBg => w.done = false ∧ st.queue.head? = some w.tid ∧ st.inflight = []
  | .wokenBg => w.done = false ∧ st.queue.head? = some w.tid ∧ st.inflight = []
  | .delayed => w.done = false ∧ st.queue.head? = some w.tid ∧ st.inflight = []
  | .io => w.done = false ∧ st.queue.head? = some w.tid ∧ st.inflight.head? = some w.tid
  | .returned ok => w.tid ∉ st.queue ∧ (w.done = true → ok = w.status)

/-- the queue invariant, possibly except for the record of thread `ex` (which is in the middle of a critical section) -/
structure InvQX (ex : Option Tid) (st : St) : Prop where
  wnodup : (st.writers.map (·.tid)).Nodup
  qnodup : st.queue.Nodup
  qmem : ∀ t ∈ st.queue, ∃ w ∈ st.writers, w.tid = t
  pfx : st.inflight <+: st.queue
  wq : ∀ w ∈ st.writers, some w.tid ≠ ex → WQ st w

abbrev InvQ (st : St) : Prop := InvQX none st

theorem InvQ.wq' {st : St} (H : InvQ st) {w : Writer} (hw : w ∈ st.writers) : WQ st w := H.wq w hw (by simp)

theorem InvQ.toX {st : St} (H : InvQ st) {ex : Option Tid} : InvQX ex st :=
  ⟨H.wnodup, H.qnodup, H.qmem, H.pfx, fun _ hx _ => H.wq' hx⟩

/-- The cases of `WQ` by position: off the queue (not started; taken off by a leader, result handed over, signalled;
    returned), behind the head (asleep on its own cv), or at the head (running with nothing in flight, or writing the
    group). -/
inductive QPos (st : St) (w : Writer) : Prop
  | off (hm : w.tid ∉ st.queue)
      (h : w.pc = .idle ∧ w.done = false ∨ w.pc = .wokenW ∧ w.done = true ∨
        ∃ ok, w.pc = .returned ok ∧ (w.done = true → ok = w.status))
  | behind (hp : w.pc = .asleepW) (hd : w.done = false) (hm : w.tid ∈ st.queue) (hh : st.queue.head? ≠ some w.tid)
  | head (hd : w.done = false) (hh : st.queue.head? = some w.tid)
      (h : (w.pc = .wokenW ∨ w.pc = .asleepBg ∨ w.pc = .wokenBg ∨ w.pc = .delayed) ∧ st.inflight = [] ∨
        w.pc = .io ∧ st.inflight.head? = some w.tid)

theorem WQ.pos {st : St} {w : Writer} (h : WQ st w) : QPos st w := by
  unfold WQ at h
  generalize hp : w.pc = p at h
  cases p <;> dsimp only at h
  · exact .off h.2 (Or.inl ⟨hp, h.1⟩)
  · exact .behind hp h.1 h.2.1 h.2.2
  · exact h.elim (fun a => .off a.2 (Or.inr (Or.inl ⟨hp, a.1⟩)))
      (fun a => .head a.1 a.2.1 (Or.inl ⟨Or.inl hp, a.2.2⟩))
  · exact .head h.1 h.2.1 (Or.inl ⟨Or.inr (Or.inl hp), h.2.2⟩)
  · exact .head h.1 h.2.1 (Or.inl ⟨Or.inr (Or.inr (Or.inl hp)), h.2.2⟩)
  · exact .head h.1 h.2.1 (Or.inl ⟨Or.inr (Or.inr (Or.inr hp)), h.2.2⟩)
  · exact .head h.1 h.2.1 (Or.inr ⟨hp, h.2.2⟩)
  · exact .off h.1 (Or.inr (Or.inr ⟨_, hp, h.2⟩))

theorem WQ_congr {st st' : St} (hq : st'.queue = st.queue) (hi : st'.inflight = st.inflight) (w : Writer) :
    WQ st' w = WQ st w := by
  unfold WQ; rw [hq, hi]

theorem WQ_nothead {st st' : St} {x : Writer} (hne : st.queue.head? ≠ some x.tid)
    (hmem : x.tid ∈ st'.queue ↔ x.tid ∈ st.queue) (hh : x.pc = .asleepW → st'.queue.head? ≠ some x.tid)
    (h : WQ st x) : WQ st' x := by
  unfold WQ at h ⊢
  revert h hh
  cases x.pc <;> dsimp only <;> intro hh h
  · exact ⟨h.1, mt hmem.1 h.2⟩
  · exact ⟨h.1, hmem.2 h.2.1, hh rfl⟩
  · exact h.elim (fun a => Or.inl ⟨a.1, mt hmem.1 a.2⟩) (fun a => absurd a.2.1 hne)
  · exact absurd h.2.1 hne
  · exact absurd h.2.1 hne
  · exact absurd h.2.1 hne
  · exact absurd h.2.1 hne
  · exact ⟨mt hmem.1 h.1, h.2⟩

theorem WQ_pop {st st' : St} {x : Writer} {pre rest : List Tid} (hq : st.queue = pre ++ rest) (hq' : st'.queue = rest)
    (hi' : st'.inflight = []) (hne : st.queue.head? ≠ some x.tid) (hx : x.tid ∉ pre) (h : WQ st x) :
    WQ st' (wakeHead rest x) := by
  have hmem : x.tid ∈ st'.queue ↔ x.tid ∈ st.queue := by
    rw [hq, hq', List.mem_append]; exact ⟨Or.inr, fun h => h.resolve_left hx⟩
  unfold wakeHead
  by_cases hh : rest.head? = some x.tid
  · rw [if_pos hh]
    by_cases hp : x.pc = .asleepW
    · unfold WQ at h ⊢
      rw [hp] at h; rw [wake_pc, hp]
      exact Or.inr ⟨by rw [(wake_frame x).2.2.1]; exact h.1, by rw [wake_tid, hq']; exact hh, hi'⟩
    · rw [wake_of_ne hp]; exact WQ_nothead hne hmem (fun h' => absurd h' hp) h
  · rw [if_neg hh]; exact WQ_nothead hne hmem (fun _ => by rw [hq']; exact hh) h

theorem InvQX.io_of_inflight {ex : Option Tid} {st : St} (H : InvQX ex st) {w : Writer} (hw : w ∈ st.writers)
    (hex : some w.tid ≠ ex) (h : st.inflight.head? = some w.tid) : w.pc = .io := by
  have hhead : st.queue.head? = some w.tid := by
    obtain ⟨r, hr⟩ := H.pfx
    obtain ⟨l, hl⟩ := List.head?_eq_some_iff.1 h
    rw [← hr, hl]; rfl
  have hmem : w.tid ∈ st.queue := List.mem_of_mem_head? hhead
  have hne : st.inflight ≠ [] := by intro h0; rw [h0] at h; cases h
  rcases (H.wq w hw hex).pos with ⟨hm, _⟩ | ⟨_, _, _, hh⟩ | ⟨_, _, ⟨_, hi⟩ | ⟨hp, _⟩⟩
  · exact absurd hmem hm
  · exact absurd hhead hh
  · exact absurd hi hne
  · exact hp

theorem InvQX.of_map {ex ex' : Option Tid} {st G : St} {g : Writer → Writer} (H : InvQX ex st)
    (hg : ∀ x, (g x).tid = x.tid) (hw : G.writers = st.writers)
    (hqn : G.queue.Nodup) (hqm : ∀ t ∈ G.queue, ∃ w ∈ st.writers, w.tid = t)
    (hp : G.inflight <+: G.queue)
    (hwq : ∀ x ∈ st.writers, some x.tid ≠ ex' → WQ (mapW G g) (g x)) : InvQX ex' (mapW G g) := by
  refine ⟨?_, hqn, ?_, hp, ?_⟩
  · simp only [mapW_writers, hw]; exact nodup_tids_map hg H.wnodup
  · intro t ht
    obtain ⟨w, hw', rfl⟩ := hqm t ht
    exact ⟨g w, by simp only [mapW_writers, hw]; exact List.mem_map_of_mem hw', hg w⟩
  · intro x' hx' hne
    simp only [mapW_writers, hw, List.mem_map] at hx'
    obtain ⟨x, hx, rfl⟩ := hx'
    exact hwq x hx (by rw [← hg x]; exact hne)

theorem InvQX.follower {ex : Option Tid} {st : St} (H : InvQX ex st) {x : Writer} (hx : x ∈ st.writers)
    (hex : some x.tid ≠ ex) (hm : x.tid ∈ st.queue) (hh : st.queue.head? ≠ some x.tid) :
    x.pc = .asleepW := by
  rcases (H.wq x hx hex).pos with ⟨h, _⟩ | ⟨hp, _, _, _⟩ | ⟨_, h, _⟩
  · exact absurd hm h
  · exact hp
  · exact absurd h hh

theorem InvQ.queued {st : St} (H : InvQ st) {x : Writer} (hx : x ∈ st.writers) (hm : x.tid ∈ st.queue) :
    x.done = false ∧ x.pc ≠ .idle ∧ ∀ ok, x.pc ≠ .returned ok := by
  rcases (H.wq' hx).pos with ⟨h, _⟩ | ⟨hp, hd, _, _⟩ | ⟨hd, _, ⟨hp, _⟩ | ⟨hp, _⟩⟩
  · exact absurd hm h
  · exact ⟨hd, by simp [hp], by simp [hp]⟩
  · exact ⟨hd, by rcases hp with hp | hp | hp | hp <;> simp [hp], by rcases hp with hp | hp | hp | hp <;> simp [hp]⟩
  · exact ⟨hd, by simp [hp], by simp [hp]⟩

theorem InvQ.idle_facts {st : St} (H : InvQ st) {w : Writer} (hw : w ∈ st.writers) (hpc : w.pc = .idle) :
    w.done = false ∧ w.tid ∉ st.queue := by
  have := H.wq' hw; simpa [WQ, hpc] using this

/-- the "go back to sleep" branch of the wait loop is never taken -/
theorem InvQ.woken_head {st : St} {w : Writer} (H : InvQ st) (hw : w ∈ st.writers)
    (hpc : w.pc = .wokenW ∨ w.pc = .wokenBg ∨ w.pc = .delayed) (hd : w.done = false) :
    st.queue.head? = some w.tid ∧ st.inflight = [] := by
  have hw' := H.wq' hw
  unfold WQ at hw'
  rcases hpc with hpc | hpc | hpc <;> simp [hpc, hd] at hw' <;> exact hw'

theorem InvQ.io_facts {st : St} {w : Writer} (H : InvQ st) (hw : w ∈ st.writers) (hpc : w.pc = .io) :
    w.done = false ∧ ∃ fs rest, st.inflight = w.tid :: fs ∧ st.queue = w.tid :: (fs ++ rest) := by
  have hw' := H.wq' hw
  simp only [WQ, hpc] at hw'
  refine ⟨hw'.1, ?_⟩
  obtain ⟨fs, hfs⟩ := List.head?_eq_some_iff.1 hw'.2.2
  obtain ⟨rest, hr⟩ := H.pfx
  exact ⟨fs, rest, hfs, by rw [← hr, hfs]; simp⟩

theorem InvQX.of_globals {ex : Option Tid} {st st' : St} (H : InvQX ex st) (hw : st'.writers = st.writers)
    (hq : st'.queue = st.queue) (hi : st'.inflight = st.inflight) : InvQX ex st' := by
  refine ⟨by rw [hw]; exact H.wnodup, by rw [hq]; exact H.qnodup, ?_, by rw [hq, hi]; exact H.pfx, ?_⟩
  · intro t ht; rw [hq] at ht; rw [hw]; exact H.qmem t ht
  · intro w hw' hne; rw [hw] at hw'; rw [WQ_congr hq hi]; exact H.wq w hw' hne

theorem InvQX.map_bwake {ex : Option Tid} {st st' : St} (H : InvQX ex st) (hw : st'.writers = st.writers.map bwake)
    (hq : st'.queue = st.queue) (hi : st'.inflight = st.inflight) : InvQX ex st' := by
  refine (H.of_map (G := st) bwake_tid rfl H.qnodup H.qmem H.pfx ?_).of_globals hw hq hi
  intro x hx hne
  have hx' := H.wq x hx hne
  rw [WQ_congr (st' := mapW st bwake) (st := st) rfl rfl]
  by_cases hp : x.pc = .asleepBg
  · have hb : bwake x = { x with pc := .wokenBg } := by simp [bwake, hp]
    rw [hb]; unfold WQ at hx' ⊢; rw [hp] at hx'; exact hx'
  · rw [bwake_of_ne hp]; exact hx'

theorem InvQX.fail {st : St} {w : Writer} (H : InvQX (some w.tid) st) (hH : Head st w) : InvQ (failSt st w) := by
  have hhead := hH.head
  obtain ⟨q, hq⟩ := List.head?_eq_some_iff.1 hhead
  have hqn := H.qnodup
  rw [hq] at hqn
  obtain ⟨hwq, hqn⟩ := List.nodup_cons.1 hqn
  have hGq : (failG st w.tid).queue = q := by simp [failG, hq]
  have hGi : (failG st w.tid).inflight = [] := hH.idleQ
  refine H.of_map (fun x => (wakeHead_tid _ _).trans (putW_tid (w' := { w with pc := .returned false }) rfl x)) rfl
    (by rw [hGq]; exact hqn) ?_
    (by rw [hGi]; exact List.nil_prefix) ?_
  · intro t ht; rw [hGq] at ht; exact H.qmem t (by rw [hq]; exact List.mem_cons_of_mem _ ht)
  · intro x hx _
    have hdrop : st.queue.drop 1 = q := by rw [hq]; rfl
    simp only [Function.comp, putW, hdrop]
    by_cases hxt : x.tid = w.tid
    · rw [if_pos hxt, wakeHead_of_ne _ (by simp)]
      exact ⟨fun hm => hwq (hGq ▸ hm), fun hd' => by rw [hH.notDone] at hd'; cases hd'⟩
    · rw [if_neg hxt]
      exact WQ_pop (pre := [w.tid]) (by rw [hq]; rfl) hGq hGi
        (by rw [hhead]; exact fun h => hxt (Option.some.inj h).symm) (by simpa using hxt)
        (H.wq x hx (by simpa using hxt))

theorem InvQX.setPc {st : St} {w w' : Writer} (H : InvQX (some w.tid) st) (ht : w'.tid = w.tid) (hw' : WQ st w') :
    InvQ (mapW st (putW w.tid w')) := by
  refine H.of_map (putW_tid ht) rfl H.qnodup H.qmem H.pfx ?_
  intro x hx _
  unfold putW; split
  · exact hw'
  · rename_i h; exact H.wq x hx (by simpa using h)

theorem InvQX.begin {st : St} {w : Writer} (H : InvQX (some w.tid) st) (hH : Head st w) (sw : Bool) {g : Nat}
    (hg : 0 < g) : InvQ (mapW (beginG st sw g) (putW w.tid { w with pc := .io })) := by
  have hhead := hH.head
  obtain ⟨q, hq⟩ := List.head?_eq_some_iff.1 hhead
  refine H.of_map (putW_tid rfl) rfl H.qnodup H.qmem (List.take_prefix _ _) ?_
  intro x hx _
  by_cases hxt : x.tid = w.tid
  · simp only [putW, hxt, if_true]
    have : (List.take g st.queue).head? = some w.tid := by
      rw [hq]; cases g with
      | zero => omega
      | succ n => simp
    exact ⟨hH.notDone, hhead, this⟩
  · simp only [putW, hxt, if_false]
    have hne : st.queue.head? ≠ some x.tid := by rw [hhead]; intro h; exact hxt (Option.some.inj h).symm
    exact WQ_nothead hne Iff.rfl (fun _ => hne) (H.wq x hx (by simpa using hxt))

theorem InvQX.headOutcome {st st' : St} {w : Writer} {c : RoomChoice} (H : InvQX (some w.tid) st) (hH : Head st w)
    (h : HeadOutcome st w c st') : InvQ st' := by
  cases h with
  | fail _ => exact H.fail hH
  | switchFail _ _ => exact InvQX.fail (H.map_bwake rfl rfl rfl) hH.switchFail
  | delay _ _ | wait _ _ _ => exact H.setPc rfl (by simp [WQ, hH.notDone, hH.head, hH.idleQ])
  | begin sw g _ _ hg _ _ => exact H.begin hH sw hg

theorem InvQ.enq {st : St} {w : Writer} (H : InvQ st) (hw : w ∈ st.writers) (hpc : w.pc = .idle) :
    InvQX (some w.tid) (enq st w.tid) := by
  have hnm := (H.idle_facts hw hpc).2
  refine ⟨H.wnodup, ?_, ?_, H.pfx.trans (List.prefix_append _ _), ?_⟩
  · refine List.nodup_append.2 ⟨H.qnodup, by simp, ?_⟩
    intro a ha b hb; rw [List.mem_singleton.1 hb]; exact fun h => hnm (h ▸ ha)
  · intro t ht
    rcases List.mem_append.1 ht with ht | ht
    · exact H.qmem t ht
    · exact ⟨w, hw, (List.mem_singleton.1 ht).symm⟩
  · intro x hx hne
    have hxt : x.tid ≠ w.tid := by simpa using hne
    have hh : (st.queue ++ [w.tid]).head? = some x.tid ↔ st.queue.head? = some x.tid := by
      cases st.queue <;> simp [Ne.symm hxt]
    have hx' := H.wq' hx
    unfold WQ at hx' ⊢
    simp only [Lcdb.Conc.enq, List.mem_append, List.mem_singleton, hxt, or_false, ne_eq, hh]
    exact hx'

theorem InvQ.commitW_cases {st : St} {w : Writer} (H : InvQ st) (hw : w ∈ st.writers) (hpc : w.pc = .io) (sf : Bool)
    {x : Writer} (hx : x ∈ st.writers) :
    (x = w ∧ commitW st w sf x = { w with pc := .returned (!sf) }) ∨
    (x.tid ≠ w.tid ∧ st.queue.head? ≠ some x.tid ∧
      ((x.tid ∈ st.inflight.drop 1 ∧ x.pc = .asleepW ∧ commitW st w sf x = markF (!sf) x) ∨
       (x.tid ∉ st.inflight.drop 1 ∧ commitW st w sf x = wakeHead (st.queue.drop st.inflight.length) x))) := by
  by_cases hxt : x.tid = w.tid
  · exact Or.inl ⟨writer_unique H.wnodup hx hw hxt, commitW_leader st w sf hxt⟩
  · obtain ⟨_, fs, rest, hi, hq⟩ := H.io_facts hw hpc
    have hne : st.queue.head? ≠ some x.tid := by rw [hq]; exact fun h => hxt (Option.some.inj h).symm
    -- only the head of the queue sleeps on the background cv
    have hb : (if sf = true then bwake x else x) = x := by
      split
      · refine bwake_of_ne fun hp => ?_
        have := H.wq' hx; simp only [WQ, hp] at this; exact hne this.2.1
      · rfl
    refine Or.inr ⟨hxt, hne, ?_⟩
    unfold commitW putW
    rw [hb]
    by_cases hxf : x.tid ∈ st.inflight.drop 1
    · have hp := H.follower hx (by simp) (H.pfx.subset (List.mem_of_mem_drop hxf)) hne
      have hxt' : ¬ (markF (!sf) x).tid = w.tid := hxt
      rw [if_pos hxf, if_neg hxt']
      exact Or.inl ⟨hxf, hp, wakeHead_of_ne _ (by simp [markF, hp])⟩
    · rw [if_neg hxf, if_neg hxt]
      exact Or.inr ⟨hxf, rfl⟩

theorem InvQ.commit {st : St} {w : Writer} (H : InvQ st) (hw : w ∈ st.writers) (hpc : w.pc = .io) (sf : Bool) :
    InvQ (commitAct st w sf) := by
  obtain ⟨hd, fs, rest, hi, hq⟩ := H.io_facts hw hpc
  have hqn := H.qnodup
  rw [hq] at hqn
  simp only [List.nodup_cons, List.mem_append, not_or, List.nodup_append] at hqn
  obtain ⟨⟨hwfs, hwrest⟩, hfsn, hrestn, hdisj⟩ := hqn
  have hdrop : st.queue.drop st.inflight.length = rest := by rw [hi, hq]; simp
  have hdrop1 : st.inflight.drop 1 = fs := by rw [hi]; rfl
  rw [commitAct_eq H.wnodup]
  have hGq : (commitG st w.tid sf).queue = rest := hdrop
  refine H.of_map (commitW_tid st w sf) rfl (by rw [hGq]; exact hrestn) ?_ List.nil_prefix ?_
  · intro t ht; rw [hGq] at ht; apply H.qmem; simp [hq, ht]
  · intro x hx _
    rcases H.commitW_cases hw hpc sf hx with ⟨_, e⟩ | ⟨hxt, hne, ⟨hxf, hp, e⟩ | ⟨hxf, e⟩⟩ <;> rw [e]
    · exact ⟨fun hm => hwrest (hGq ▸ hm), fun hd' => by rw [hd] at hd'; cases hd'⟩
    · have hmp : (markF (!sf) x).pc = .wokenW := by simp [markF, hp]
      unfold WQ; rw [hmp]
      exact Or.inl ⟨rfl, fun hm => hdisj _ (hdrop1 ▸ hxf) _ (hGq ▸ hm) rfl⟩
    · rw [hdrop]
      exact WQ_pop (pre := w.tid :: fs) (by rw [hq]; rfl) hGq rfl hne (by simp [hxt, hdrop1 ▸ hxf]) (H.wq' hx)

theorem InvQ.broadcast {st : St} (H : InvQ st) : InvQ (broadcastBg st) :=
  broadcastBg_eq st ▸ H.map_bwake (st' := bcast true st) rfl rfl rfl

theorem Head.enter {st : St} {w : Writer} (H : InvQ st) (hw : w ∈ st.writers) (hpc : w.pc = .idle)
    (hh : (st.queue ++ [w.tid]).head? = some w.tid) : Head (enq st w.tid) w := by
  obtain ⟨hd, hnm⟩ := H.idle_facts hw hpc
  refine ⟨hw, hh, hd, ?_, Or.inl hpc⟩
  show st.inflight = []
  cases hq : st.queue with
  | nil => have := H.pfx; rw [hq] at this; simpa using this
  | cons a l => rw [hq] at hh hnm; simp at hh; subst hh; simp at hnm

theorem Head.wake {st : St} {w : Writer} (H : InvQ st) (hw : w ∈ st.writers)
    (hpc : w.pc = .wokenW ∨ w.pc = .wokenBg ∨ w.pc = .delayed) (hd : w.done = false) : Head st w :=
  ⟨hw, (H.woken_head hw hpc hd).1, hd, (H.woken_head hw hpc hd).2, Or.inr hpc⟩

theorem step_writer {st st' : St} {l : Label} (H : InvQ st) (h : step st l = some st') (hl : isWriterLabel l = true) :
    ∃ w ∈ st.writers, WStep st w l st' := by
  cases l with
  | wEnter t c =>
    dsimp only [step] at h
    split at h
    · rename_i w hg
      obtain ⟨hw, rfl⟩ := getW_some hg
      obtain ⟨h1, h⟩ := Option.ite_none_left_eq_some.1 h
      simp only [bne_iff_ne, ne_eq, Bool.or_eq_true, not_or, Decidable.not_not, Bool.not_eq_true] at h1
      refine ⟨w, hw, ?_⟩
      by_cases h2 : (st.queue ++ [w.tid]).head? = some w.tid
      · rw [if_pos (beq_iff_eq.2 h2)] at h
        exact .enter h1.1 h1.2 (.enter H hw h1.1 h2) (headAct_inv (st := enq st w.tid) H.wnodup h)
      · rw [if_neg (fun h' => h2 (beq_iff_eq.1 h'))] at h
        obtain ⟨h3, h⟩ := Option.ite_none_left_eq_some.1 h
        obtain rfl : c = .fail := by simpa using h3
        cases h; rw [setW_eq]; exact .sleep h1.1 h1.2 h2
    · cases h
  | wWake t c =>
    dsimp only [step] at h
    split at h
    · rename_i w hg
      obtain ⟨hw, rfl⟩ := getW_some hg
      obtain ⟨h1, h⟩ := Option.ite_none_left_eq_some.1 h
      have hpc : w.pc = .wokenW ∨ w.pc = .wokenBg ∨ w.pc = .delayed := by
        simp only [bne_iff_ne, ne_eq, Bool.and_eq_true, not_and, Decidable.not_not] at h1
        by_cases a : w.pc = .wokenW
        · exact Or.inl a
        · by_cases b : w.pc = .wokenBg
          · exact Or.inr (Or.inl b)
          · exact Or.inr (Or.inr (h1 ⟨a, b⟩))
      refine ⟨w, hw, ?_⟩
      by_cases hd : w.done = true
      · rw [if_pos hd] at h
        obtain ⟨hc, h⟩ := Option.ite_none_left_eq_some.1 h
        obtain rfl : c = .fail := by simpa using hc
        cases h; rw [setW_eq]
        -- a writer that was handed its result was asleep on its own cv
        refine .ret (hpc.resolve_right fun hp => ?_) hd
        have := H.wq' hw
        rcases hp with hp | hp <;> simp [WQ, hp, hd] at this
      · have hd : w.done = false := Bool.not_eq_true _ ▸ hd
        have hH := Head.wake H hw hpc hd
        rw [if_neg (by rw [hd]; nofun), if_pos (beq_iff_eq.2 hH.head)] at h
        exact .wake (by rcases hpc with e | e | e <;> rw [e] <;> nofun) hH (headAct_inv H.wnodup h)
    · cases h
  | wCommit t sf =>
    dsimp only [step] at h
    split at h
    · rename_i w hg
      obtain ⟨hw, rfl⟩ := getW_some hg
      obtain ⟨h1, h⟩ := Option.ite_none_left_eq_some.1 h
      simp only [bne_iff_ne, ne_eq, Bool.or_eq_true, not_or, Decidable.not_not] at h1
      cases h; exact ⟨w, hw, .commit sf h1.1 h1.2⟩
    · cases h
  | _ => cases hl

theorem step_InvQ {st st' : St} {l : Label} (H : InvQ st) (h : step st l = some st') : InvQ st' := by
  cases hl : isWriterLabel l with
  | false =>
    obtain ⟨hw | hw, hq, hi, _⟩ := step_frame h hl
    · exact H.of_globals hw hq hi
    · exact H.map_bwake hw hq hi
  | true =>
    obtain ⟨w, hw, hs⟩ := step_writer H h hl
    cases hs with
    | sleep hpc _ hh =>
      exact (H.enq hw hpc).setPc rfl ⟨(H.idle_facts hw hpc).1, by simp [enq], hh⟩
    | enter hpc _ hH ho => exact (H.enq hw hpc).headOutcome hH ho
    | ret _ hd =>
      refine InvQX.setPc (w := w) (H.toX.of_globals (st' := { st with log := _ }) rfl rfl rfl) rfl ⟨?_, fun _ => rfl⟩
      rcases (H.wq' hw).pos with ⟨hm, _⟩ | ⟨_, h, _, _⟩ | ⟨h, _, _⟩
      · exact hm
      · rw [hd] at h; cases h
      · rw [hd] at h; cases h
    | wake _ hH ho => exact H.toX.headOutcome hH ho
    | commit sf hpc _ => exact H.commit hw hpc sf

end Lcdb.Conc
