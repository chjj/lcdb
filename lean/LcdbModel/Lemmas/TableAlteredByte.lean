/-
  Partial alteration of a table file (C11): a change confined to ONE byte outside the footer
  satisfies `AlteredOK`: every checksummed block region is untouched or fails its CRC
  (`single_byte_alteration_detected`); so does a change of one footer padding byte
  (`footer_padding_alteration_ok`).
-/
import LcdbModel.Lemmas.TableDefs
import LcdbModel.Lemmas.TableRead
import LcdbModel.Props.FilterProps
namespace Lcdb

theorem List.take_succ_append_cons {α : Type} (A B : List α) (z : α) {n : Nat} (h : A.length ≤ n) :
    (A ++ z :: B).take (n + 1) = A ++ z :: B.take (n - A.length) := by
  rw [List.take_append, List.take_of_length_le (Nat.le_succ_of_le h), Nat.sub_add_comm h,
    List.take_succ_cons]

theorem List.drop_succ_append_cons {α : Type} (A B : List α) (z : α) {n : Nat} (h : A.length ≤ n) :
    (A ++ z :: B).drop (n + 1) = B.drop (n - A.length) := by
  rw [List.drop_append, List.drop_of_length_le (Nat.le_succ_of_le h), List.nil_append,
    Nat.sub_add_comm h, List.drop_succ_cons]

theorem pread_single_outside (pre suf : Bytes) (x y : UInt8) (off m : Nat)
    (h : pre.length < off ∨ off + m ≤ pre.length) :
    pread (pre ++ x :: suf) off m = pread (pre ++ y :: suf) off m := by
  unfold pread
  rcases h with h | h
  · obtain ⟨k, rfl⟩ : ∃ k, off = k + 1 := ⟨off - 1, by omega⟩
    have hk : pre.length ≤ k := by omega
    rw [List.drop_succ_append_cons pre suf x hk, List.drop_succ_append_cons pre suf y hk]
  · have h1 : off ≤ pre.length := by omega
    have h2 : m ≤ (pre.drop off).length := by rw [List.length_drop]; omega
    rw [List.drop_append_of_le_length h1, List.take_append_of_le_length h2,
      List.drop_append_of_le_length h1, List.take_append_of_le_length h2]

theorem pread_single_inside (pre suf : Bytes) (z : UInt8) (off m : Nat)
    (h1 : off ≤ pre.length) (h2 : pre.length < off + m) :
    pread (pre ++ z :: suf) off m = pre.drop off ++ z :: suf.take (off + m - pre.length - 1) := by
  unfold pread
  rw [List.drop_append_of_le_length h1, List.take_append]
  rw [List.take_of_length_le (by rw [List.length_drop]; omega)]
  have : m - (pre.drop off).length = (off + m - pre.length - 1) + 1 := by
    rw [List.length_drop]; omega
  rw [this, List.take_succ_cons]

theorem blockCrcOk_single_byte (A B : Bytes) (x y : UInt8) (n : Nat) (hxy : x ≠ y)
    (hlen : (A ++ x :: B).length = n + 5) (hok : blockCrcOk (A ++ x :: B) n = some true) :
    blockCrcOk (A ++ y :: B) n = some false := by
  have hlen' : (A ++ y :: B).length = n + 5 := by
    simpa only [List.length_append, List.length_cons] using hlen
  have hAB : A.length + B.length = n + 4 := by
    simp only [List.length_append, List.length_cons] at hlen; omega
  rw [blockCrcOk_of_length _ _ hlen, Option.some.injEq, beq_iff_eq] at hok
  rw [blockCrcOk_of_length _ _ hlen', Option.some.injEq, beq_eq_false_iff_ne]
  clear hlen hlen'
  by_cases hA : A.length ≤ n
  · -- the byte is in the checksummed part: same stored crc, different body
    rw [List.take_succ_append_cons A B x hA, List.drop_succ_append_cons A B x hA] at hok
    rw [List.take_succ_append_cons A B y hA, List.drop_succ_append_cons A B y hA, hok,
      crcExtendTab_eq, crcExtendTab_eq]
    exact crc_detects_single_byte 0 A _ x y hxy
  · -- the byte is in the stored crc: same body, different stored crc
    have hA' : n + 1 ≤ A.length := Nat.lt_of_not_le hA
    have hl2 : ∀ z : UInt8, (A.drop (n + 1) ++ z :: B).length = 4 := by
      intro z
      simp only [List.length_append, List.length_cons, List.length_drop]
      omega
    have hst : ∀ z : UInt8, ((A ++ z :: B).drop (n + 1)).take 4 = A.drop (n + 1) ++ z :: B :=
      fun z => by
        rw [List.drop_append_of_le_length hA', List.take_of_length_le (Nat.le_of_eq (hl2 z))]
    rw [List.take_append_of_le_length hA', hst x] at hok
    rw [List.take_append_of_le_length hA', hst y, ← hok]
    intro heq
    have h1 := ofNat32_fixedDec_inj _ _ (hl2 y) (hl2 x) (crcUnmask_injective heq)
    exact hxy (List.cons.inj (List.append_cancel_left h1)).1.symm

theorem single_byte_blocks (pre suf : Bytes) (x y : UInt8) (hxy : x ≠ y) (h : BlockHandle)
    (hv : ∃ c, readBlock (pre ++ x :: suf) h.offset h.size true = .ok c) :
    BlockRegionOK (pre ++ x :: suf) (pre ++ y :: suf) h := by
  obtain ⟨c, hc⟩ := hv
  obtain ⟨_, hl, hcrc, _⟩ := readBlock_ok_true hc
  unfold BlockRegionOK
  simp only [blockTrailerSize]
  by_cases hin : h.offset ≤ pre.length ∧ pre.length < h.offset + (h.size + 5)
  · right
    rw [pread_single_inside pre suf x _ _ hin.1 hin.2] at hl hcrc
    rw [pread_single_inside pre suf y _ _ hin.1 hin.2]
    exact blockCrcOk_single_byte _ _ x y h.size hxy hl hcrc
  · left
    exact (pread_single_outside pre suf x y _ _ (by omega)).symm

/-- C11, single byte: changing one byte that lies before the footer gives a file in which
    every block that was checksum-valid is byte-identical or fails its checksum, and whose
    footer is unchanged — the hypothesis `AlteredOK` of `altered_table_partial` -/
theorem single_byte_alteration_detected (pre suf : Bytes) (x y : UInt8) (hxy : x ≠ y)
    (hfoot : footerSize ≤ suf.length) : AlteredOK (pre ++ x :: suf) (pre ++ y :: suf) := by
  refine ⟨?_, ?_, fun h hv => single_byte_blocks pre suf x y hxy h hv⟩
  · simp only [List.length_append, List.length_cons]
  · have hl : ∀ z : UInt8, (pre ++ z :: suf).length = pre.length + suf.length + 1 := by
      intro z; simp only [List.length_append, List.length_cons]; omega
    rw [hl x, hl y]
    refine congrArg footerDecode (pread_single_outside pre suf x y _ _ (Or.inl ?_)).symm
    omega

theorem AlteredOK.refl (file : Bytes) : AlteredOK file file :=
  ⟨rfl, rfl, fun _ _ => Or.inl rfl⟩

theorem pread_footer (body F : Bytes) (hF : F.length = footerSize) :
    pread (body ++ F) ((body ++ F).length - footerSize) footerSize = F := by
  have h1 : (body ++ F).length - footerSize = body.length := by
    rw [List.length_append, hF]; omega
  rw [h1]
  unfold pread
  rw [List.drop_left, ← hF, List.take_length]

/-- C11, footer padding: overwriting one padding byte of the footer (between the end of the
    two block handles and the magic number) also gives `AlteredOK`: the footer decodes as before
    and a block region that happened to cover that byte fails its checksum -/
theorem footer_padding_alteration_ok (body : Bytes) (f : Footer) (hf : f.InRange) (i : Nat)
    (v : UInt8) (hlo : (handleEncode f.metaindex ++ handleEncode f.index).length ≤ i)
    (hhi : i < 2 * handleMaxLen) :
    AlteredOK (body ++ footerEncode f) (body ++ (footerEncode f).set i v) := by
  have hlen : (footerEncode f).length = footerSize := footer_length f hf
  have hi : i < (footerEncode f).length := by
    rw [hlen]; simp only [footerSize, handleMaxLen] at hhi ⊢; omega
  by_cases hxv : (footerEncode f)[i] = v
  · have : (footerEncode f).set i v = footerEncode f := by
      rw [← hxv]; exact List.set_getElem_self hi
    rw [this]
    exact AlteredOK.refl _
  · have e1 : footerEncode f
        = (footerEncode f).take i ++ (footerEncode f)[i] :: (footerEncode f).drop (i + 1) := by
      rw [List.getElem_cons_drop, List.take_append_drop]
    have e2 : (footerEncode f).set i v
        = (footerEncode f).take i ++ v :: (footerEncode f).drop (i + 1) :=
      List.set_eq_take_append_cons_drop.trans (by rw [if_pos hi])
    refine ⟨?_, ?_, ?_⟩
    · simp only [List.length_append, List.length_set]
    · rw [pread_footer body _ (by rw [List.length_set]; exact hlen), pread_footer body _ hlen]
      exact footer_padding_byte_irrelevant f hf i v hlo hhi
    · intro h hv
      rw [e2, ← List.append_assoc]
      have e3 : body ++ footerEncode f
          = (body ++ (footerEncode f).take i) ++ (footerEncode f)[i] :: (footerEncode f).drop (i + 1) := by
        rw [List.append_assoc, ← e1]
      rw [e3] at hv ⊢
      exact single_byte_blocks _ _ _ v hxv h hv

end Lcdb
