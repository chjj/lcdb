/-
  `ldb_version_get_overlapping_inputs` (src/version_set.c:797) — `goiPass` / `goiLoop` /
  `getOverlappingInputs` / `goi` of `LcdbModel.Model.Policy`.  On deeper levels it is a plain filter by `rangeHits`;
  on level 0 every pass either yields the filter (no picked file sticks out of the range) or restarts with one
  bound moved to the bound of a file that hits the current range and sticks out of it, and the stated fuel
  `2 * length + 1` is always enough.
-/
import LcdbModel.Lemmas.PolicyDefs
namespace Lcdb.Policy
open Lcdb.CmpBasic Lcdb.Lsm

def stickB (c : Cmp) (b : Option Bytes) (f : FileMeta) : Bool :=
  b.any (fun ub => c.compare f.sk ub == .lt)

def stickE (c : Cmp) (e : Option Bytes) (f : FileMeta) : Bool :=
  e.any (fun ue => c.compare f.lk ue == .gt)

theorem stickB_iff {c : Cmp} {b : Option Bytes} {f : FileMeta} :
    stickB c b f = true ↔ ∃ ub, b = some ub ∧ c.compare f.sk ub = .lt := by
  cases b <;> simp [stickB]

theorem stickE_iff {c : Cmp} {e : Option Bytes} {f : FileMeta} :
    stickE c e f = true ↔ ∃ ue, e = some ue ∧ c.compare f.lk ue = .gt := by
  cases e <;> simp [stickE]

theorem stickB_false_iff {c : Cmp} {b : Option Bytes} {f : FileMeta} :
    stickB c b f = false ↔ ∀ ub, b = some ub → c.compare f.sk ub ≠ .lt := by
  cases b <;> simp [stickB]

theorem stickE_false_iff {c : Cmp} {e : Option Bytes} {f : FileMeta} :
    stickE c e f = false ↔ ∀ ue, e = some ue → c.compare f.lk ue ≠ .gt := by
  cases e <;> simp [stickE]

theorem skipB_eq (c : Cmp) (b : Option Bytes) (f : FileMeta) :
    b.any (fun ub => c.compare f.lk ub == .lt) = afterFile c b f := by
  cases b with
  | none => rfl
  | some ub =>
    simp only [Option.any, afterFile]
    rw [compare_swap c ub f.lk]; cases c.compare ub f.lk <;> rfl

theorem skipE_eq (c : Cmp) (e : Option Bytes) (f : FileMeta) :
    e.any (fun ue => c.compare f.sk ue == .gt) = beforeFile c e f := by
  cases e with
  | none => rfl
  | some ue =>
    simp only [Option.any, beforeFile]
    rw [compare_swap c ue f.sk]; cases c.compare ue f.sk <;> rfl

theorem goiPass_cons (c : Cmp) (l0 : Bool) (b e : Option Bytes) (f : FileMeta) (rest : List FileMeta) :
    goiPass c l0 b e (f :: rest) =
      if rangeHits c b e f = false then goiPass c l0 b e rest
      else if (l0 && stickB c b f) = true then .error (some f.sk, e)
      else if (l0 && stickE c e f) = true then .error (b, some f.lk)
      else match goiPass c l0 b e rest with
        | .ok r => .ok (f :: r)
        | .error x => .error x := by
  rw [goiPass, skipB_eq, skipE_eq, rangeHits]
  cases afterFile c b f <;> cases beforeFile c e f <;> rfl

theorem stickB_trans {c : Cmp} {b : Option Bytes} {f x : FileMeta} (hf : stickB c b f = true)
    (hx : stickB c (some f.sk) x = true) : stickB c b x = true := by
  obtain ⟨ub, rfl, hlt⟩ := stickB_iff.mp hf
  obtain ⟨_, hk, hx⟩ := stickB_iff.mp hx
  cases hk
  exact stickB_iff.mpr ⟨ub, rfl, compare_lt_trans c hx hlt⟩

theorem stickE_trans {c : Cmp} {e : Option Bytes} {f x : FileMeta} (hf : stickE c e f = true)
    (hx : stickE c (some f.lk) x = true) : stickE c e x = true := by
  obtain ⟨ue, rfl, hgt⟩ := stickE_iff.mp hf
  obtain ⟨_, hk, hx⟩ := stickE_iff.mp hx
  cases hk
  exact stickE_iff.mpr ⟨ue, rfl, (cmp3_compare c).gt_trans hx hgt⟩

theorem rangeHits_widenB {c : Cmp} {b e : Option Bytes} {f g : FileMeta} (hf : stickB c b f = true)
    (h : rangeHits c b e g = true) : rangeHits c (some f.sk) e g = true := by
  obtain ⟨ub, rfl, hlt⟩ := stickB_iff.mp hf
  rw [rangeHits_iff] at h ⊢
  exact ⟨fun k hk => by cases hk; exact ule_trans (ule_of_lt hlt) (h.1 ub rfl), h.2⟩

theorem rangeHits_widenE {c : Cmp} {b e : Option Bytes} {f g : FileMeta} (hf : stickE c e f = true)
    (h : rangeHits c b e g = true) : rangeHits c b (some f.lk) g = true := by
  obtain ⟨ue, rfl, hgt⟩ := stickE_iff.mp hf
  rw [rangeHits_iff] at h ⊢
  exact ⟨h.1, fun k hk => by cases hk; exact ule_trans (h.2 ue rfl) (ule_of_lt ((compare_gt_iff c f.lk ue).mp hgt))⟩

theorem goiPass_deep (c : Cmp) (b e : Option Bytes) (files : List FileMeta) :
    goiPass c false b e files = .ok (files.filter (rangeHits c b e)) := by
  induction files with
  | nil => rfl
  | cons f rest ih =>
    rw [goiPass_cons, ih, List.filter_cons]
    cases rangeHits c b e f <;> simp

theorem getOverlappingInputs_deep (c : Cmp) (files : List FileMeta) (b e : Option Bytes) :
    getOverlappingInputs c false files b e = some (files.filter (rangeHits c b e), b, e) := by
  simp only [getOverlappingInputs, goiFuel, goiLoop, goiPass_deep]

theorem goi_deep (c : Cmp) (files : List FileMeta) (b e : Option IKey) :
    goi c false files b e = some (files.filter (rangeHits c (b.map (·.1)) (e.map (·.1)))) := by
  simp only [goi, getOverlappingInputs_deep, Option.map]

theorem goiPass_spec (c : Cmp) (l0 : Bool) (b e : Option Bytes) (files : List FileMeta) :
    match goiPass c l0 b e files with
    | .ok r => r = files.filter (rangeHits c b e) ∧
        (l0 = true → ∀ f ∈ r, stickB c b f = false ∧ stickE c e f = false)
    | .error (b', e') => ∃ f ∈ files, rangeHits c b e f = true ∧
        ((stickB c b f = true ∧ b' = some f.sk ∧ e' = e) ∨ (stickE c e f = true ∧ b' = b ∧ e' = some f.lk)) := by
  induction files with
  | nil => exact ⟨rfl, fun _ f hf => nomatch hf⟩
  | cons f rest ih =>
    rw [goiPass_cons, List.filter_cons]
    by_cases hr : rangeHits c b e f = true
    · rw [if_neg (by rw [hr]; exact Bool.noConfusion), if_pos hr]
      by_cases hb : (l0 && stickB c b f) = true
      · rw [if_pos hb]
        exact ⟨f, List.mem_cons_self, hr, .inl ⟨(Bool.and_eq_true_iff.mp hb).2, rfl, rfl⟩⟩
      · rw [if_neg hb]
        by_cases he : (l0 && stickE c e f) = true
        · rw [if_pos he]
          exact ⟨f, List.mem_cons_self, hr, .inr ⟨(Bool.and_eq_true_iff.mp he).2, rfl, rfl⟩⟩
        · rw [if_neg he]
          cases hrec : goiPass c l0 b e rest with
          | ok r =>
            rw [hrec] at ih
            refine ⟨by rw [ih.1], fun hl0 => ?_⟩
            subst hl0
            exact List.forall_mem_cons.mpr ⟨⟨Bool.eq_false_iff.mpr hb, Bool.eq_false_iff.mpr he⟩, ih.2 rfl⟩
          | error x =>
            rw [hrec] at ih
            obtain ⟨g, hg, h⟩ := ih
            exact ⟨g, List.mem_cons_of_mem _ hg, h⟩
    · rw [if_pos (Bool.eq_false_iff.mpr hr), if_neg hr]
      cases hrec : goiPass c l0 b e rest with
      | ok r => rw [hrec] at ih; exact ih
      | error x =>
        rw [hrec] at ih
        obtain ⟨g, hg, h⟩ := ih
        exact ⟨g, List.mem_cons_of_mem _ hg, h⟩

theorem goiPass_ok {c : Cmp} {l0 : Bool} {b e : Option Bytes} {files r : List FileMeta}
    (h : goiPass c l0 b e files = .ok r) :
    r = files.filter (rangeHits c b e) ∧ (l0 = true → ∀ f ∈ r, stickB c b f = false ∧ stickE c e f = false) := by
  have := goiPass_spec c l0 b e files
  rwa [h] at this

theorem goiPass_error {c : Cmp} {l0 : Bool} {b e b' e' : Option Bytes} {files : List FileMeta}
    (h : goiPass c l0 b e files = .error (b', e')) :
    ∃ f ∈ files, rangeHits c b e f = true ∧
      ((stickB c b f = true ∧ b' = some f.sk ∧ e' = e) ∨ (stickE c e f = true ∧ b' = b ∧ e' = some f.lk)) := by
  have := goiPass_spec c l0 b e files
  rwa [h] at this

theorem goiPass_level0_error (c : Cmp) (b e : Option Bytes) (files : List FileMeta) (b' e' : Option Bytes)
    (h : goiPass c true b e files = .error (b', e')) :
    (e' = e ∧ ∃ ub f, b = some ub ∧ f ∈ files ∧ b' = some f.sk ∧ c.compare f.sk ub = .lt ∧
      rangeHits c b e f = true) ∨
    (b' = b ∧ ∃ ue f, e = some ue ∧ f ∈ files ∧ e' = some f.lk ∧ c.compare f.lk ue = .gt ∧
      rangeHits c b e f = true) := by
  obtain ⟨f, hf, hh, ⟨hs, hb', he'⟩ | ⟨hs, hb', he'⟩⟩ := goiPass_error h
  · obtain ⟨ub, hb, hlt⟩ := stickB_iff.mp hs
    exact .inl ⟨he', ub, f, hb, hf, hb', hlt, hh⟩
  · obtain ⟨ue, he, hgt⟩ := stickE_iff.mp hs
    exact .inr ⟨hb', ue, f, he, hf, he', hgt, hh⟩

/-- the termination measure of the restart loop -/
def goiMu (c : Cmp) (files : List FileMeta) (b e : Option Bytes) : Nat :=
  files.countP (stickB c b) + files.countP (stickE c e)

theorem goiMu_decrease {c : Cmp} {l0 : Bool} {files : List FileMeta} {b e b' e' : Option Bytes}
    (h : goiPass c l0 b e files = .error (b', e')) : goiMu c files b' e' < goiMu c files b e := by
  obtain ⟨f, hf, _, ⟨hs, rfl, rfl⟩ | ⟨hs, rfl, rfl⟩⟩ := goiPass_error h
  · exact Nat.add_lt_add_right (countP_lt_of_imp (stickB c b) (stickB c (some f.sk)) files
      (fun x _ hx => stickB_trans hs hx) hf hs (by simp [stickB, compare_refl])) _
  · exact Nat.add_lt_add_left (countP_lt_of_imp (stickE c e) (stickE c (some f.lk)) files
      (fun x _ hx => stickE_trans hs hx) hf hs (by simp [stickE, compare_refl])) _

/-- `(b, e)` is the range the restart loop starts from, `(b', e')` the one it ends with, after any number of restarts -/
def Widened (c : Cmp) (files : List FileMeta) (b e b' e' : Option Bytes) : Prop :=
  (b' = b ∨ ∃ f ∈ files, b' = some f.sk ∧ stickB c b f = true ∧ rangeHits c b' e' f = true) ∧
  (e' = e ∨ ∃ f ∈ files, e' = some f.lk ∧ stickE c e f = true ∧ rangeHits c b' e' f = true)

theorem Widened.hits {c : Cmp} {files : List FileMeta} {b e b' e' : Option Bytes}
    (w : Widened c files b e b' e') {g : FileMeta} (h : rangeHits c b e g = true) :
    rangeHits c b' e' g = true := by
  have h1 : rangeHits c b' e g = true := by
    rcases w.1 with rfl | ⟨f, _, rfl, hs, _⟩
    · exact h
    · exact rangeHits_widenB hs h
  rcases w.2 with rfl | ⟨f, _, rfl, hs, _⟩
  · exact h1
  · exact rangeHits_widenE hs h1

theorem Widened.step {c : Cmp} {l0 : Bool} {files : List FileMeta} {b e b1 e1 b' e' : Option Bytes}
    (hp : goiPass c l0 b e files = .error (b1, e1)) (w : Widened c files b1 e1 b' e') :
    Widened c files b e b' e' := by
  obtain ⟨f, hf, hh, ⟨hs, rfl, rfl⟩ | ⟨hs, rfl, rfl⟩⟩ := goiPass_error hp
  · refine ⟨.inr ?_, w.2⟩
    rcases w.1 with rfl | ⟨g, hg, rfl, hgs, hgh⟩
    · exact ⟨f, hf, rfl, hs, w.hits (rangeHits_widenB hs hh)⟩
    · exact ⟨g, hg, rfl, stickB_trans hs hgs, hgh⟩
  · refine ⟨w.1, .inr ?_⟩
    rcases w.2 with rfl | ⟨g, hg, rfl, hgs, hgh⟩
    · exact ⟨f, hf, rfl, hs, w.hits (rangeHits_widenE hs hh)⟩
    · exact ⟨g, hg, rfl, stickE_trans hs hgs, hgh⟩

theorem getOverlappingInputs_rule (c : Cmp) (l0 : Bool) (files : List FileMeta) (b e : Option Bytes) :
    ∃ r b' e', getOverlappingInputs c l0 files b e = some (r, b', e') ∧
      goiPass c l0 b' e' files = .ok r ∧ Widened c files b e b' e' := by
  have loop : ∀ (fuel : Nat) (b e : Option Bytes), goiMu c files b e < fuel →
      ∃ r b' e', goiLoop c l0 files fuel b e = some (r, b', e') ∧
        goiPass c l0 b' e' files = .ok r ∧ Widened c files b e b' e' := by
    intro fuel
    induction fuel with
    | zero => exact fun b e h => absurd h (Nat.not_lt_zero _)
    | succ n ih =>
      intro b e h
      cases hp : goiPass c l0 b e files with
      | ok r => exact ⟨r, b, e, by simp only [goiLoop, hp], hp, .inl rfl, .inl rfl⟩
      | error x =>
        obtain ⟨b1, e1⟩ := x
        obtain ⟨r, b', e', hr, hok, w⟩ := ih b1 e1 (Nat.lt_of_lt_of_le (goiMu_decrease hp) (Nat.le_of_lt_succ h))
        exact ⟨r, b', e', by simp only [goiLoop, hp, hr], hok, Widened.step hp w⟩
  apply loop
  rw [goiFuel, Nat.two_mul]
  exact Nat.lt_succ_of_le (Nat.add_le_add List.countP_le_length List.countP_le_length)

theorem goi_total (c : Cmp) (level0 : Bool) (files : List FileMeta) (b e : Option IKey) :
    ∃ r, goi c level0 files b e = some r := by
  obtain ⟨r, b', e', h, _⟩ := getOverlappingInputs_rule c level0 files (b.map (·.1)) (e.map (·.1))
  exact ⟨r, by unfold goi; rw [h]; rfl⟩

theorem getOverlappingInputs_some {c : Cmp} {l0 : Bool} {files : List FileMeta} {b e : Option Bytes}
    {r : List FileMeta} {b' e' : Option Bytes} (h : getOverlappingInputs c l0 files b e = some (r, b', e')) :
    goiPass c l0 b' e' files = .ok r ∧ Widened c files b e b' e' := by
  obtain ⟨r0, b0, e0, h0, hw⟩ := getOverlappingInputs_rule c l0 files b e
  cases h.symm.trans h0
  exact hw

theorem userRangesOverlap_false_of_inside_of_miss {c : Cmp} {b e : Option Bytes} {f g : FileMeta}
    (hb : stickB c b f = false) (he : stickE c e f = false)
    (hg : rangeHits c b e g = false) : userRangesOverlap c f g = false := by
  rw [userRangesOverlap_false_iff]
  rcases not_rangeHits hg with ⟨ub, rfl, h1⟩ | ⟨ue, rfl, h1⟩
  · -- g.lk < ub ≤ f.sk
    exact .inr ((cmp3_compare c).lt_of_lt_of_ne_gt h1 (ule_of_not_lt (stickB_false_iff.mp hb ub rfl)))
  · -- f.lk ≤ ue < g.sk
    exact .inl ((cmp3_compare c).lt_of_ne_gt_of_lt (stickE_false_iff.mp he ue rfl) h1)

/-- the files outside the result miss the final range, the files inside do not stick out of it -/
theorem getOverlappingInputs_level0_closed {c : Cmp} {files : List FileMeta} {b e : Option Bytes}
    {r : List FileMeta} {b' e' : Option Bytes}
    (h : getOverlappingInputs c true files b e = some (r, b', e')) :
    (∀ f ∈ files, rangeHits c b e f = true → f ∈ r)
    ∧ (∀ g ∈ files, g ∉ r → ∀ f ∈ r, userRangesOverlap c f g = false) := by
  obtain ⟨hp, w⟩ := getOverlappingInputs_some h
  obtain ⟨hr, hin⟩ := goiPass_ok hp
  have hmem : ∀ f ∈ files, rangeHits c b' e' f = true → f ∈ r :=
    fun f hf hh => hr ▸ List.mem_filter.mpr ⟨hf, hh⟩
  refine ⟨fun f hf hh => hmem f hf (w.hits hh), fun g hg hgr f hf => ?_⟩
  have hmiss : rangeHits c b' e' g = false := Bool.eq_false_iff.mpr (fun hh => hgr (hmem g hg hh))
  exact userRangesOverlap_false_of_inside_of_miss (hin rfl f hf).1 (hin rfl f hf).2 hmiss

theorem getOverlappingInputs_sublist {c : Cmp} {level0 : Bool} {files : List FileMeta} {b e : Option Bytes}
    {r : List FileMeta} {b' e' : Option Bytes}
    (h : getOverlappingInputs c level0 files b e = some (r, b', e')) : r.Sublist files := by
  rw [(goiPass_ok (getOverlappingInputs_some h).1).1]
  exact List.filter_sublist

theorem goi_some {c : Cmp} {level0 : Bool} {files : List FileMeta} {b e : Option IKey} {r : List FileMeta}
    (h : goi c level0 files b e = some r) :
    ∃ b' e', getOverlappingInputs c level0 files (b.map (·.1)) (e.map (·.1)) = some (r, b', e') := by
  unfold goi at h
  obtain ⟨⟨r0, b', e'⟩, hg, hr⟩ := Option.map_eq_some_iff.mp h
  exact ⟨b', e', by rw [hg, ← hr]⟩

theorem goi_sublist {c : Cmp} {level0 : Bool} {files : List FileMeta} {b e : Option IKey} {r : List FileMeta}
    (h : goi c level0 files b e = some r) : r.Sublist files := by
  obtain ⟨b', e', hg⟩ := goi_some h
  exact getOverlappingInputs_sublist hg

theorem goi_nodup (c : Cmp) (level0 : Bool) (files : List FileMeta) (b e : Option IKey) (r : List FileMeta)
    (h : goi c level0 files b e = some r) (hn : files.Nodup) : r.Nodup :=
  hn.sublist (goi_sublist h)

theorem goi_mem {c : Cmp} {level0 : Bool} {files : List FileMeta} {b e : Option IKey} {r : List FileMeta}
    (h : goi c level0 files b e = some r) : ∀ f ∈ r, f ∈ files :=
  fun _ hf => (goi_sublist h).subset hf

end Lcdb.Policy
