/-
  The background-work invariant of the concurrency model (`C09.bg_inv`).
-/
import LcdbModel.Lemmas.ConcQ

namespace Lcdb.Conc

/-- per writer: whoever sleeps on the background cv will be woken (work is scheduled and no error is recorded), and
    once `close` has begun no writer is inside an operation -/
def WB (st : St) (w : Writer) : Prop :=
  (w.pc = .asleepBg → st.bgScheduled = true ∧ st.bgError = false) ∧
  (st.shuttingDown = true → w.pc = .idle ∨ ∃ ok, w.pc = .returned ok)

/-- `bgScheduled` mirrors the worker's phase (`sched`); work that is needed is scheduled (`need`); the closer sleeps
    only while work is scheduled, and `shuttingDown` is set exactly by it (`closerB`, `closerS`); `close` is exclusive
    (`wb`, `rb`) -/
structure InvB (st : St) : Prop where
  sched : st.bgScheduled = true ↔ st.bg ≠ .parked
  need : (st.imm = true ∨ st.needsCompaction = true) → st.bgError = false → st.shuttingDown = false →
    st.bgScheduled = true
  closerB : st.closer = .asleepBg → st.bgScheduled = true
  closerS : st.closer ≠ .idle ↔ st.shuttingDown = true
  wb : ∀ w ∈ st.writers, WB st w
  rb : ∀ r ∈ st.readers, st.shuttingDown = true → r.pc = .idle ∨ ∃ s, r.pc = .returned s

theorem InvB.not_shutting {st : St} (H : InvB st) {w : Writer} (hw : w ∈ st.writers)
    (hpc : w.pc ≠ .idle) (hpc' : ∀ ok, w.pc ≠ .returned ok) : st.shuttingDown = false :=
  Bool.eq_false_iff.2 fun hs => ((H.wb w hw).2 hs).elim hpc fun ⟨ok, h⟩ => hpc' ok h

theorem InvB.not_shutting_r {st : St} (H : InvB st) {r : Reader} (hr : r ∈ st.readers)
    (hpc : r.pc ≠ .idle) (hpc' : ∀ s, r.pc ≠ .returned s) : st.shuttingDown = false :=
  Bool.eq_false_iff.2 fun hs => (H.rb r hr hs).elim hpc fun ⟨s, h⟩ => hpc' s h

theorem InvB.closer_idle {st : St} (H : InvB st) (hs : st.shuttingDown = false) : st.closer = .idle := by
  by_cases h : st.closer = .idle
  · exact h
  · have := H.closerS.1 h; rw [hs] at this; cases this

theorem InvB.parked {st : St} (H : InvB st) (hb : st.bgScheduled = false) : st.bg = .parked := by
  cases hbg : st.bg with
  | parked => rfl
  | posted => exact absurd (H.sched.2 (by simp [hbg])) (by simp [hb])
  | working => exact absurd (H.sched.2 (by simp [hbg])) (by simp [hb])

theorem InvB.of_map {st G : St} {g : Writer → Writer} (hw : G.writers = st.writers)
    (hs : G.shuttingDown = false) (hcl : G.closer = .idle)
    (sched : G.bgScheduled = true ↔ G.bg ≠ .parked)
    (need : (G.imm = true ∨ G.needsCompaction = true) → G.bgError = false → G.bgScheduled = true)
    (hpc : ∀ x ∈ st.writers, (g x).pc = .asleepBg → G.bgScheduled = true ∧ G.bgError = false) :
    InvB (mapW G g) := by
  refine ⟨sched, fun h1 h2 _ => need h1 h2, ?_, ?_, ?_, ?_⟩
  · intro h; simp [hcl] at h
  · simp [hcl, hs]
  · intro x' hx'
    simp only [mapW_writers, hw, List.mem_map] at hx'
    obtain ⟨x, hx, rfl⟩ := hx'
    exact ⟨hpc x hx, by simp [hs]⟩
  · intro r _ h; simp [hs] at h

theorem InvB.of_map_same {st G : St} {g : Writer → Writer} (H : InvB st) (hw : G.writers = st.writers)
    (hs : st.shuttingDown = false)
    (e1 : G.shuttingDown = st.shuttingDown) (e2 : G.closer = st.closer) (e3 : G.bgScheduled = st.bgScheduled)
    (e4 : G.bg = st.bg) (e5 : G.imm = st.imm) (e6 : G.needsCompaction = st.needsCompaction)
    (e7 : G.bgError = st.bgError)
    (hpc : ∀ x ∈ st.writers, (g x).pc = .asleepBg → x.pc = .asleepBg ∨ (st.bgScheduled = true ∧ st.bgError = false)) :
    InvB (mapW G g) := by
  refine InvB.of_map hw (by rw [e1, hs]) (by rw [e2]; exact H.closer_idle hs) (by rw [e3, e4]; exact H.sched)
    (by rw [e5, e6, e7, e3]; exact fun h1 h2 => H.need h1 h2 hs) ?_
  intro x hx h
  rw [e3, e7]
  rcases hpc x hx h with h' | h'
  · exact (H.wb x hx).1 h'
  · exact h'

/-- a broadcast on the background cv: afterwards nobody sleeps there, so what `WB` asks of the sleepers is not needed -/
theorem InvB.broadcast_all {st : St} (sched : st.bgScheduled = true ↔ st.bg ≠ .parked)
    (need : (st.imm = true ∨ st.needsCompaction = true) → st.bgError = false → st.shuttingDown = false →
      st.bgScheduled = true)
    (closerS : st.closer ≠ .idle ↔ st.shuttingDown = true)
    (wb : ∀ w ∈ st.writers, st.shuttingDown = true → w.pc = .idle ∨ ∃ ok, w.pc = .returned ok)
    (rb : ∀ r ∈ st.readers, st.shuttingDown = true → r.pc = .idle ∨ ∃ s, r.pc = .returned s) :
    InvB (bcast true st) := by
  refine ⟨sched, need, ?_, ?_, ?_, rb⟩
  · intro h; simp only [bcast, if_true] at h; split at h
    · cases h
    · rename_i h'; exact absurd h h'
  · simp only [bcast, if_true]; rw [← closerS]
    by_cases hc : st.closer = .asleepBg <;> simp [hc]
  · intro x' hx'
    obtain ⟨x, hx, rfl⟩ := List.mem_map.1 hx'
    refine ⟨fun h => absurd h (bwake_pc_ne x), fun h => ?_⟩
    rcases wb x hx h with h' | ⟨ok, h'⟩
    · rw [bwake_of_ne (by rw [h']; nofun)]; exact Or.inl h'
    · rw [bwake_of_ne (by rw [h']; nofun)]; exact Or.inr ⟨ok, h'⟩

theorem InvB.broadcast {st : St} (H : InvB st) : InvB (broadcastBg st) :=
  broadcastBg_eq st ▸ InvB.broadcast_all H.sched H.need H.closerS (fun w hw => (H.wb w hw).2) H.rb

theorem InvB.recordError {st : St} (H : InvB st) (i : Bool) :
    InvB (bcast true { st with imm := i, bgError := true }) :=
  InvB.broadcast_all H.sched (fun _ h => Bool.noConfusion h) H.closerS (fun w hw => (H.wb w hw).2) H.rb

theorem InvB.fail {st : St} {w : Writer} (H : InvB st) (hs : st.shuttingDown = false) : InvB (failSt st w) := by
  refine H.of_map_same rfl hs rfl rfl rfl rfl rfl rfl rfl ?_
  intro x _ h
  by_cases hx : x.pc = .asleepBg
  · exact Or.inl hx
  · exfalso
    refine wakeHead_pc_ne _ _ ?_ h
    simp only [putW]; split <;> simp [hx]

theorem InvB.setPc {st : St} {t : Tid} {w' : Writer} (H : InvB st) (hs : st.shuttingDown = false)
    (hpc : w'.pc = .asleepBg → st.bgScheduled = true ∧ st.bgError = false) : InvB (mapW st (putW t w')) := by
  refine H.of_map_same rfl hs rfl rfl rfl rfl rfl rfl rfl ?_
  intro x _ h
  simp only [putW] at h
  split at h
  · exact Or.inr (hpc h)
  · exact Or.inl h

/-- afterwards needed work is scheduled (with `on = false` nothing is done, and `need` says that it already was) -/
theorem schedIf_cases (on : Bool) (st : St) (hsch : st.bgScheduled = true ↔ st.bg ≠ .parked)
    (need : on = false → (st.imm = true ∨ st.needsCompaction = true) → st.bgError = false → st.shuttingDown = false →
      st.bgScheduled = true) :
    ((schedIf on st).bgScheduled = true ↔ (schedIf on st).bg ≠ .parked) ∧
    ((st.imm = true ∨ st.needsCompaction = true) → st.bgError = false → st.shuttingDown = false →
      (schedIf on st).bgScheduled = true) ∧
    (st.bgScheduled = true → (schedIf on st).bgScheduled = true) := by
  cases on with
  | false => exact ⟨hsch, need rfl, id⟩
  | true =>
    unfold schedIf
    cases hn : needSched st with
    | true => exact ⟨by simp, fun _ _ _ => rfl, fun _ => rfl⟩
    | false => exact ⟨hsch, needSched_false hn, id⟩

theorem InvB.of_schedIf {st : St} (on : Bool) (hsch : st.bgScheduled = true ↔ st.bg ≠ .parked)
    (need : on = false → (st.imm = true ∨ st.needsCompaction = true) → st.bgError = false → st.shuttingDown = false →
      st.bgScheduled = true)
    (closerB : st.closer = .asleepBg → st.bgScheduled = true)
    (closerS : st.closer ≠ .idle ↔ st.shuttingDown = true)
    (wb : ∀ w ∈ st.writers, WB st w)
    (rb : ∀ r ∈ st.readers, st.shuttingDown = true → r.pc = .idle ∨ ∃ s, r.pc = .returned s) :
    InvB (schedIf on st) := by
  obtain ⟨h1, h2, h3⟩ := schedIf_cases on st hsch need
  exact ⟨h1, h2, fun h => h3 (closerB h), closerS,
    fun w hw => ⟨fun h => ⟨h3 ((wb w hw).1 h).1, ((wb w hw).1 h).2⟩, (wb w hw).2⟩, rb⟩

theorem InvB.begin {st : St} {w : Writer} (H : InvB st) (hs : st.shuttingDown = false) (sw : Bool) (g : Nat) :
    InvB (mapW (beginG st sw g) (putW w.tid { w with pc := .io })) := by
  have HG : InvB (schedIf sw { st with imm := sw || st.imm }) :=
    InvB.of_schedIf sw H.sched (fun e => by subst e; exact H.need) H.closerB H.closerS H.wb H.rb
  exact InvB.setPc (st := beginG st sw g) ⟨HG.sched, HG.need, HG.closerB, HG.closerS, HG.wb, HG.rb⟩ hs (by simp)

theorem InvB.headOutcome {st st' : St} {w : Writer} {c : RoomChoice} (H : InvB st) (hs : st.shuttingDown = false)
    (h : HeadOutcome st w c st') : InvB st' := by
  cases h with
  | fail _ => exact H.fail hs
  | switchFail _ _ => exact (H.recordError true).fail hs
  | delay _ _ => exact H.setPc hs (by simp)
  | wait c hE hc =>
    refine H.setPc hs (fun _ => ⟨?_, hE⟩)
    rcases hc with ⟨_, hc⟩ | ⟨_, hc⟩
    · exact H.need (Or.inl hc) hE hs
    · exact H.need (Or.inr hc) hE hs
  | begin sw g _ _ _ _ _ => exact H.begin hs sw g

theorem InvB.of_enq {st : St} (H : InvB st) (t : Tid) : InvB (enq st t) :=
  ⟨H.sched, H.need, H.closerB, H.closerS, H.wb, H.rb⟩

theorem InvB.commit {st : St} {w : Writer} (H : InvB st) (hN : (st.writers.map (·.tid)).Nodup)
    (hs : st.shuttingDown = false) (sf : Bool) : InvB (commitAct st w sf) := by
  rw [commitAct_eq hN]
  have hcl := H.closer_idle hs
  cases sf with
  | false =>
    refine H.of_map_same rfl hs rfl rfl rfl rfl rfl rfl rfl ?_
    intro x _ h
    by_cases hx : x.pc = .asleepBg
    · exact Or.inl hx
    · exact absurd h (commitW_pc_ne st w x false (Or.inr hx))
  | true =>
    refine InvB.of_map rfl hs (by simp [commitG, hcl]) H.sched (fun _ h => Bool.noConfusion h) ?_
    intro x _ h
    exact absurd h (commitW_pc_ne st w x true (Or.inl rfl))

theorem InvB.of_readers {st : St} (H : InvB st) (hs : st.shuttingDown = false) (rs : List Reader)
    (lg : List (Tid × Bool × Nat)) : InvB { st with readers := rs, log := lg } :=
  ⟨H.sched, H.need, H.closerB, H.closerS, H.wb, fun _ _ h => Bool.noConfusion (h.symm.trans hs)⟩

theorem step_InvB {st st' : St} {l : Label} (HQ : InvQ st) (H : InvB st) (h : step st l = some st') : InvB st' := by
  have hN := HQ.wnodup
  cases hl : isWriterLabel l with
  | true =>
    obtain ⟨w, hw, hs⟩ := step_writer HQ h hl
    have hns : w.pc ≠ .idle → (∀ ok, w.pc ≠ .returned ok) → st.shuttingDown = false := H.not_shutting hw
    cases hs with
    | sleep _ hs _ => exact (H.of_enq _).setPc hs (by simp)
    | enter _ hs _ ho => exact (H.of_enq _).headOutcome hs ho
    | ret hpc _ =>
      have hs := hns (by rw [hpc]; nofun) (by rw [hpc]; nofun)
      exact (H.of_readers hs st.readers _).setPc hs (by simp)
    | wake hni hH ho =>
      refine H.headOutcome (hns hni fun ok e => ?_) ho
      rcases hH.pc with e' | e' | e' | e' <;> rw [e'] at e <;> cases e
    | commit sf hpc _ => exact H.commit hN (hns (by rw [hpc]; nofun) (by rw [hpc]; nofun)) sf
  | false =>
  cases l with
  | rCapture t =>
    obtain ⟨r, _, _, hs, rfl⟩ := step_rCapture h
    exact H.of_readers hs _ _
  | rRead t =>
    obtain ⟨r, s, hg, hpc, rfl⟩ := step_rRead h
    have hs : st.shuttingDown = false := H.not_shutting_r (getR_some hg).1 (by simp [hpc]) (by simp [hpc])
    exact H.of_readers hs _ _
  | rRelease t seek =>
    obtain ⟨r, s, hg, hpc, rfl⟩ := step_rRelease h
    have hs : st.shuttingDown = false := H.not_shutting_r (getR_some hg).1 (by simp [hpc]) (by simp [hpc])
    exact (InvB.of_schedIf (st := { st with needsCompaction := seek || st.needsCompaction }) seek H.sched
      (fun e => by subst e; exact H.need) H.closerB H.closerS H.wb H.rb).of_readers hs _ _
  | bgStart =>
    obtain ⟨hb, rfl⟩ := step_bgStart h
    refine ⟨?_, H.need, H.closerB, H.closerS, H.wb, H.rb⟩
    have := H.sched; simp [hb] at this; simp [this]
  | bgMid fd bc er =>
    obtain ⟨hb, hE, hfd, rfl⟩ := step_bgMid h
    have hsch : st.bgScheduled = true := H.sched.2 (by simp [hb])
    cases er with
    | true =>
      simp only [Bool.or_true]
      exact H.recordError _
    | false =>
      have H1 : InvB { st with imm := if fd then false else st.imm, bgError := if false then true else st.bgError } := by
        refine ⟨H.sched, fun _ _ _ => hsch, H.closerB, H.closerS, H.wb, H.rb⟩
      cases bc with
      | false => exact H1
      | true => exact InvB.broadcast_all H1.sched H1.need H1.closerS (fun w hw => (H1.wb w hw).2) H1.rb
  | bgFinish sn =>
    obtain ⟨hb, rfl⟩ := step_bgFinish h
    obtain ⟨h1, h2, _⟩ :=
      schedIf_cases true { st with bgScheduled := false, bg := .parked, needsCompaction := sn } (by simp) nofun
    exact InvB.broadcast_all h1 h2 H.closerS (fun w hw => (H.wb w hw).2) H.rb
  | close =>
    obtain ⟨hc, hws, hrs, rfl⟩ := step_close h
    refine ⟨H.sched, ?_, ?_, ?_, ?_, ?_⟩
    · intro _ _ h; simp at h
    · intro h; simp only at h; split at h
      · assumption
      · cases h
    · simp only; split <;> simp
    · intro w hw
      exact ⟨(H.wb w hw).1, fun _ => hws w hw⟩
    · intro r hr _; exact hrs r hr
  | closeWake =>
    obtain ⟨hc, rfl⟩ := step_closeWake h
    have hs : st.shuttingDown = true := H.closerS.1 (by simp [hc])
    refine ⟨H.sched, H.need, ?_, ?_, H.wb, H.rb⟩
    · intro h; simp only at h; split at h
      · assumption
      · cases h
    · simp only [hs, iff_true]; split <;> simp
  | _ => cases hl

end Lcdb.Conc
