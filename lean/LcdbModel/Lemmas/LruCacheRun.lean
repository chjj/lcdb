/-
  One step of a shard of the LRU cache under the invariant (`step_inv`: no fault on well-formed use, and what every
  operation keeps), how `run` and `wf` decompose along a script, and shutdown (release every handle, then `lru_shard_clear`).
-/
import LcdbModel.Lemmas.LruCacheOps
namespace Lcdb.LruCache

def Op.ok (s : Shard) : Op → Prop
  | .release id => id ∈ s.held
  | _ => True

/-- the n-th insert creates entry id n -/
def insertsOf (ops : List Op) : List (Bytes × Nat × Nat) :=
  ops.filterMap fun | .insert k v c => some (k, v, c) | _ => none

theorem insertsOf_append (a b : List Op) : insertsOf (a ++ b) = insertsOf a ++ insertsOf b :=
  List.filterMap_append

/-- the table a step aims at (the eviction loop of `insert`, and `prune`, may forget more) -/
def tableStep (s : Shard) : Op → Bytes → Option Nat
  | .insert k _ _ => if 0 < s.capacity then tableSet s.table k (some s.entries.length) else s.table
  | .erase k => tableSet s.table k none
  | _ => s.table

theorem step_inv (s : Shard) (op : Op) (hi : Inv s) (hok : op.ok s) :
    ∃ s' o, step s op = some (s', o) ∧ Inv s' ∧ s'.capacity = s.capacity ∧
      s'.entries.map kvc = s.entries.map kvc ++ insertsOf [op] ∧ Forgets (tableStep s op) s'.table := by
  have fr : ∀ {s' : Shard}, Frame s s' → s'.capacity = s.capacity ∧ s'.entries.map kvc = s.entries.map kvc ++ insertsOf [] :=
    fun f => ⟨f.cap, (frame_kvc f).trans (List.append_nil _).symm⟩
  cases op with
  | insert k v c =>
    obtain ⟨s', h, hi', sp⟩ := insert_inv k v c hi
    exact ⟨s', .handle (some s.entries.length), by simp [step, h], hi', sp.cap, sp.kvc, sp.table⟩
  | lookup k =>
    obtain ⟨s', h, hi', sp⟩ := lookup_inv k hi
    exact ⟨s', .handle (s.table k), by simp [step, h], hi', (fr sp.frame).1, (fr sp.frame).2, sp.table ▸ .refl _⟩
  | release id =>
    obtain ⟨s', h, hi', sp⟩ := release_inv id hi hok
    exact ⟨s', .unit, by simp [step, h], hi', (fr sp.frame).1, (fr sp.frame).2, sp.table ▸ .refl _⟩
  | erase k =>
    obtain ⟨s', h, hi', sp⟩ := erase_inv k hi
    exact ⟨s', .unit, by simp [step, h], hi', (fr sp.frame).1, (fr sp.frame).2, sp.table ▸ .refl _⟩
  | prune =>
    obtain ⟨s', h, hi', sp, -⟩ := prune_inv hi
    exact ⟨s', .unit, by simp [step, h], hi', (fr sp.frame).1, (fr sp.frame).2, sp.table⟩
  | total => exact ⟨s, .total s.usage, rfl, hi, rfl, (List.append_nil _).symm, .refl _⟩

theorem wf_cons (s : Shard) (op : Op) (ops : List Op) (h : wf s (op :: ops) = true) :
    op.ok s ∧ ∀ s' o, step s op = some (s', o) → wf s' ops = true := by
  simp only [wf, Bool.and_eq_true] at h
  refine ⟨?_, ?_⟩
  · cases op <;> simp [Op.ok] <;> simpa using h.1
  · intro s' o hs; have := h.2; rw [hs] at this; exact this

theorem run_cons {s s'' : Shard} {op : Op} {ops : List Op} {outs : List Out} (h : run s (op :: ops) = some (s'', outs)) :
    ∃ s' o os, step s op = some (s', o) ∧ run s' ops = some (s'', os) ∧ outs = o :: os := by
  simp only [run] at h
  split at h
  · cases h
  · rename_i s' o hs
    simp only [Option.map_eq_some_iff, Prod.exists, Prod.mk.injEq] at h
    obtain ⟨s2, os, hr, rfl, rfl⟩ := h
    exact ⟨s', o, os, hs, hr, rfl⟩

theorem run_append {s s1 s2 : Shard} {a b : List Op} {o1 o2 : List Out}
    (h1 : run s a = some (s1, o1)) (h2 : run s1 b = some (s2, o2)) : run s (a ++ b) = some (s2, o1 ++ o2) := by
  induction a generalizing s o1 with
  | nil => simp [run] at h1; obtain ⟨rfl, rfl⟩ := h1; simpa using h2
  | cons op a ih =>
    obtain ⟨s', o, os, hs, hr, rfl⟩ := run_cons h1
    simp [run, hs, ih hr]

theorem run_some_wf {s : Shard} {ops : List Op} {r : Shard × List Out} (h : run s ops = some r) : wf s ops = true := by
  induction ops generalizing s r with
  | nil => rfl
  | cons op ops ih =>
    obtain ⟨s', o, os, hs, hr, -⟩ := run_cons h
    simp only [wf, hs, Bool.and_eq_true]
    refine ⟨?_, ih hr⟩
    cases op with
    | release id =>
      simp only [step, release] at hs
      by_cases hm : id ∈ s.held
      · simpa using hm
      · simp [hm] at hs
    | _ => rfl

theorem releaseAll_inv (l : List Nat) (s : Shard) (hi : Inv s) (hp : l.Perm s.held) :
    ∃ s', releaseAll l s = some s' ∧ Inv s' ∧ s'.held = [] ∧ Frame s s' := by
  induction l generalizing s with
  | nil => exact ⟨s, rfl, hi, List.Perm.eq_nil hp.symm, .refl⟩
  | cons id rest ih =>
    obtain ⟨s1, h1, hi1, sp⟩ := release_inv id hi (hp.subset (by simp))
    have hp1 : rest.Perm s1.held := by
      rw [sp.held]; have := hp.erase id; simpa using this
    obtain ⟨s2, h2, hi2, hh, hf⟩ := ih s1 hi1 hp1
    exact ⟨s2, by simp [releaseAll, h1, h2], hi2, hh, sp.frame.trans hf⟩

theorem clearGo_spec (l : List Nat) (s : Shard) (hnd : l.Nodup)
    (h1 : ∀ id, id ∈ l → ∃ e : CEntry, s.entries[id]? = some e ∧ e.refs = 1) :
    ∃ s', clearGo l s = some s' ∧ s'.deleted = s.deleted ++ l ∧ s'.held = s.held ∧ Frame s s' := by
  induction l generalizing s with
  | nil => exact ⟨s, rfl, by simp, rfl, .refl⟩
  | cons id rest ih =>
    obtain ⟨e, hx, hr⟩ := h1 id (by simp)
    have hlt := getElem?_lt hx
    obtain ⟨hnotin, hnd'⟩ := List.nodup_cons.1 hnd
    let s1 : Shard := { s with entries := s.entries.set id { e with inCache := false, refs := 0 },
                               deleted := s.deleted ++ [id] }
    have hstep : unref { s with entries := s.entries.set id { e with inCache := false } } id = some s1 := by
      simp [unref, hlt, hr, s1]
    have h1' : ∀ j, j ∈ rest → ∃ e : CEntry, s1.entries[j]? = some e ∧ e.refs = 1 := by
      intro j hj
      obtain ⟨e', hx', hr'⟩ := h1 j (List.mem_cons_of_mem _ hj)
      have : id ≠ j := fun h => hnotin (h ▸ hj)
      exact ⟨e', (List.getElem?_set_ne this).trans hx', hr'⟩
    obtain ⟨s2, he, hd, hh, hf⟩ := ih s1 hnd' h1'
    exact ⟨s2, by simp [clearGo, hx, hstep, he], by rw [hd]; simp [s1], hh,
      (Frame.set (s' := s1) hx rfl rfl rfl rfl rfl).trans hf⟩

/-- after `releaseAll` nothing is held, so `refs` is 1 for the entries in the cache and 0 for the others: `in_use` is empty,
    every entry is either deleted already or on the LRU list, and `clear` deletes that list.  Both lists are duplicate-free
    and disjoint, hence the permutation of all ids. -/
theorem shutdown_spec (s : Shard) (hi : Inv s) :
    ∃ s', shutdown s = some s' ∧ s'.held = [] ∧ Frame s s' ∧
      s'.deleted.Perm (List.range s.entries.length) := by
  obtain ⟨s1, h1, hi1, hh, hf⟩ := releaseAll_inv s.held s hi (List.Perm.refl _)
  have hrefs : ∀ (id : Nat) (e : CEntry), s1.entries[id]? = some e → e.refs = if e.inCache then 1 else 0 := by
    intro id e he; have := hi1.refs id e he; rw [hh] at this; simpa using this
  have huse : s1.inUse = [] := by
    apply List.eq_nil_iff_forall_not_mem.2
    intro id h
    obtain ⟨e, he, hc, hr⟩ := (hi1.useIff id).1 h
    have := hrefs id e he; simp [hc] at this; omega
  obtain ⟨s2, h2, hd, hh2, hf2⟩ := clearGo_spec s1.lru s1 hi1.ndLru (by
    intro id h; obtain ⟨e, he, _, hr⟩ := (hi1.lruIff id).1 h; exact ⟨e, he, hr⟩)
  refine ⟨{ s2 with lru := [] }, by simp [shutdown, h1, clear, huse, h2], hh2.trans hh, ?_, ?_⟩
  · exact ⟨(hf.trans hf2).cap, (hf.trans hf2).len, (hf.trans hf2).kv⟩
  · show s2.deleted.Perm _
    rw [hd]
    have hlen : s1.entries.length = s.entries.length := hf.len
    apply (List.perm_ext_iff_of_nodup ?_ List.nodup_range).2
    · intro id
      simp only [List.mem_append, List.mem_range, hi1.delIff id, hi1.lruIff id, ← hlen]
      constructor
      · rintro (⟨e, he, _⟩ | ⟨e, he, _⟩) <;> exact getElem?_lt he
      · intro hlt
        obtain ⟨e, he⟩ := exists_getElem? hlt
        have := hrefs id e he
        cases hc : e.inCache
        · left; exact ⟨e, he, by simpa [hc] using this⟩
        · right; exact ⟨e, he, hc, by simpa [hc] using this⟩
    · rw [List.nodup_append]
      refine ⟨hi1.ndDel, hi1.ndLru, ?_⟩
      intro a ha b hb hab; subst hab
      obtain ⟨e, he, hr⟩ := (hi1.delIff a).1 ha
      have := (mem_iff_at hi1.lruIff he).1 hb; omega

end Lcdb.LruCache
