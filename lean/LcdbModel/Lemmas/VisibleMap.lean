/-
  The specification-side sorted map of live keys (`userKeys`, `visibleMap` of
  `LcdbModel.Model.DbIter`): it lists, for the user keys in strictly increasing order, what `view`
  answers; it is determined by its members and, without ties in (user key, sequence), does not
  depend on the order of the entries.
-/
import LcdbModel.Model.DbIter
import LcdbModel.Lemmas.Lsm
namespace Lcdb.VisMap
open Lcdb Lcdb.Lsm Lcdb.CmpBasic

/-- the step of the fold in `userKeys`: a key equal to the head of what is kept is dropped -/
def dedupStep (c : Cmp) (k : Bytes) (acc : List Bytes) : List Bytes :=
  match acc with
  | [] => [k]
  | k' :: _ => if c.compare k k' == .eq then acc else k :: acc

theorem userKeys_eq (c : Cmp) (es : List Entry) :
    userKeys c es =
      ((es.map (·.ukey)).mergeSort (fun a b => c.compare a b != .gt)).foldr (dedupStep c) [] := rfl

theorem foldr_dedupStep_spec (c : Cmp) (l : List Bytes) :
    (∀ x, x ∈ l.foldr (dedupStep c) [] ↔ x ∈ l) ∧
      (l.Pairwise (fun a b => c.compare a b ≠ .gt) →
        (l.foldr (dedupStep c) []).Pairwise (fun a b => c.compare a b = .lt)) := by
  induction l with
  | nil => exact ⟨fun _ => Iff.rfl, fun _ => .nil⟩
  | cons k l ih =>
    rw [List.foldr_cons]
    generalize l.foldr (dedupStep c) [] = acc at ih ⊢
    obtain ⟨hm, hs⟩ := ih
    -- members of `l` and the bound of `k` over `l`, said of `acc`
    simp only [List.pairwise_cons, List.mem_cons, ← hm]
    unfold dedupStep
    cases acc with
    | nil =>
      exact ⟨fun x => by simp only [List.mem_singleton, List.not_mem_nil, or_false],
        fun _ => List.pairwise_singleton _ _⟩
    | cons k' t =>
      simp only
      split
      · rename_i h
        rw [(compare_eq_iff c k k').mp (beq_iff_eq.mp h)]
        exact ⟨fun x => by rw [List.mem_cons, or_self_left], fun hp => hs hp.2⟩
      · rename_i hne
        refine ⟨fun x => List.mem_cons, fun hp => ?_⟩
        have hkk' : c.compare k k' = .lt := by
          cases h : c.compare k k' with
          | lt => rfl
          | eq => rw [h] at hne; exact absurd rfl hne
          | gt => exact absurd h (hp.1 k' List.mem_cons_self)
        refine List.pairwise_cons.mpr ⟨fun x hx => ?_, hs hp.2⟩
        rcases List.mem_cons.mp hx with rfl | hx
        · exact hkk'
        · exact compare_lt_trans c hkk' (List.rel_of_pairwise_cons (hs hp.2) hx)

theorem bne_gt_trans (c : Cmp) (a b d : Bytes) :
    (c.compare a b != .gt) = true → (c.compare b d != .gt) = true → (c.compare a d != .gt) = true := by
  simp only [bne_iff_ne]
  exact (cmp3_compare c).ne_gt_trans

theorem bne_gt_total (c : Cmp) (a b : Bytes) :
    ((c.compare a b != .gt) || (c.compare b a != .gt)) = true := by
  rw [compare_swap c a b]
  cases c.compare a b <;> rfl

theorem userKeys_sorted (c : Cmp) (es : List Entry) :
    (userKeys c es).Pairwise (fun a b => c.compare a b = .lt) := by
  rw [userKeys_eq]
  apply (foldr_dedupStep_spec c _).2
  have := List.pairwise_mergeSort (le := fun a b => c.compare a b != .gt)
    (bne_gt_trans c) (bne_gt_total c) (es.map (·.ukey))
  exact this.imp (fun h => by simpa using h)

theorem mem_userKeys (c : Cmp) (es : List Entry) (k : Bytes) :
    k ∈ userKeys c es ↔ ∃ e ∈ es, e.ukey = k := by
  rw [userKeys_eq, (foldr_dedupStep_spec c _).1, List.mem_mergeSort, List.mem_map]

theorem visibleMap_eq_view (c : Cmp) (es : List Entry) (s : Nat) :
    visibleMap c es s = (userKeys c es).filterMap (fun k => (view c es k s).map (k, ·)) := by
  unfold visibleMap view
  congr 1
  funext k
  cases h : newestVisible c es k s with
  | none => rfl
  | some e =>
    simp only [(newestVisible_spec h).2.1]
    split <;> rfl

theorem visibleMap_sorted (c : Cmp) (es : List Entry) (s : Nat) :
    (visibleMap c es s).Pairwise (fun a b => c.compare a.1 b.1 = .lt) := by
  rw [visibleMap_eq_view]
  refine List.Pairwise.filterMap _ ?_ (userKeys_sorted c es)
  intro a a' haa' b hb b' hb'
  obtain ⟨_, _, rfl⟩ := Option.map_eq_some_iff.mp hb
  obtain ⟨_, _, rfl⟩ := Option.map_eq_some_iff.mp hb'
  exact haa'

theorem mem_visibleMap_iff_view (c : Cmp) (es : List Entry) (s : Nat) (k : Bytes) (v : String) :
    (k, v) ∈ visibleMap c es s ↔ view c es k s = some v := by
  rw [visibleMap_eq_view, List.mem_filterMap]
  constructor
  · rintro ⟨k0, _, h⟩
    obtain ⟨v0, hv, he⟩ := Option.map_eq_some_iff.mp h
    cases he
    exact hv
  · intro h
    obtain ⟨e, he, _⟩ := view_eq_some.mp h
    obtain ⟨hm, hk, _⟩ := newestVisible_spec he
    exact ⟨k, (mem_userKeys c es k).mpr ⟨e, hm, hk⟩, by rw [h]; rfl⟩

theorem mem_visibleMap (c : Cmp) (es : List Entry) (s : Nat) (k : Bytes) (v : String) :
    (k, v) ∈ visibleMap c es s ↔ ∃ e, newestVisible c es k s = some e ∧ e.kind = 1 ∧ e.val = v :=
  (mem_visibleMap_iff_view c es s k v).trans view_eq_some

theorem visibleMap_key_mem (c : Cmp) (es : List Entry) (s : Nat) (k : Bytes) (v : String)
    (h : (k, v) ∈ visibleMap c es s) : ∃ e ∈ es, e.ukey = k ∧ e.seq ≤ s ∧ e.kind = 1 ∧ e.val = v := by
  obtain ⟨e, h1, h2, h3⟩ := (mem_visibleMap c es s k v).mp h
  obtain ⟨hm, hk, hs, _⟩ := newestVisible_spec h1
  exact ⟨e, hm, hk, hs, h2, h3⟩

theorem sorted_ext {c : Cmp} {m₁ m₂ : List (Bytes × String)}
    (h₁ : m₁.Pairwise (fun a b => c.compare a.1 b.1 = .lt))
    (h₂ : m₂.Pairwise (fun a b => c.compare a.1 b.1 = .lt))
    (h : ∀ kv, kv ∈ m₁ ↔ kv ∈ m₂) : m₁ = m₂ :=
  eq_of_pairwise_of_mem_iff (cmp3_compare c).lt_asymm h₁ h₂ h

theorem view_perm (c : Cmp) {es es' : List Entry} (hp : es.Perm es')
    (hd : ∀ x ∈ es, ∀ y ∈ es, x.ukey = y.ukey → x.seq = y.seq → x = y) (k : Bytes) (s : Nat) :
    view c es k s = view c es' k s :=
  (view_congr hd fun _ _ _ => hp.mem_iff.symm).symm

theorem visibleMap_congr {c : Cmp} {es es' : List Entry} {s : Nat}
    (h : ∀ k, view c es k s = view c es' k s) : visibleMap c es s = visibleMap c es' s := by
  apply sorted_ext (visibleMap_sorted c es s) (visibleMap_sorted c es' s)
  rintro ⟨k, v⟩
  rw [mem_visibleMap_iff_view, mem_visibleMap_iff_view, h k]

theorem visibleMap_perm (c : Cmp) {es es' : List Entry} (hp : es.Perm es') (hd : KeyNoTies es)
    (s : Nat) :
    visibleMap c es s = visibleMap c es' s :=
  visibleMap_congr fun k => view_perm c hp hd k s

end Lcdb.VisMap
