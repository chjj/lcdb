/-
  Facts about `List` that several layers use and core does not state in this form, and at the end the positions
  of a cursor over a list as cuts of it, with its two directions as one parameter (`Way`).
-/
namespace Lcdb

theorem exists_getElem? {α : Type _} {l : List α} {i : Nat} (h : i < l.length) : ∃ a, l[i]? = some a :=
  ⟨l[i], List.getElem?_eq_getElem h⟩

theorem getElem?_lt {α : Type _} {l : List α} {i : Nat} {a : α} (h : l[i]? = some a) : i < l.length :=
  (List.getElem?_eq_some_iff.1 h).1

theorem find?_congr_mem {α : Type _} {p q : α → Bool} {l : List α} (h : ∀ x ∈ l, p x = q x) :
    l.find? p = l.find? q := by
  rw [← List.head?_filter, List.filter_congr h, List.head?_filter]

theorem find?_append_of_all_false {α : Type _} {p : α → Bool} {a b : List α} (h : ∀ x ∈ a, p x = false) :
    (a ++ b).find? p = b.find? p := by
  rw [List.find?_append, List.find?_eq_none.mpr (fun x hx => by simp [h x hx]), Option.none_or]

theorem findIdx?_congr_mem {α : Type _} {p q : α → Bool} {l : List α} (h : ∀ x ∈ l, p x = q x) :
    l.findIdx? p = l.findIdx? q := by
  have e (p : α → Bool) : l.findIdx? p = (l.map p).findIdx? id := (List.findIdx?_map (p := id)).symm
  rw [e p, e q, List.map_congr_left h]

theorem findIdx?_map_some {α β : Type _} {f : α → β} {p : β → Bool} {l : List α} {i : Nat}
    (h : (l.map f).findIdx? p = some i) :
    (∀ a, l[i]? = some a → p (f a) = true) ∧
      ∀ i' a, i' < i → l[i']? = some a → p (f a) = false := by
  obtain ⟨_, hpi, hbefore⟩ := List.findIdx?_eq_some_iff_getElem.mp h
  refine ⟨fun a ha => ?_, fun i' a hi' ha => ?_⟩
  · obtain ⟨_, rfl⟩ := List.getElem?_eq_some_iff.mp ha
    rwa [List.getElem_map] at hpi
  · obtain ⟨hl, rfl⟩ := List.getElem?_eq_some_iff.mp ha
    have := hbefore i' hi'
    rwa [List.getElem_map, Bool.not_eq_true] at this

theorem filterMap_congr' {α β : Type _} {f g : α → Option β} {l : List α} (h : ∀ a ∈ l, f a = g a) :
    l.filterMap f = l.filterMap g := by
  have e (f : α → Option β) : l.filterMap f = (l.map f).filterMap id := (List.filterMap_map (g := id)).symm
  rw [e f, e g, List.map_congr_left h]

theorem findSome?_congr' {α β} {f g : α → Option β} {l : List α} (h : ∀ x ∈ l, f x = g x) :
    l.findSome? f = l.findSome? g := by
  rw [← List.head?_filterMap, filterMap_congr' h, List.head?_filterMap]

theorem findSome?_filterMap {α β γ} (f : α → Option β) (g : β → Option γ) (l : List α) :
    (l.filterMap f).findSome? g = l.findSome? (fun a => (f a).bind g) := by
  rw [← List.head?_filterMap, List.filterMap_filterMap, List.head?_filterMap]

theorem findSome?_filter_of_none {α β} (g : α → Option β) (p : α → Bool) (l : List α)
    (h : ∀ x ∈ l, p x = false → g x = none) : (l.filter p).findSome? g = l.findSome? g := by
  rw [← List.filterMap_eq_filter, findSome?_filterMap]
  refine findSome?_congr' fun x hx => ?_
  cases hp : p x with
  | true => simp [Option.guard, hp]
  | false => simp [Option.guard, hp, h x hx hp]

/-- `p` says where `f` answers: a `findSome?` is then a `find?` followed by `f`, and core's `find?` lemmas apply -/
theorem findSome?_eq_find?_bind {α β} {f : α → Option β} {p : α → Bool} {l : List α}
    (h : ∀ x ∈ l, (f x).isSome = p x) : l.findSome? f = (l.find? p).bind f := by
  induction l with
  | nil => rfl
  | cons a l ih =>
    rw [List.findSome?_cons, List.find?_cons, ← h a List.mem_cons_self]
    cases hfa : f a with
    | none => exact ih fun x hx => h x (List.mem_cons_of_mem _ hx)
    | some b => exact hfa.symm

theorem sum_map_le {α : Type _} (l : List α) (f f' : α → Nat) (h : ∀ x ∈ l, f' x ≤ f x) :
    (l.map f').sum ≤ (l.map f).sum := by
  induction l with
  | nil => exact Nat.le_refl _
  | cons a t ih =>
    simp only [List.map_cons, List.sum_cons]
    exact Nat.add_le_add (h a List.mem_cons_self) (ih fun x hx => h x (List.mem_cons_of_mem _ hx))

theorem sum_map_lt {α : Type} (l : List α) (f f' : α → Nat) (h : ∀ x ∈ l, f' x ≤ f x) {a : α} (ha : a ∈ l) {d : Nat}
    (hd : f' a + d ≤ f a) : (l.map f').sum + d ≤ (l.map f).sum := by
  obtain ⟨s, t, rfl⟩ := List.append_of_mem ha
  have hs := sum_map_le s f f' fun x hx => h x (List.mem_append_left _ hx)
  have ht := sum_map_le t f f' fun x hx => h x (List.mem_append_right _ (List.mem_cons_of_mem _ hx))
  simp only [List.map_append, List.map_cons, List.sum_append_nat, List.sum_cons]
  omega

theorem sum_map_le_add {α : Type} (l : List α) (f f' : α → Nat) (h : ∀ x ∈ l, f' x ≤ f x + 1) :
    (l.map f').sum ≤ (l.map f).sum + l.length := by
  induction l with
  | nil => simp
  | cons a l ih =>
    simp only [List.map_cons, List.sum_cons, List.length_cons]
    have := h a (by simp)
    have := ih (fun x hx => h x (by simp [hx]))
    omega

theorem mem_le_sum_map {α : Type _} (f : α → Nat) (l : List α) (x : α) (h : x ∈ l) : f x ≤ (l.map f).sum := by
  obtain ⟨s, t, rfl⟩ := List.append_of_mem h
  rw [List.map_append, List.sum_append_nat, List.map_cons, List.sum_cons]
  omega

theorem sum_map_flatten {α : Type _} (f : α → Nat) (ll : List (List α)) :
    (ll.flatten.map f).sum = (ll.map fun l => (l.map f).sum).sum := by
  induction ll with
  | nil => rfl
  | cons l ll ih => simp only [List.flatten_cons, List.map_append, List.sum_append, ih, List.map_cons, List.sum_cons]

theorem foldl_max_bounds {α : Type _} (g : α → Nat) (l : List α) (n : Nat) :
    n ≤ l.foldl (fun m x => max m (g x)) n ∧ ∀ x ∈ l, g x ≤ l.foldl (fun m x => max m (g x)) n := by
  have e : l.foldl (fun m x => max m (g x)) n = (l.map g).foldl max n := List.foldl_map.symm
  have h := (List.max?_eq_some_iff.mp (List.max?_cons' (x := n) (xs := l.map g))).2
  rw [e]
  exact ⟨h n List.mem_cons_self, fun x hx => h _ (List.mem_cons_of_mem _ (List.mem_map_of_mem hx))⟩

theorem foldl_min_least (l : List Nat) (a : Nat) : l.foldl min a ∈ a :: l ∧ ∀ x ∈ a :: l, l.foldl min a ≤ x :=
  List.min?_eq_some_iff.mp List.min?_cons'

/-- the shape of the ordered insertions of the model (`runInsert`, `mrunInsert`, `insertSorted`): element first, folded from the left -/
theorem foldl_insert_perm {α : Type _} {ins : α → List α → List α} (h : ∀ a l, (ins a l).Perm (a :: l))
    (es acc : List α) : (es.foldl (fun r e => ins e r) acc).Perm (acc ++ es) := by
  induction es generalizing acc with
  | nil => exact (List.append_nil acc).symm ▸ .refl acc
  | cons e es ih => exact (ih _).trans (((h e acc).append_right es).trans List.perm_middle.symm)

theorem flatten_map_flatMap {α β} (g : α → List β) (L : List (List α)) :
    (L.map (fun fs => fs.flatMap g)).flatten = L.flatten.flatMap g := by
  induction L with
  | nil => rfl
  | cons a L ih => simp [ih]

theorem flatten_take_le {α : Type _} (fs : List (List α)) (i : Nat) :
    (fs.take i).flatten.length ≤ fs.flatten.length := by
  conv => rhs; rw [← List.take_append_drop i fs, List.flatten_append, List.length_append]
  omega

theorem flatten_take_succ {α : Type _} (fs : List (List α)) (i : Nat) (hi : i < fs.length) :
    (fs.take (i + 1)).flatten = (fs.take i).flatten ++ fs[i] := by
  rw [List.take_add_one, List.getElem?_eq_getElem hi, Option.toList_some, List.flatten_append,
    List.flatten_singleton]

theorem pairwise_of_neighbours {α : Type _} {R : α → α → Prop} (htr : ∀ a b c, R a b → R b c → R a c) :
    ∀ {l : List α}, (∀ i a b, l[i]? = some a → l[i + 1]? = some b → R a b) → l.Pairwise R
  | [], _ => .nil
  | [_], _ => List.pairwise_singleton _ _
  | a :: b :: rest, h => by
    have ih := pairwise_of_neighbours htr (l := b :: rest) fun i x y hx hy => h (i + 1) x y hx hy
    have hab := h 0 a b rfl rfl
    refine List.pairwise_cons.mpr ⟨fun x hx => ?_, ih⟩
    rcases List.mem_cons.mp hx with rfl | hx
    · exact hab
    · exact htr _ _ _ hab ((List.pairwise_cons.mp ih).1 x hx)

theorem pairwise_head {α} {R : α → α → Prop} {r : List α} {h : α} (hp : r.Pairwise R)
    (hh : r.head? = some h) : ∀ e ∈ r, e = h ∨ R h e := by
  cases r with
  | nil => cases hh
  | cons x xs =>
    cases hh
    exact fun e he => (List.mem_cons.mp he).imp id (List.rel_of_pairwise_cons hp)

theorem pairwise_getLast {α} {R : α → α → Prop} {r : List α} {l : α} (hp : r.Pairwise R)
    (hl : r.getLast? = some l) : ∀ e ∈ r, e = l ∨ R e l := by
  obtain ⟨ys, rfl⟩ := List.getLast?_eq_some_iff.mp hl
  intro e he
  rcases List.mem_append.mp he with he | he
  · exact .inr ((List.pairwise_append.mp hp).2.2 e he l (List.mem_singleton.mpr rfl))
  · exact .inl (List.mem_singleton.mp he)

theorem pairwise_rel_or_of_mem {α : Type _} {R : α → α → Prop} {l : List α} (h : l.Pairwise R)
    {a b : α} (ha : a ∈ l) (hb : b ∈ l) : a = b ∨ R a b ∨ R b a := by
  have h1 : l.Pairwise (fun a b => a = b ∨ R a b ∨ R b a) := h.imp fun h => .inr (.inl h)
  have h2 : l.Pairwise (fun a b => b = a ∨ R b a ∨ R a b) := h.imp fun h => .inr (.inr h)
  exact h1.forall_of_forall_of_flip (fun _ _ => .inl rfl) h2 ha hb

/-- a list sorted by an asymmetric relation is determined by its members: no member occurs twice, so two such
    lists are permutations of each other, and a strict order admits one arrangement -/
theorem eq_of_pairwise_of_mem_iff {α : Type _} {R : α → α → Prop} (hasymm : ∀ {a b}, R a b → ¬R b a)
    {l₁ l₂ : List α} (h₁ : l₁.Pairwise R) (h₂ : l₂.Pairwise R) (h : ∀ x, x ∈ l₁ ↔ x ∈ l₂) : l₁ = l₂ :=
  have nodup {l : List α} (hl : l.Pairwise R) : l.Nodup :=
    hl.imp (S := (· ≠ ·)) fun hab he => hasymm hab (he ▸ hab)
  ((List.perm_ext_iff_of_nodup (nodup h₁) (nodup h₂)).mpr h).eq_of_pairwise
    (fun _ _ _ _ hab hba => absurd hba (hasymm hab)) h₁ h₂

theorem pairwise_symm_mem {α} {R : α → α → Prop} {l : List α} (hp : l.Pairwise R)
    (hsymm : ∀ {x y}, R x y → R y x) {x y : α} (hx : x ∈ l) (hy : y ∈ l) (hne : x ≠ y) : R x y :=
  (pairwise_rel_or_of_mem hp hx hy).elim (absurd · hne) (·.elim id hsymm)

theorem pairwise_getD_iff {α : Type _} {Q : List α → List α → Prop} (hr : ∀ A, Q A [])
    (L : List (List α)) :
    L.Pairwise Q ↔ ∀ i j, i < j → Q (L.getD i []) (L.getD j []) := by
  rw [List.pairwise_iff_getElem]
  constructor
  · intro h i j hij
    by_cases hj : j < L.length
    · have hi : i < L.length := by omega
      simpa [List.getD_eq_getElem?_getD, List.getElem?_eq_getElem, hi, hj] using h i j hi hj hij
    · have : L.getD j [] = [] := by
        simp [List.getD_eq_getElem?_getD, List.getElem?_eq_none (Nat.le_of_not_lt hj)]
      rw [this]; exact hr _
  · intro h i j hi hj hij
    simpa [List.getD_eq_getElem?_getD, List.getElem?_eq_getElem, hi, hj] using h i j hij

theorem nodup_map_inj {α β : Type} {f : α → β} {l : List α} (h : (l.map f).Nodup) :
    ∀ x ∈ l, ∀ y ∈ l, f x = f y → x = y :=
  fun _ hx _ hy hxy => (pairwise_rel_or_of_mem (List.pairwise_map.mp h) hx hy).elim id
    (·.elim (absurd hxy) (absurd hxy.symm))

theorem find_key_of_mem {α κ : Type} [DecidableEq κ] {key : α → κ} {l : List α} (hN : (l.map key).Nodup) {x : α} (hx : x ∈ l) :
    l.find? (fun a => key a == key x) = some x := by
  cases hf : l.find? (fun a => key a == key x) with
  | none => exact absurd (List.find?_eq_none.mp hf x hx) (by simp)
  | some y => rw [nodup_map_inj hN y (List.mem_of_find?_eq_some hf) x hx (by simpa using List.find?_some hf)]

theorem nodup_of_count_le {l : List Nat} (h : ∀ b ∈ l, l.count b ≤ 1) : l.Nodup := by
  rw [List.nodup_iff_count]
  intro b
  by_cases hb : b ∈ l
  · exact h b hb
  · rw [List.count_eq_zero_of_not_mem hb]; exact Nat.zero_le 1

theorem takeWhile_append_all {α : Type _} {p : α → Bool} {X Y : List α} (hX : ∀ a ∈ X, p a = true)
    (hY : ∀ b ∈ Y, p b = false) : (X ++ Y).takeWhile p = X := by
  rw [List.takeWhile_append_of_pos hX]
  cases Y with
  | nil => simp
  | cons b t => rw [List.takeWhile_cons_of_neg (by simp [hY b List.mem_cons_self]), List.append_nil]

theorem split_unique {α} (p : α → Bool) {l₁ l₂ m₁ m₂ : List α} (h : l₁ ++ l₂ = m₁ ++ m₂)
    (hl₁ : ∀ b ∈ l₁, p b = true) (hl₂ : ∀ b ∈ l₂, p b = false) (hm₁ : ∀ b ∈ m₁, p b = true)
    (hm₂ : ∀ b ∈ m₂, p b = false) : l₁ = m₁ ∧ l₂ = m₂ := by
  have e1 : l₁ = m₁ := by rw [← takeWhile_append_all hl₁ hl₂, h, takeWhile_append_all hm₁ hm₂]
  exact ⟨e1, List.append_cancel_left (e1 ▸ h)⟩

/-- by `List.mergeSort_cons` each side is sorted and split around the head `a`, with `!le a ·` true before `a`
    and false behind it, and such a split is unique (`split_unique`) -/
theorem filter_mergeSort {α} (le : α → α → Bool) (trans : ∀ (a b c : α), le a b → le b c → le a c)
    (total : ∀ (a b : α), le a b || le b a) (p : α → Bool) (l : List α) :
    (l.mergeSort le).filter p = (l.filter p).mergeSort le := by
  induction l with
  | nil => simp
  | cons a l ih =>
    obtain ⟨l₁, l₂, h₁, h₂, h₃⟩ := List.mergeSort_cons trans total a l
    have hsorted : (l₁ ++ a :: l₂).Pairwise (fun x y => le x y) := by
      rw [← h₁]; exact List.pairwise_mergeSort trans total _
    have hl₂ : ∀ b ∈ l₂, le a b = true := fun b hb =>
      (List.pairwise_cons.mp (List.pairwise_append.mp hsorted).2.1).1 b hb
    rw [h₁, List.filter_append, List.filter_cons]
    by_cases hp : p a = true
    · rw [if_pos hp, List.filter_cons, if_pos hp]
      obtain ⟨m₁, m₂, g₁, g₂, g₃⟩ := List.mergeSort_cons trans total a (l.filter p)
      have gsorted : (m₁ ++ a :: m₂).Pairwise (fun x y => le x y) := by
        rw [← g₁]; exact List.pairwise_mergeSort trans total _
      have hm₂ : ∀ b ∈ m₂, le a b = true := fun b hb =>
        (List.pairwise_cons.mp (List.pairwise_append.mp gsorted).2.1).1 b hb
      rw [g₁]
      have heq : l₁.filter p ++ l₂.filter p = m₁ ++ m₂ := by
        rw [← List.filter_append, ← h₂, ih, g₂]
      obtain ⟨e1, e2⟩ := split_unique (fun b => !le a b) heq
        (fun b hb => h₃ b (List.mem_filter.mp hb).1)
        (fun b hb => congrArg not (hl₂ b (List.mem_filter.mp hb).1))
        g₃ (fun b hb => congrArg not (hm₂ b hb))
      rw [e1, e2]
    · rw [if_neg hp, List.filter_cons, if_neg hp, ← List.filter_append, ← h₂, ih]

/-- for cursors that run over the indices of a list with `none` for "off either end" -/
def predPos : Nat → Option Nat
  | 0 => none
  | n + 1 => some n

theorem predPos_eq_some {m n : Nat} : predPos m = some n ↔ m = n + 1 := by
  cases m <;> simp [predPos]

/-- the position of a forward cursor at the cut after the first `n` of `len` elements -/
def toPos (n len : Nat) : Option Nat := if n < len then some n else none

theorem toPos_eq_some {m len n : Nat} : toPos m len = some n ↔ m = n ∧ n < len := by
  by_cases h : m < len <;> simp [toPos, h] <;> omega

theorem toPos_of_lt {n len : Nat} (h : n < len) : toPos n len = some n := if_pos h

theorem toPos_of_ge {n len : Nat} (h : len ≤ n) : toPos n len = none := if_neg (Nat.not_lt.mpr h)

/-- the two directions of a cursor: `fwd` is that of `first` and `next`, `bwd` that of `last` and
    `prev` -/
inductive Way where
  | fwd
  | bwd

/-- among `n` positions, the one entered first -/
def Way.off : Way → Nat → Nat
  | .fwd, _ => 0
  | .bwd, n => n - 1

/-- where a cursor over `n` positions stands after `first` (`last`) -/
def Way.edge (w : Way) (n : Nat) : Option Nat := if n = 0 then none else some (w.off n)

/-- where a cursor over `n` positions moves from position `j` by `next` (`prev`): to
    `toPos (j + 1) n` (`predPos j`) -/
def Way.adv : Way → Nat → Nat → Option Nat
  | .fwd, n, j => if j + 1 < n then some (j + 1) else none
  | .bwd, _, j => predPos j

section cut
variable {α : Type}

/-- for a down-closed `P`: the size of the cut -/
def cutIdx (P : α → Bool) (l : List α) : Nat := l.findIdx (fun e => !P e)

theorem cutIdx_cons (P : α → Bool) (a : α) (l : List α) :
    cutIdx P (a :: l) = if P a = true then cutIdx P l + 1 else 0 := by
  unfold cutIdx; rw [List.findIdx_cons]; cases P a <;> rfl

theorem cutIdx_le {P : α → Bool} {l : List α} : cutIdx P l ≤ l.length := List.findIdx_le_length

theorem cutIdx_before {P : α → Bool} {l : List α} {j : Nat} (h : j < cutIdx P l) :
    P (l[j]'(Nat.lt_of_lt_of_le h cutIdx_le)) = true := by
  have := List.not_of_lt_findIdx h
  simpa using this

theorem cutIdx_at {P : α → Bool} {l : List α} (h : cutIdx P l < l.length) :
    P l[cutIdx P l] = false := by
  have := List.findIdx_getElem (p := fun e => !P e) (xs := l) (w := h)
  simp only [Bool.not_eq_eq_eq_not, Bool.not_true] at this
  exact this

theorem cutIdx_eq {P : α → Bool} {l : List α} {n : Nat} (hn : n ≤ l.length)
    (h1 : ∀ j (hj : j < n), P (l[j]'(Nat.lt_of_lt_of_le hj hn)) = true)
    (h2 : ∀ h : n < l.length, P l[n] = false) : cutIdx P l = n := by
  rcases Nat.lt_trichotomy (cutIdx P l) n with h | h | h
  · have := cutIdx_at (Nat.lt_of_lt_of_le h hn)
    rw [h1 _ h] at this; cases this
  · exact h
  · have hlt : n < l.length := Nat.lt_of_lt_of_le h cutIdx_le
    have := cutIdx_before h
    rw [h2 hlt] at this; cases this

theorem lt_cutIdx_iff {P : α → Bool} {l : List α}
    (hm : l.Pairwise (fun a b => P b = true → P a = true)) {j : Nat} (hj : j < l.length) :
    P l[j] = true ↔ j < cutIdx P l := by
  refine ⟨fun h => Nat.lt_of_not_le fun hle => ?_, cutIdx_before⟩
  have hlt : cutIdx P l < l.length := Nat.lt_of_le_of_lt hle hj
  have hat := cutIdx_at hlt
  rcases Nat.eq_or_lt_of_le hle with rfl | h'
  · rw [h] at hat; cases hat
  · rw [List.pairwise_iff_getElem.mp hm _ _ hlt hj h' h] at hat; cases hat

theorem cutIdx_congr {P Q : α → Bool} {l : List α} (h : ∀ e ∈ l, P e = Q e) :
    cutIdx P l = cutIdx Q l := by
  unfold cutIdx
  rw [List.findIdx_eq_getD_findIdx?, List.findIdx_eq_getD_findIdx?,
    findIdx?_congr_mem fun e he => congrArg not (h e he)]

theorem findIdx?_eq_toPos (p q : α → Bool) (hq : ∀ a, q a = !p a) (l : List α) :
    l.findIdx? p = toPos (cutIdx q l) l.length := by
  have e : (fun a => !q a) = p := funext fun a => by rw [hq a, Bool.not_not]
  unfold cutIdx toPos
  rw [e, List.findIdx?_eq_guard_findIdx_lt]
  simp [Option.guard]

theorem cutIdx_eq_takeWhile (P : α → Bool) (l : List α) : cutIdx P l = (l.takeWhile P).length := by
  rw [List.takeWhile_eq_take_findIdx_not, List.length_take]
  exact (Nat.min_eq_left cutIdx_le).symm

end cut

end Lcdb
