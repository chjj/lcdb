/-
  The block iterator over a well-formed block (`WfBlock`) is a cursor over the entry list.  Every
  operation of `BlockIter` is followed entry by entry (`PosRel`: iterator state against cursor
  position; `Before`: the state between two entries); this gives the simulation `WfBlock.sim` and
  the sequential parse `WfBlock.parse`.
-/
import LcdbModel.Lemmas.BlockWf
import LcdbModel.Lemmas.BlockSafety
import LcdbModel.Lemmas.Cursor
import LcdbModel.Lemmas.ListBasic
namespace Lcdb

theorem entriesOf_keys (data : Bytes) (L : List Ent) :
    (entriesOf data L).map (·.1) = L.map (·.key) := by
  simp [entriesOf, List.map_map, Function.comp_def]

theorem Chain.head {data : Bytes} {limit : Nat} {pk : Bytes} {off : Nat} {e : Ent} {S : List Ent}
    (h : Chain data limit pk off (e :: S)) :
    e.off = off ∧ off < limit ∧
    (∃ ns kp, decodeEntry data off limit = .ok e.sh ns e.vlen kp ∧ e.sh ≤ pk.length ∧
       e.key = pk.take e.sh ++ sliceAt data kp ns ∧ (sliceAt data kp ns).length = ns ∧
       e.voff = kp + ns ∧ off + 3 ≤ kp) ∧
    Chain data limit e.key e.next S := by
  simpa only [Chain, Ent.next] using h

theorem Chain.bounds {data : Bytes} {limit : Nat} :
    ∀ {L : List Ent} {pk : Bytes} {off : Nat}, Chain data limit pk off L →
      off ≤ limit ∧ ∀ e ∈ L, off ≤ e.off ∧ e.off + 3 ≤ e.next ∧ e.next ≤ limit ∧ e.off < limit := by
  intro L
  induction L with
  | nil => intro pk off h; exact ⟨Nat.le_of_eq h, nofun⟩
  | cons e L ih =>
    intro pk off h
    obtain ⟨h1, h2, ⟨ns, kp, _, _, _, _, hv, hkp⟩, hrest⟩ := Chain.head h
    obtain ⟨hle, hall⟩ := ih hrest
    have hn : e.next = e.voff + e.vlen := rfl
    refine ⟨Nat.le_of_lt h2, fun x hx => ?_⟩
    rcases List.mem_cons.mp hx with rfl | hx
    · omega
    · obtain ⟨a, b⟩ := hall x hx
      exact ⟨by omega, b⟩

theorem drop_of_getElem? {α : Type} {L : List α} {i : Nat} {e : α} (h : L[i]? = some e) :
    L.drop i = e :: L.drop (i + 1) := by
  obtain ⟨hl, rfl⟩ := List.getElem?_eq_some_iff.mp h
  exact List.drop_eq_getElem_cons hl

theorem Chain.drop {data : Bytes} {limit : Nat} :
    ∀ (i : Nat) {L : List Ent} {pk : Bytes} {off : Nat} {e : Ent}, Chain data limit pk off L →
      L[i]? = some e → ∃ pk', Chain data limit pk' e.off (e :: L.drop (i + 1)) := by
  intro i
  induction i with
  | zero =>
    intro L pk off e h hi
    cases L with
    | nil => cases hi
    | cons x L => cases hi; exact ⟨pk, by rw [(Chain.head h).1]; exact h⟩
  | succ i ih =>
    intro L pk off e h hi
    cases L with
    | nil => cases hi
    | cons x L => exact ih (Chain.head h).2.2.2 hi

theorem Chain.first_off {data : Bytes} {limit : Nat} {L : List Ent} {pk : Bytes} {off : Nat}
    (h : Chain data limit pk off L) {e : Ent} (h0 : L[0]? = some e) : e.off = off := by
  cases L with
  | nil => cases h0
  | cons x L => cases h0; exact (Chain.head h).1

theorem Chain.next_off {data : Bytes} {limit : Nat} {L : List Ent} {pk : Bytes} {off : Nat}
    (h : Chain data limit pk off L) {i : Nat} {a b : Ent} (ha : L[i]? = some a)
    (hb : L[i + 1]? = some b) : b.off = a.next := by
  obtain ⟨pk', hc⟩ := Chain.drop i h ha
  rw [drop_of_getElem? hb] at hc
  exact (Chain.head (Chain.head hc).2.2.2).1

theorem Chain.off_lt {data : Bytes} {limit : Nat} {L : List Ent} {pk : Bytes} {off : Nat}
    (h : Chain data limit pk off L) {i j : Nat} {a b : Ent} (ha : L[i]? = some a) (hb : L[j]? = some b)
    (hij : i < j) : a.next ≤ b.off := by
  obtain ⟨pk', hc⟩ := Chain.drop i h ha
  have hrest := (Chain.head hc).2.2.2
  have hb' : (L.drop (i + 1))[j - (i + 1)]? = some b := by
    rw [List.getElem?_drop]
    have : i + 1 + (j - (i + 1)) = j := by omega
    rw [this]; exact hb
  have hmem : b ∈ L.drop (i + 1) := List.mem_iff_getElem?.mpr ⟨_, hb'⟩
  exact ((Chain.bounds hrest).2 b hmem).1

theorem Chain.idx_le_of_off_le {data : Bytes} {limit : Nat} {L : List Ent} {pk : Bytes} {off : Nat}
    (h : Chain data limit pk off L) {i j : Nat} {a b : Ent} (ha : L[i]? = some a) (hb : L[j]? = some b)
    (hoff : a.off ≤ b.off) : i ≤ j := by
  by_cases hji : j < i
  · have h1 := Chain.off_lt h hb ha hji
    have hbm : b ∈ L := List.mem_iff_getElem?.mpr ⟨_, hb⟩
    have h2 := ((Chain.bounds h).2 b hbm).2.1
    omega
  · omega

theorem Chain.idx_eq_of_off_eq {data : Bytes} {limit : Nat} {L : List Ent} {pk : Bytes} {off : Nat}
    (h : Chain data limit pk off L) {i j : Nat} {a b : Ent} (ha : L[i]? = some a) (hb : L[j]? = some b)
    (hoff : a.off = b.off) : i = j := by
  have h1 := Chain.idx_le_of_off_le h ha hb (by omega)
  have h2 := Chain.idx_le_of_off_le h hb ha (by omega)
  omega

theorem Chain.last_next {data : Bytes} {limit : Nat} {L : List Ent} {pk : Bytes} {off : Nat}
    (h : Chain data limit pk off L) {e : Ent} (he : L[L.length - 1]? = some e) : e.next = limit := by
  obtain ⟨pk', hc⟩ := Chain.drop (L.length - 1) h he
  have hl : L.length - 1 < L.length := getElem?_lt he
  have : L.drop (L.length - 1 + 1) = [] := List.drop_eq_nil_of_le (by omega)
  rw [this] at hc
  have := (Chain.head hc).2.2.2
  simpa [Chain] using this

theorem Chain.length_le {data : Bytes} {limit : Nat} :
    ∀ {L : List Ent} {pk : Bytes} {off : Nat}, Chain data limit pk off L → off + 3 * L.length ≤ limit
  | [], _, _, h => Nat.le_of_eq h
  | e :: _, _, _, h => by
    have := Chain.length_le (Chain.head h).2.2.2
    have := (Chain.bounds h).2 e List.mem_cons_self
    rw [List.length_cons]
    omega

def OnBlock (data : Bytes) (restarts num : Nat) (bi : BlockIter) : Prop :=
  bi.data = data ∧ bi.restarts = restarts ∧ bi.numRestarts = num

/-- both bounds on `e.off` are non-strict: on a restart entry `restartIndex` may be that restart point or the one
    before it, since the bump loop of `parse_next_key` compares with `<` (block.c:283-284) -/
def OnEntry (data : Bytes) (restarts num : Nat) (bi : BlockIter) (e : Ent) : Prop :=
  bi.current = e.off ∧ bi.key = e.key ∧ bi.value = some (e.voff, e.vlen) ∧
  bi.restartIndex < num ∧ restartAt data restarts bi.restartIndex ≤ e.off ∧
  (bi.restartIndex + 1 < num → e.off ≤ restartAt data restarts (bi.restartIndex + 1))

section
variable {data : Bytes} {restarts num : Nat} {L : List Ent}

theorem WfBlock.restart_le (hw : WfBlock data restarts num L) {j : Nat} (hj : j < num) :
    restartAt data restarts j ≤ restarts := by
  cases j with
  | zero => rw [hw.r0]; omega
  | succ j =>
    obtain ⟨e, he, ho, _⟩ := hw.rent (j + 1) (by omega) hj
    have := ((Chain.bounds hw.chain).2 e he).2.2.2
    omega

theorem WfBlock.base (hw : WfBlock data restarts num L) {bi : BlockIter}
    (hb : OnBlock data restarts num bi) : bi.Base := by
  rw [BlockIter.Base, hb.1, hb.2.1, hb.2.2]
  exact ⟨Nat.le_of_eq hw.size, hw.num_pos⟩

theorem WfBlock.getRestartPoint (hw : WfBlock data restarts num L) {bi : BlockIter}
    (hb : OnBlock data restarts num bi) {j : Nat} (hj : j < num) :
    bi.getRestartPoint j = some (restartAt data restarts j) := by
  rw [bi.getRestartPoint_eq (hw.base hb) (hb.2.2 ▸ hj), hb.1, hb.2.1,
    Nat.min_eq_left (hw.restart_le hj)]

theorem WfBlock.restart_ent (hw : WfBlock data restarts num L) {j : Nat} (hj0 : 0 < j) (hj : j < num) :
    ∃ (m : Nat) (e : Ent), L[m]? = some e ∧ e.off = restartAt data restarts j ∧ e.sh = 0 := by
  obtain ⟨e, he, ho, hs⟩ := hw.rent j hj0 hj
  obtain ⟨m, hm⟩ := List.mem_iff_getElem?.mp he
  exact ⟨m, e, hm, ho, hs⟩

theorem WfBlock.ent_bounds (hw : WfBlock data restarts num L) {i : Nat} {e : Ent} (hi : L[i]? = some e) :
    e.off + 3 ≤ e.next ∧ e.next ≤ restarts ∧ e.off < restarts :=
  ((Chain.bounds hw.chain).2 e (List.mem_of_getElem? hi)).2

end

def PosRel (data : Bytes) (restarts num : Nat) (L : List Ent) (bi : BlockIter) : Option Nat → Prop
  | none => OnBlock data restarts num bi ∧ bi.current = restarts
  | some i => OnBlock data restarts num bi ∧ ∃ e, L[i]? = some e ∧ OnEntry data restarts num bi e

/-- the iterator is about to parse entry `m` (the end of the data area if `m = L.length`);
    `off` is the offset it will parse at -/
def Before (data : Bytes) (restarts num : Nat) (L : List Ent) (bi : BlockIter) (m off : Nat) : Prop :=
  OnBlock data restarts num bi ∧ m ≤ L.length ∧
  ∃ o n pk, bi.value = some (o, n) ∧ o + n = off ∧ Chain data restarts pk off (L.drop m) ∧
    (∀ e, L[m]? = some e → bi.key.take e.sh = pk.take e.sh ∧ e.sh ≤ bi.key.length) ∧
    bi.restartIndex < num ∧ restartAt data restarts bi.restartIndex ≤ off

section
variable {data : Bytes} {restarts num : Nat} {L : List Ent}

theorem WfBlock.valid (hw : WfBlock data restarts num L) {bi : BlockIter} {p : Option Nat}
    (hpos : PosRel data restarts num L bi p) : bi.valid = p.isSome := by
  cases p with
  | none =>
    obtain ⟨hb, hcur⟩ := hpos
    simp only [BlockIter.valid, hcur, hb.2.1, Nat.lt_irrefl, decide_false, Option.isSome_none]
  | some i =>
    obtain ⟨hb, e, hi, he⟩ := hpos
    simp only [BlockIter.valid, he.1, hb.2.1, (hw.ent_bounds hi).2.2, decide_true,
      Option.isSome_some]

theorem OnEntry.before (hw : WfBlock data restarts num L) {bi : BlockIter} {i : Nat} {e : Ent}
    (hb : OnBlock data restarts num bi) (hi : L[i]? = some e) (he : OnEntry data restarts num bi e) :
    Before data restarts num L bi (i + 1) e.next := by
  obtain ⟨hcur, hkey, hval, hri, hlow, _⟩ := he
  obtain ⟨pk', hc⟩ := Chain.drop i hw.chain hi
  obtain ⟨_, _, ⟨ns, kp, _, _, _, _, hvo, hkp⟩, hrest⟩ := Chain.head hc
  have hlen := getElem?_lt hi
  refine ⟨hb, by omega, e.voff, e.vlen, e.key, hval, rfl, hrest, ?_, hri, ?_⟩
  · intro e' he'
    rw [hkey]
    refine ⟨rfl, ?_⟩
    rw [drop_of_getElem? he'] at hrest
    exact (Chain.head hrest).2.2.1.choose_spec.choose_spec.2.1
  · simp only [Ent.next]; omega

theorem Before.pre (hw : WfBlock data restarts num L) {bi : BlockIter} {m off : Nat}
    (hbef : Before data restarts num L bi m off) : bi.Pre off := by
  obtain ⟨hb, _, o, n, pk, hv, hon, hc, _, hri, _⟩ := hbef
  exact ⟨hw.base hb, hb.2.2 ▸ hri, by rw [BlockIter.nextEntryOffset, hv, ← hon]; rfl,
    hb.2.1 ▸ (Chain.bounds hc).1⟩

theorem Before.step_end (hw : WfBlock data restarts num L) (c : BlockCmp) {bi : BlockIter}
    {m off : Nat} (hbef : Before data restarts num L bi m off) (hm : L.length ≤ m) :
    bi.parseNextKey c = some (false, bi.markInvalid) := by
  obtain ⟨b, bi', hpk, hP⟩ := bi.parseNextKey_spec c (hbef.pre hw)
  obtain ⟨hb, _, o, n, pk, _, _, hc, _⟩ := hbef
  rw [List.drop_eq_nil_of_le hm, Chain, ← hb.2.1] at hc
  cases hP with
  | done _ => exact hpk
  | bad hlt _ => omega
  | entry hlt => omega

theorem Before.off_eq {bi : BlockIter} {m off : Nat} {e : Ent}
    (hbef : Before data restarts num L bi m off) (hm : L[m]? = some e) : e.off = off := by
  obtain ⟨_, _, o, n, pk, _, _, hc, _⟩ := hbef
  rw [drop_of_getElem? hm] at hc
  exact (Chain.head hc).1

/-- The chain says what decodes at `off`, so parse_next_key can only enter entry `m`. -/
theorem Before.step (hw : WfBlock data restarts num L) (c : BlockCmp)
    (hint : c.internal = true → ∀ e ∈ L, 8 ≤ e.key.length)
    {bi : BlockIter} {m off : Nat} {e : Ent}
    (hbef : Before data restarts num L bi m off) (hm : L[m]? = some e) :
    ∃ bi', bi.parseNextKey c = some (true, bi') ∧ OnBlock data restarts num bi' ∧
      OnEntry data restarts num bi' e ∧ bi'.status = bi.status := by
  obtain ⟨b, bi', hpk, hP⟩ := bi.parseNextKey_spec c (hbef.pre hw)
  obtain ⟨⟨hd, hr, hn⟩, _, o, n, pk, hv, hon, hc, hkey, hri, hlow⟩ := hbef
  rw [drop_of_getElem? hm] at hc
  obtain ⟨ho, hlt, ⟨ns, kp, hdec, hsh, hk, hsl, hvo, hkp⟩, _⟩ := Chain.head hc
  obtain ⟨hkt, hkl⟩ := hkey e hm
  have hklen : e.key.length = e.sh + ns := by
    rw [hk, List.length_append, List.length_take, hsl]; omega
  subst hd hr hn
  cases hP with
  | done h => omega
  | bad _ h =>
    rcases h _ _ _ _ hdec with h | ⟨hc, h⟩
    · omega
    · have := hint hc e (List.mem_of_getElem? hm); omega
  | entry _ hdec' _ _ hri' hor hup =>
    cases hdec.symm.trans hdec'
    refine ⟨_, hpk, ⟨rfl, rfl, rfl⟩, ⟨ho.symm, ?_, ?_, hri', ?_, fun h => ?_⟩, rfl⟩
    · show List.take e.sh bi.key ++ sliceAt bi.data kp ns = e.key
      rw [hk, hkt]
    · show some (kp + ns, e.vlen) = some (e.voff, e.vlen)
      rw [hvo]
    · dsimp only
      rcases hor with h | h
      · rw [h]; omega
      · omega
    · have := hup h
      dsimp only
      omega

theorem OnEntry.nextEntryOffset {bi : BlockIter} {e : Ent} (he : OnEntry data restarts num bi e) :
    bi.nextEntryOffset = some e.next := by
  simp only [BlockIter.nextEntryOffset, he.2.2.1, Option.map, Ent.next]

theorem WfBlock.scan (hw : WfBlock data restarts num L) (c : BlockCmp)
    (hint : c.internal = true → ∀ e ∈ L, 8 ≤ e.key.length) (cont : BlockIter → Option Bool)
    (p : Ent → Bool)
    (hcont : ∀ bi e, e ∈ L → OnEntry data restarts num bi e → cont bi = some (p e)) :
    ∀ (fuel : Nat) (bi : BlockIter) (m off k : Nat),
      Before data restarts num L bi m off → restarts < off + fuel → m ≤ k →
      (∀ x e, m ≤ x → x < k → L[x]? = some e → p e = true) →
      (k = L.length ∨ ∃ ek, L[k]? = some ek ∧ p ek = false) →
      ∃ bi', BlockIter.scan c cont fuel bi = some bi' ∧
        PosRel data restarts num L bi' (if k = L.length then none else some k) ∧
        bi'.status = bi.status := by
  intro fuel
  induction fuel with
  | zero =>
    intro bi m off k hbef h
    obtain ⟨_, _, o, n, pk, _, _, hc, _⟩ := hbef
    have := (Chain.bounds hc).1
    omega
  | succ fuel ih =>
    intro bi m off k hbef hfuel hmk hall hend
    rw [BlockIter.scan]
    by_cases hmL : m = L.length
    · have hk : k = L.length := by
        rcases hend with h | ⟨ek, hek, _⟩
        · exact h
        · have := getElem?_lt hek; omega
      rw [Before.step_end hw c hbef (by omega), if_pos hk]
      exact ⟨_, rfl, ⟨hbef.1, hbef.1.2.1⟩, rfl⟩
    · have hml : m < L.length := by have := hbef.2.1; omega
      obtain ⟨em, hm⟩ := exists_getElem? hml
      have hoff := hbef.off_eq hm
      obtain ⟨bi', hp, hb', he', hs⟩ := Before.step hw c hint hbef hm
      rw [hp]
      dsimp only
      rw [hcont bi' em (List.mem_of_getElem? hm) he']
      by_cases hmk' : m = k
      · subst hmk'
        rcases hend with h | ⟨ek, hek, hpk⟩
        · omega
        · rw [hm] at hek
          cases hek
          rw [hpk, if_neg hmL]
          exact ⟨bi', rfl, ⟨hb', _, hm, he'⟩, hs⟩
      · rw [hall m em (Nat.le_refl _) (by omega) hm]
        have hbnd := hw.ent_bounds hm
        obtain ⟨bi'', hsk, hpos, hs'⟩ := ih bi' (m + 1) em.next k (OnEntry.before hw hb' hm he')
          (by omega) (by omega) (fun x e hx1 hx2 hx => hall x e (by omega) hx2 hx) hend
        exact ⟨bi'', hsk, hpos, hs'.trans hs⟩

theorem WfBlock.skipUntil (hw : WfBlock data restarts num L) (c : BlockCmp)
    (hint : c.internal = true → ∀ e ∈ L, 8 ≤ e.key.length)
    {bi : BlockIter} {m off k fuel : Nat} {ek : Ent}
    (hbef : Before data restarts num L bi m off) (hfuel : restarts < off + fuel) (hmk : m ≤ k)
    (hek : L[k]? = some ek) :
    ∃ bi', BlockIter.skipUntil c ek.next fuel bi = some bi' ∧
      PosRel data restarts num L bi' (some k) ∧ bi'.status = bi.status := by
  have hk : k ≠ L.length := Nat.ne_of_lt (getElem?_lt hek)
  rw [BlockIter.skipUntil_eq_scan,
    show some k = (if k = L.length then none else some k) from (if_neg hk).symm]
  refine hw.scan c hint _ (fun e => decide (e.next < ek.next))
    (fun bi e _ he => by rw [he.nextEntryOffset]; rfl) fuel bi m off k hbef hfuel hmk
    (fun x e _ h2 h3 => decide_eq_true ?_) (.inr ⟨ek, hek, decide_eq_false (Nat.lt_irrefl _)⟩)
  have := Chain.off_lt hw.chain h3 hek h2
  have := (hw.ent_bounds hek).1
  omega

theorem WfBlock.seekLinear (hw : WfBlock data restarts num L) (c : BlockCmp)
    (hint : c.internal = true → ∀ e ∈ L, 8 ≤ e.key.length) (t : Bytes)
    (ht : c.internal = true → 8 ≤ t.length) {bi : BlockIter} {m off k fuel : Nat}
    (hbef : Before data restarts num L bi m off) (hfuel : restarts < off + fuel) (hmk : m ≤ k)
    (hall : ∀ x e, m ≤ x → x < k → L[x]? = some e → c.cmp e.key t = .lt)
    (hend : k = L.length ∨ ∃ ek, L[k]? = some ek ∧ c.cmp ek.key t ≠ .lt) :
    ∃ bi', BlockIter.seekLinear c t fuel bi = some bi' ∧
      PosRel data restarts num L bi' (if k = L.length then none else some k) ∧
      bi'.status = bi.status := by
  rw [BlockIter.seekLinear_eq_scan]
  refine hw.scan c hint _ (fun e => c.cmp e.key t == .lt) (fun bi e hmem he => ?_) fuel bi m off k
    hbef hfuel hmk (fun x e h1 h2 h3 => ?_) (hend.imp_right fun ⟨ek, h1, h2⟩ => ⟨ek, h1, ?_⟩)
  · rw [he.2.1, c.compare_eq (fun h => hint h _ hmem) ht]; rfl
  · rw [hall x e h1 h2 h3]; rfl
  · cases hc : c.cmp ek.key t <;> first | rfl | exact absurd hc h2

/-- in an empty block restart point 0 refers to the end of the data area -/
theorem WfBlock.seekToRestart (hw : WfBlock data restarts num L) {bi : BlockIter}
    (hb : OnBlock data restarts num bi) {j : Nat} (hj : j < num) :
    ∃ bi' m, bi.seekToRestartPoint j = some bi' ∧
      Before data restarts num L bi' m (restartAt data restarts j) ∧ bi'.status = bi.status ∧
      m ≤ L.length - 1 ∧ (j = 0 → m = 0) := by
  have hent : ∃ m pk, m ≤ L.length - 1 ∧ (j = 0 → m = 0) ∧
      Chain data restarts pk (restartAt data restarts j) (L.drop m) ∧
      ∀ e, L[m]? = some e → e.sh = 0 := by
    cases j with
    | zero =>
      refine ⟨0, [], Nat.zero_le _, fun _ => rfl, by rw [hw.r0]; exact hw.chain, fun e he => ?_⟩
      have hc : Chain data restarts [] 0 (L.drop 0) := hw.chain
      rw [drop_of_getElem? he] at hc
      obtain ⟨_, _, ⟨_, _, _, hsh, _⟩, _⟩ := Chain.head hc
      exact Nat.le_zero.mp hsh
    | succ j =>
      obtain ⟨m, e, hm, ho, hs⟩ := hw.restart_ent (Nat.succ_pos j) hj
      obtain ⟨pk, hc⟩ := Chain.drop m hw.chain hm
      have := getElem?_lt hm
      refine ⟨m, pk, by omega, fun h => absurd h (Nat.succ_ne_zero j),
        by rw [drop_of_getElem? hm, ← ho]; exact hc, fun e' he' => ?_⟩
      rw [hm] at he'
      cases he'
      exact hs
  obtain ⟨m, pk, hm, h0, hc, hsh⟩ := hent
  unfold BlockIter.seekToRestartPoint
  rw [hw.getRestartPoint hb hj]
  refine ⟨_, m, rfl, ⟨hb, by omega, restartAt data restarts j, 0, pk, rfl, rfl, hc, fun e he => ?_, hj,
    Nat.le_refl _⟩, rfl, hm, h0⟩
  rw [hsh e he]
  exact ⟨rfl, Nat.zero_le _⟩

theorem WfBlock.first (hw : WfBlock data restarts num L) (c : BlockCmp)
    (hint : c.internal = true → ∀ e ∈ L, 8 ≤ e.key.length) {bi : BlockIter}
    (hb : OnBlock data restarts num bi) :
    ∃ bi', bi.first c = some bi' ∧
      PosRel data restarts num L bi' (if L.length = 0 then none else some 0) ∧
      bi'.status = bi.status := by
  obtain ⟨bi1, m, h1, hbef, hs1, _, hm0⟩ := hw.seekToRestart hb hw.num_pos
  cases hm0 rfl
  unfold BlockIter.first
  rw [h1]
  dsimp only
  by_cases hl : L.length = 0
  · rw [if_pos hl, Before.step_end hw c hbef (by omega)]
    exact ⟨_, rfl, ⟨hbef.1, hbef.1.2.1⟩, hs1⟩
  · obtain ⟨e0, hm⟩ := exists_getElem? (Nat.pos_of_ne_zero hl)
    obtain ⟨bi', hp, hb', he', hs⟩ := Before.step hw c hint hbef hm
    rw [if_neg hl, hp]
    exact ⟨bi', rfl, ⟨hb', _, hm, he'⟩, hs.trans hs1⟩

theorem WfBlock.next (hw : WfBlock data restarts num L) (c : BlockCmp)
    (hint : c.internal = true → ∀ e ∈ L, 8 ≤ e.key.length) {bi : BlockIter} {i : Nat}
    (hpos : PosRel data restarts num L bi (some i)) :
    ∃ bi', bi.next c = some bi' ∧
      PosRel data restarts num L bi' (if i + 1 < L.length then some (i + 1) else none) ∧
      bi'.status = bi.status := by
  obtain ⟨hb, e, hi, he⟩ := hpos
  have hbef := OnEntry.before hw hb hi he
  unfold BlockIter.next
  by_cases hl : i + 1 < L.length
  · obtain ⟨e1, hm⟩ := exists_getElem? hl
    obtain ⟨bi', hp, hb', he', hs⟩ := Before.step hw c hint hbef hm
    simp only [hp, Option.map, hl, if_true]
    exact ⟨bi', rfl, ⟨hb', _, hm, he'⟩, hs⟩
  · have hp := Before.step_end hw c hbef (by omega)
    simp only [hp, Option.map, hl, if_false]
    exact ⟨_, rfl, ⟨hb, hb.2.1⟩, rfl⟩

theorem WfBlock.last (hw : WfBlock data restarts num L) (c : BlockCmp)
    (hint : c.internal = true → ∀ e ∈ L, 8 ≤ e.key.length) {bi : BlockIter}
    (hb : OnBlock data restarts num bi) :
    ∃ bi', bi.last c = some bi' ∧
      PosRel data restarts num L bi' (if L.length = 0 then none else some (L.length - 1)) ∧
      bi'.status = bi.status := by
  obtain ⟨bi1, m, h1, hbef, hs1, hm, _⟩ := hw.seekToRestart hb (j := num - 1)
    (by have := hw.num_pos; omega)
  unfold BlockIter.last
  rw [hb.2.2, h1, hb.2.1]
  dsimp only
  by_cases hl : L.length = 0
  · rw [if_pos hl, BlockIter.skipUntil, Before.step_end hw c hbef (by omega)]
    exact ⟨_, rfl, ⟨hbef.1, hbef.1.2.1⟩, hs1⟩
  · obtain ⟨ek, hk⟩ := exists_getElem? (Nat.sub_one_lt hl)
    obtain ⟨bi', hsk, hpos, hs⟩ := hw.skipUntil c hint (fuel := restarts + 1) hbef (by omega) hm hk
    rw [Chain.last_next hw.chain hk] at hsk
    rw [if_neg hl]
    exact ⟨bi', hsk, hpos, hs.trans hs1⟩

theorem WfBlock.prevScan (hw : WfBlock data restarts num L) {bi : BlockIter}
    (hb : OnBlock data restarts num bi) {ri : Nat} (original : Nat) (hri : ri < num) :
    (bi.prevScan original (ri + 1) ri = some none ∧ original = 0) ∨
    (∃ j, bi.prevScan original (ri + 1) ri = some (some j) ∧ j < num ∧
      restartAt data restarts j < original) := by
  have h := bi.prevScan_inv (restartAt data restarts)
    (fun j hj => hw.getRestartPoint hb (hb.2.2 ▸ hj)) original (ri + 1) ri (Nat.le_refl _)
    (hb.2.2 ▸ hri)
  rw [hb.2.2, hw.r0] at h
  exact h.imp (fun h => ⟨h.1, Nat.le_zero.mp h.2⟩) id

theorem WfBlock.prev (hw : WfBlock data restarts num L) (c : BlockCmp)
    (hint : c.internal = true → ∀ e ∈ L, 8 ≤ e.key.length) {bi : BlockIter} {i : Nat}
    (hpos : PosRel data restarts num L bi (some i)) :
    ∃ bi', bi.prev c = some bi' ∧
      PosRel data restarts num L bi' (if i = 0 then none else some (i - 1)) ∧
      bi'.status = bi.status := by
  obtain ⟨hb, e, hi, he⟩ := hpos
  have hil := getElem?_lt hi
  rcases hw.prevScan hb e.off he.2.2.2.1 with ⟨hs, hz⟩ | ⟨j, hs, hj, hjlt⟩
  · -- no restart point before the entry: it is the first one
    obtain ⟨e0, h0⟩ := exists_getElem? (Nat.zero_lt_of_lt hil)
    have : i = 0 := Chain.idx_eq_of_off_eq hw.chain hi h0
      (by rw [Chain.first_off hw.chain h0]; exact hz)
    unfold BlockIter.prev
    rw [he.1]
    dsimp only
    rw [hs, if_pos this]
    exact ⟨_, rfl, ⟨hb, hb.2.1⟩, rfl⟩
  · -- restart point `j` lies before the entry: walk from there to the predecessor
    obtain ⟨bi1, m, h1, hbef, hs1, hm, _⟩ := hw.seekToRestart hb hj
    obtain ⟨em, hm'⟩ := exists_getElem? (show m < L.length by omega)
    have hoff := hbef.off_eq hm'
    have hmi : m < i := by
      refine Nat.lt_of_le_of_ne (Chain.idx_le_of_off_le hw.chain hm' hi (by omega)) fun h => ?_
      subst h
      rw [Option.some.inj (hm'.symm.trans hi)] at hoff
      omega
    obtain ⟨i, rfl⟩ : ∃ i', i = i' + 1 := ⟨i - 1, by omega⟩
    obtain ⟨ep, he'⟩ := exists_getElem? (Nat.lt_of_succ_lt hil)
    obtain ⟨bi', hsk, hpos, hs'⟩ := hw.skipUntil c hint (fuel := restarts + 1) hbef (by omega)
      (Nat.le_of_lt_succ hmi) he'
    unfold BlockIter.prev
    rw [he.1]
    dsimp only
    rw [hs]
    dsimp only
    rw [h1, hb.2.1, if_neg (Nat.succ_ne_zero i), Chain.next_off hw.chain he' hi]
    exact ⟨bi', hsk, hpos, hs'.trans hs1⟩

theorem keys_getD {i : Nat} {e : Ent} (hi : L[i]? = some e) : (L.map (·.key)).getD i [] = e.key := by
  rw [List.getD_eq_getElem?_getD, List.getElem?_map, hi]; rfl

theorem SortedKeys.small_before {cmp : Bytes → Bytes → Ordering} (hl : OrdLaws cmp)
    (hs : SortedKeys cmp (L.map (·.key))) {t : Bytes} {i x : Nat} {a b : Ent}
    (ha : L[i]? = some a) (hsmall : cmp a.key t = .lt) (hb : L[x]? = some b) (hxi : x ≤ i) :
    cmp b.key t = .lt := by
  rcases Nat.lt_or_eq_of_le hxi with h | rfl
  · have := hs.getD_lt h (by rw [List.length_map]; exact getElem?_lt ha)
    rw [keys_getD hb, keys_getD ha] at this
    exact hl.lt_trans _ _ _ this hsmall
  · cases ha.symm.trans hb; exact hsmall

theorem SortedKeys.findIdx_of_eq {cmp : Bytes → Bytes → Ordering}
    (hs : SortedKeys cmp (L.map (·.key))) (hl : OrdLaws cmp) {t : Bytes} {i : Nat} {e : Ent}
    (hi : L[i]? = some e) (hcmp : cmp e.key t = .eq) :
    (L.map (·.key)).findIdx? (fun k => cmp k t != .lt) = some i := by
  have hil : i < (L.map (·.key)).length := by rw [List.length_map]; exact getElem?_lt hi
  rw [findIdx?_eq_some_iff_getD]
  refine ⟨hil, by rw [keys_getD hi, hcmp]; rfl, fun j hj => ?_⟩
  have := hs.getD_lt hj hil
  rw [keys_getD hi] at this
  rw [hl.cmp3.lt_of_lt_of_eq this hcmp]; rfl

def SmallAt (data : Bytes) (restarts : Nat) (L : List Ent) (cmp : Bytes → Bytes → Ordering)
    (t : Bytes) (l : Nat) : Prop :=
  l = 0 ∨ ∃ (m : Nat) (e : Ent), L[m]? = some e ∧ e.off = restartAt data restarts l ∧ cmp e.key t = .lt

theorem WfBlock.probe (hw : WfBlock data restarts num L) (c : BlockCmp)
    (hint : c.internal = true → ∀ e ∈ L, 8 ≤ e.key.length) (t : Bytes)
    (ht : c.internal = true → 8 ≤ t.length) {bi : BlockIter}
    (hb : OnBlock data restarts num bi) {j : Nat} (hj0 : 0 < j) (hj : j < num) :
    ∃ (m : Nat) (e : Ent), L[m]? = some e ∧ e.off = restartAt data restarts j ∧
      bi.probe c t j = some (some (c.cmp e.key t)) := by
  obtain ⟨m, e, hm, hoff, hsh⟩ := hw.restart_ent hj0 hj
  obtain ⟨pk', hc⟩ := Chain.drop m hw.chain hm
  obtain ⟨_, _, ⟨ns, kp, hdec, _, hk, hsl, _, _⟩, _⟩ := Chain.head hc
  have hmem : e ∈ L := List.mem_of_getElem? hm
  rw [hsh] at hdec hk
  rw [List.take_zero, List.nil_append] at hk
  have hklen : e.key.length = ns := by rw [hk]; exact hsl
  have h3 : (c.internal && decide (ns < 8)) = false := by
    cases hci : c.internal with
    | false => rfl
    | true => have := hint hci e hmem; simp only [Bool.true_and, decide_eq_false_iff_not]; omega
  refine ⟨m, e, hm, hoff, ?_⟩
  unfold BlockIter.probe
  rw [hw.getRestartPoint hb hj, hb.1, hb.2.1, ← hoff]
  dsimp only
  rw [hdec]
  dsimp only
  rw [if_neg (by simp), h3, if_neg (by simp)]
  rw [show List.take ns (List.drop kp data) = e.key from hk.symm, c.compare_eq (fun h => hint h _ hmem) ht]
  rfl

theorem WfBlock.seekLinear_find (hw : WfBlock data restarts num L) (c : BlockCmp)
    (hint : c.internal = true → ∀ e ∈ L, 8 ≤ e.key.length) (t : Bytes)
    (ht : c.internal = true → 8 ≤ t.length) {bi : BlockIter} {m off : Nat}
    (hbef : Before data restarts num L bi m off)
    (hbelow : ∀ x e, x < m → L[x]? = some e → c.cmp e.key t = .lt) :
    ∃ bi', BlockIter.seekLinear c t (restarts + 1) bi = some bi' ∧
      PosRel data restarts num L bi' ((L.map (·.key)).findIdx? (fun k => c.cmp k t != .lt)) ∧
      bi'.status = bi.status := by
  have hfuel : restarts < off + (restarts + 1) := by omega
  rcases seek_cases c.cmp (L.map (·.key)) t with ⟨hf, hall⟩ | ⟨k, hf, hk, hge, hlt⟩
  · rw [hf, ← if_pos (rfl : L.length = L.length) (t := none) (e := some L.length)]
    exact hw.seekLinear c hint t ht hbef hfuel hbef.2.1
      (fun x e _ hx hxe => keys_getD hxe ▸ hall x (by rw [List.length_map]; exact hx)) (.inl rfl)
  · rw [List.length_map] at hk
    obtain ⟨ek, hek⟩ := exists_getElem? hk
    rw [keys_getD hek] at hge
    rw [hf, ← if_neg (Nat.ne_of_lt hk) (t := none) (e := some k)]
    refine hw.seekLinear c hint t ht hbef hfuel ?_
      (fun x e _ hx hxe => keys_getD hxe ▸ hlt x hx) (.inr ⟨_, hek, hge⟩)
    exact Nat.le_of_not_lt fun h => hge (hbelow k _ h hek)

/-- The binary search starts at a restart point `left` that refers to an entry below the target
    and keeps that (`SmallAt`); so does the current entry when the linear search starts from it. -/
theorem WfBlock.seekFrom (hw : WfBlock data restarts num L) (c : BlockCmp)
    (hl : OrdLaws c.cmp) (hs : SortedKeys c.cmp (L.map (·.key)))
    (hint : c.internal = true → ∀ e ∈ L, 8 ≤ e.key.length) (t : Bytes)
    (ht : c.internal = true → 8 ≤ t.length) {bi : BlockIter}
    (hb : OnBlock data restarts num bi) {left right : Nat} (hlt : left < num) (hr : right < num)
    (hsmall : SmallAt data restarts L c.cmp t left) (ckc : Ordering)
    (hckc : ckc = .lt → ∃ (i : Nat) (e : Ent), L[i]? = some e ∧ OnEntry data restarts num bi e ∧
      c.cmp e.key t = .lt) :
    ∃ bi', bi.seekFrom c t left right ckc = some bi' ∧
      PosRel data restarts num L bi' ((L.map (·.key)).findIdx? (fun k => c.cmp k t != .lt)) ∧
      bi'.status = bi.status := by
  rcases BlockIter.seekBin_inv c t bi num (SmallAt data restarts L c.cmp t) False
      (fun mid h0 hmid => by
        obtain ⟨m, e, hm, hoff, hp⟩ := hw.probe c hint t ht hb h0 hmid
        exact ⟨_, hp, nofun, fun h => .inr ⟨m, e, hm, hoff, Option.some.inj h⟩⟩)
      (right - left + 1) left right (Nat.succ_pos _) (by omega) hlt hr hsmall with
    h | ⟨l, hbin, hln, hsm⟩
  · exact h.1.elim
  rw [BlockIter.seekFrom, hbin, hb.2.1]
  dsimp only
  by_cases hskip : (l == bi.restartIndex && ckc == .lt) = true
  · obtain ⟨i, e, hi, he, hlt'⟩ := hckc (eq_of_beq ((Bool.and_eq_true _ _).mp hskip).2)
    rw [if_pos hskip]
    exact hw.seekLinear_find c hint t ht (OnEntry.before hw hb hi he)
      (fun _ _ hx hxe => hs.small_before hl hi hlt' hxe (Nat.le_of_lt_succ hx))
  · obtain ⟨bi1, m, h1, hbef, hs1, hm, hm0⟩ := hw.seekToRestart hb hln
    rw [if_neg hskip, h1]
    obtain ⟨bi', hsl, hpos, hst⟩ := hw.seekLinear_find c hint t ht hbef (fun x ex hx hxe => by
      rcases hsm with h0 | ⟨m', e', hm', hoff', hsm'⟩
      · have := hm0 h0; omega
      · have := getElem?_lt hm'
        obtain ⟨em, hml⟩ := exists_getElem? (show m < L.length by omega)
        cases Chain.idx_eq_of_off_eq hw.chain hm' hml (by rw [hoff', hbef.off_eq hml])
        exact hs.small_before hl hm' hsm' hxe (by omega))
    exact ⟨bi', hsl, hpos, hst.trans hs1⟩

theorem WfBlock.seek (hw : WfBlock data restarts num L) (c : BlockCmp)
    (hl : OrdLaws c.cmp) (hs : SortedKeys c.cmp (L.map (·.key)))
    (hint : c.internal = true → ∀ e ∈ L, 8 ≤ e.key.length) (t : Bytes)
    (ht : c.internal = true → 8 ≤ t.length) {bi : BlockIter} {p : Option Nat}
    (hpos : PosRel data restarts num L bi p) :
    ∃ bi', bi.seek c t = some bi' ∧
      PosRel data restarts num L bi' ((L.map (·.key)).findIdx? (fun k => c.cmp k t != .lt)) ∧
      bi'.status = bi.status := by
  have h0 : (c.internal && decide (t.length < 8)) = false := by
    cases hci : c.internal with
    | false => rfl
    | true => have := ht hci; simp only [Bool.true_and, decide_eq_false_iff_not]; omega
  have hnum := hw.num_pos
  have hv := hw.valid hpos
  unfold BlockIter.seek
  rw [h0, if_neg Bool.false_ne_true]
  cases p with
  | none =>
    simp only [hv, Option.isSome_none, Bool.false_eq_true, if_false, hpos.1.2.2]
    exact hw.seekFrom c hl hs hint t ht hpos.1 hnum (by omega) (.inl rfl) _ nofun
  | some i =>
    obtain ⟨hb, e, hi, he⟩ := hpos
    have hmem : e ∈ L := List.mem_of_getElem? hi
    simp only [hv, Option.isSome_some, if_true, he.2.1, c.compare_eq (fun h => hint h _ hmem) ht, hb.2.2]
    cases hcmp : c.cmp e.key t with
    | eq =>
      -- "we're seeking to the key we're already at"
      rw [hs.findIdx_of_eq hl hi hcmp]
      exact ⟨bi, rfl, ⟨hb, e, hi, he⟩, rfl⟩
    | gt => exact hw.seekFrom c hl hs hint t ht hb hnum he.2.2.2.1 (.inl rfl) _ nofun
    | lt =>
      have hsm0 : SmallAt data restarts L c.cmp t bi.restartIndex := by
        rcases Nat.eq_zero_or_pos bi.restartIndex with h0 | h0
        · exact .inl h0
        · obtain ⟨m0, e0, hm0, hoff0, _⟩ := hw.restart_ent h0 he.2.2.2.1
          have hle : m0 ≤ i :=
            Chain.idx_le_of_off_le hw.chain hm0 hi (by have := he.2.2.2.2.1; omega)
          exact .inr ⟨m0, e0, hm0, hoff0, hs.small_before hl hi hcmp hm0 hle⟩
      exact hw.seekFrom c hl hs hint t ht hb he.2.2.2.1 (by omega) hsm0 _
        (fun _ => ⟨i, e, hi, he, hcmp⟩)

def TRel (data : Bytes) (restarts num : Nat) (L : List Ent) (ti : TIter) (p : Option Nat) : Prop :=
  ∃ bi, ti = .block bi ∧ PosRel data restarts num L bi p ∧ bi.status = .ok

theorem WfBlock.create (hw : WfBlock data restarts num L) :
    TRel data restarts num L (blockIterCreate data) none := by
  have hsz := hw.size
  have hn := hw.num_pos
  have hinit : blockInit data = some restarts := by
    unfold blockInit
    have h1 : ¬ data.length < 4 := by omega
    have h2 : ¬ num > (data.length - 4) / 4 := by omega
    simp only [h1, if_false, hw.count, h2]
    congr 1; omega
  unfold blockIterCreate
  rw [hinit]
  have h3 : ¬ blockNumRestarts data = 0 := by rw [hw.count]; omega
  simp only [h3, if_false]
  exact ⟨_, rfl, ⟨⟨rfl, rfl, hw.count⟩, rfl⟩, rfl⟩

theorem TRel.lift {f : BlockIter → Option BlockIter} {ti : TIter} {p q : Option Nat}
    (hr : TRel data restarts num L ti p)
    (hf : ∀ bi, PosRel data restarts num L bi p → ∃ bi', f bi = some bi' ∧
      PosRel data restarts num L bi' q ∧ bi'.status = bi.status) :
    ∃ ti', TIter.lift f ti = some ti' ∧ TRel data restarts num L ti' q := by
  obtain ⟨bi, rfl, hpos, hst⟩ := hr
  obtain ⟨bi', h1, hpos', hst'⟩ := hf bi hpos
  exact ⟨.block bi', by rw [TIter.lift, h1]; rfl, bi', rfl, hpos', hst'.trans hst⟩

theorem PosRel.onBlock {bi : BlockIter} {p : Option Nat} (h : PosRel data restarts num L bi p) :
    OnBlock data restarts num bi := by
  cases p <;> exact h.1

theorem ite_isEmpty_keys {β : Type} (L : List Ent) (x y : β) :
    (if (L.map (·.key)).isEmpty then x else y) = if L.length = 0 then x else y := by
  cases L <;> rfl

theorem WfBlock.sim (hw : WfBlock data restarts num L) (c : BlockCmp)
    (hl : OrdLaws c.cmp) (hs : SortedKeys c.cmp (L.map (·.key)))
    (hint : c.internal = true → ∀ e ∈ L, 8 ≤ e.key.length) :
    IterOps.Sim (blockIterOps c) (cursorOps c.cmp (L.map (·.key))) (TRel data restarts num L)
      (fun x => c.internal = true → 8 ≤ x.length) := by
  have hvalid : ∀ s t, TRel data restarts num L s t → (blockIterOps c).valid s = t.isSome := by
    intro s t ⟨bi, hs', hpos, _⟩
    subst hs'
    exact hw.valid hpos
  have hon : ∀ s t, TRel data restarts num L s t → (blockIterOps c).valid s = true →
      ∃ i bi e, t = some i ∧ s = .block bi ∧ L[i]? = some e ∧ OnEntry data restarts num bi e := by
    intro s t hr hv
    rw [hvalid s t hr] at hv
    obtain ⟨bi, hs', hpos, _⟩ := hr
    cases t with
    | none => cases hv
    | some i => obtain ⟨_, e, hi, he⟩ := hpos; exact ⟨i, bi, e, rfl, hs', hi, he⟩
  refine ⟨hvalid, ?_, ?_, ?_, ?_, ?_, ?_, ?_⟩
  · intro s t hr hv
    obtain ⟨i, bi, e, rfl, rfl, hi, he⟩ := hon s t hr hv
    exact he.2.1.trans (keys_getD hi).symm
  · intro s t x hr hv hx
    obtain ⟨i, bi, e, rfl, rfl, hi, he⟩ := hon s t hr hv
    show c.compare bi.key x = some (c.cmp ((L.map (·.key)).getD i []) x) ∧ _
    rw [keys_getD hi, he.2.1, c.compare_eq (fun h => hint h _ (List.mem_of_getElem? hi)) hx]
    exact ⟨rfl, rfl⟩
  · intro s t hr
    obtain ⟨s', h1, hr'⟩ := hr.lift (fun bi hpos => hw.first c hint hpos.onBlock)
    exact ⟨s', _, h1, rfl, by rw [ite_isEmpty_keys]; exact hr'⟩
  · intro s t hr
    obtain ⟨s', h1, hr'⟩ := hr.lift (fun bi hpos => hw.last c hint hpos.onBlock)
    exact ⟨s', _, h1, rfl, by rw [ite_isEmpty_keys, List.length_map]; exact hr'⟩
  · intro s t hr hv
    obtain ⟨i, bi, e, rfl, rfl, _, _⟩ := hon s t hr hv
    obtain ⟨s', h1, hr'⟩ := hr.lift (fun bi hpos => hw.next c hint hpos)
    exact ⟨s', _, h1, rfl, by rw [List.length_map]; exact hr'⟩
  · intro s t hr hv
    obtain ⟨i, bi, e, rfl, rfl, _, _⟩ := hon s t hr hv
    obtain ⟨s', h1, hr'⟩ := hr.lift (fun bi hpos => hw.prev c hint hpos)
    exact ⟨s', _, h1, rfl, by cases i <;> exact hr'⟩
  · intro s t x hr hx
    obtain ⟨s', h1, hr'⟩ := hr.lift (fun bi hpos => hw.seek c hl hs hint x hx hpos)
    exact ⟨s', _, h1, rfl, hr'⟩

theorem OnEntry.valueBytes {bi : BlockIter} {e : Ent} (hb : OnBlock data restarts num bi)
    (he : OnEntry data restarts num bi e) : bi.valueBytes = e.value data := by
  simp only [BlockIter.valueBytes, he.2.2.1, hb.1, Ent.value, sliceAt]

theorem WfBlock.collect (hw : WfBlock data restarts num L) (c : BlockCmp)
    (hint : c.internal = true → ∀ e ∈ L, 8 ≤ e.key.length) :
    ∀ (fuel : Nat) (bi : BlockIter) (i : Nat) (acc : List (Bytes × Bytes)),
      i ≤ L.length → L.length < i + fuel →
      PosRel data restarts num L bi (if i < L.length then some i else none) → bi.status = .ok →
      collectGo c fuel bi acc = some (acc ++ entriesOf data (L.drop i)) := by
  intro fuel
  induction fuel with
  | zero => intro bi i acc hi hf; omega
  | succ fuel ih =>
    intro bi i acc hi hf hpos hst
    have hv := hw.valid hpos
    rw [collectGo]
    by_cases hil : i < L.length
    · rw [if_pos hil] at hpos hv
      obtain ⟨bi', hn, hposn, hstn⟩ := hw.next c hint hpos
      obtain ⟨hb, e, hie, he⟩ := hpos
      rw [if_pos (show bi.valid = true from hv), hn]
      dsimp only
      rw [ih bi' (i + 1) _ hil (by omega) hposn (hstn.trans hst), drop_of_getElem? hie, he.2.1,
        OnEntry.valueBytes hb he, List.append_assoc]
      rfl
    · rw [if_neg hil] at hv
      rw [if_neg (by rw [hv]; exact Bool.false_ne_true), if_pos hst,
        List.drop_eq_nil_of_le (Nat.le_of_not_lt hil)]
      exact congrArg some (List.append_nil acc).symm

theorem WfBlock.parse (hw : WfBlock data restarts num L) : blockParse data = some (entriesOf data L) := by
  obtain ⟨bi, hc, hpos, hst⟩ := hw.create
  have hint : bytewiseBlockCmp.internal = true → ∀ e ∈ L, 8 ≤ e.key.length := nofun
  obtain ⟨bi1, h1, hpos1, hst1⟩ := hw.first bytewiseBlockCmp hint hpos.1
  unfold blockParse
  rw [hc]
  dsimp only
  rw [h1]
  have hlen := Chain.length_le hw.chain
  have hsz := hw.size
  exact hw.collect bytewiseBlockCmp hint (data.length + 1) bi1 0 [] (Nat.zero_le _) (by omega)
    (by cases L <;> exact hpos1) (hst1.trans hst)

theorem WfBlock.sim_entries {es : List (Bytes × Bytes)} (hw : WfBlock data restarts num L)
    (hes : entriesOf data L = es) (c : BlockCmp) (hl : OrdLaws c.cmp)
    (hs : SortedKeys c.cmp (es.map (·.1))) (hik : c.internal = true → ∀ e ∈ es, 8 ≤ e.1.length) :
    IterOps.Sim (blockIterOps c) (cursorOps c.cmp (es.map (·.1))) (TRel data restarts num L)
      (fun x => c.internal = true → 8 ≤ x.length) := by
  subst hes
  rw [entriesOf_keys] at hs ⊢
  exact hw.sim c hl hs fun hc e he =>
    hik hc (e.key, e.value data) (List.mem_map.mpr ⟨e, he, rfl⟩)

theorem TRel.obs {es : List (Bytes × Bytes)} (hw : WfBlock data restarts num L)
    (hes : entriesOf data L = es) {ti : TIter} {p : Option Nat}
    (hr : TRel data restarts num L ti p) :
    ti.status = .ok ∧ ti.valid = p.isSome ∧
      ∀ i, p = some i → ∃ hi : i < es.length, ti.key = es[i].1 ∧ ti.value = es[i].2 := by
  obtain ⟨bi, rfl, hpos, hst⟩ := hr
  refine ⟨hst, hw.valid hpos, fun i hp => ?_⟩
  subst hp hes
  obtain ⟨hb, e, hi, he⟩ := hpos
  have hesi : (entriesOf data L)[i]? = some (e.key, e.value data) := by
    rw [entriesOf, List.getElem?_map, hi]; rfl
  obtain ⟨hi', hget⟩ := List.getElem?_eq_some_iff.mp hesi
  exact ⟨hi', by rw [hget]; exact he.2.1, by rw [hget]; exact OnEntry.valueBytes hb he⟩

end

end Lcdb
