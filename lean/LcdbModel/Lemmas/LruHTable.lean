/-
  The handle table of src/util/cache.c (`lru_table_t`, model in Model/LruHTable.lean) is a finite map
  from (key, hash) to entry: invariant `Inv`, abstraction `abs`, reference map `refRun`, and the refinement theorem
  `is_map` for every sequence of insert / remove / lookup (with the resizes the inserts trigger).
-/
import LcdbModel.Model.LruHTable
namespace Lcdb.LruCache.HTable

abbrev RefMap := Bytes × Nat → Option Nat

def refApply (m : RefMap) : HOp → RefMap × Option Nat
  | .insert k h id => (fun p => if p = (k, h) then some id else m p, m (k, h))
  | .remove k h => (fun p => if p = (k, h) then none else m p, m (k, h))
  | .lookup k h => (m, m (k, h))

def refRun : RefMap → List HOp → RefMap × List (Option Nat)
  | m, [] => (m, [])
  | m, op :: ops => let (m', r) := refApply m op; let (m'', rs) := refRun m' ops; (m'', r :: rs)

/-- what the table matches on -/
def Node.kh (n : Node) : Bytes × Nat := (n.key, n.hash)

/-- The invariant that holds at every point, also between the `elems++` and the resize of an insert
    (where `elems` may exceed `length`). -/
structure Inv' (t : HTable) : Prop where
  /-- `length > 0`, so `hash & (length - 1) < length`: no out-of-bounds bucket read -/
  pos : 0 < t.buckets.length
  home : ∀ i b, t.buckets[i]? = some b → ∀ n ∈ b, idx n.hash t.buckets.length = i
  nodup : (t.buckets.flatten.map Node.kh).Nodup
  /-- the C `assert(tbl->elems == count)` of `lru_table_resize` -/
  count : t.elems = t.buckets.flatten.length

/-- Well-formedness of the table between operations. -/
structure Inv (t : HTable) : Prop extends Inv' t where
  /-- load factor ≤ 1 after every operation.  The doubling loop of the model has fuel for 64 doublings
      from 4, so the statement is capped at `2^66` buckets (`elems` is a `uint32_t` in C: see `load_le`). -/
  load : min t.elems (2 ^ 66) ≤ t.buckets.length
  pow2 : ∃ k, t.buckets.length = 2 ^ k ∧ 2 ≤ k

def abs (t : HTable) : RefMap := fun p => (lookup t p.1 p.2).map (·.id)

theorem Inv.load_le {t : HTable} (h : Inv t) (he : t.elems ≤ 2 ^ 66) : t.elems ≤ t.buckets.length := by
  have := h.load; omega

theorem Node.is_iff {n : Node} {k : Bytes} {h : Nat} : n.is k h = true ↔ n.kh = (k, h) := by
  simp [Node.is, Node.kh]; exact And.comm

theorem idx_lt {h len : Nat} (hl : 0 < len) : idx h len < len := by
  have : idx h len ≤ len - 1 := Nat.and_le_right
  omega

abbrev ChainOk (b : List Node) : Prop := (b.map Node.kh).Nodup

theorem chainFind_eq_some_iff {k h n} {b : List Node} (hb : ChainOk b) :
    chainFind k h b = some n ↔ n ∈ b ∧ n.kh = (k, h) := by
  induction b with
  | nil => simp [chainFind]
  | cons m rest ih =>
    simp only [ChainOk, List.map_cons, List.nodup_cons, List.mem_map, not_exists, not_and] at hb
    simp only [chainFind, List.mem_cons]
    split
    · rename_i hm
      rw [Node.is_iff] at hm
      constructor
      · intro h; cases h; exact ⟨.inl rfl, hm⟩
      · rintro ⟨rfl | hr, hk⟩
        · rfl
        · exact absurd (hk.trans hm.symm) (hb.1 n hr)
    · rename_i hm
      rw [Node.is_iff] at hm
      rw [ih hb.2]
      constructor
      · rintro ⟨h1, h2⟩; exact ⟨.inr h1, h2⟩
      · rintro ⟨rfl | hr, hk⟩
        · exact absurd hk hm
        · exact ⟨hr, hk⟩

/-- a chain without duplicates has at most one match, so removing the first match removes all -/
theorem chainRemove_eq_filter {k h} {b : List Node} (hb : ChainOk b) :
    chainRemove k h b = b.filter (fun n => !n.is k h) := by
  induction b with
  | nil => rfl
  | cons m rest ih =>
    simp only [ChainOk, List.map_cons, List.nodup_cons, List.mem_map, not_exists, not_and] at hb
    simp only [chainRemove, List.filter_cons]
    split
    · rename_i hm
      simp only [hm, Bool.not_true, Bool.false_eq_true, if_false]
      rw [Node.is_iff] at hm
      refine (List.filter_eq_self.2 fun a ha => ?_).symm
      have : ¬ a.is k h = true := fun h' => hb.1 a ha ((Node.is_iff.1 h').trans hm.symm)
      simpa using this
    · rename_i hm
      simp only [hm, Bool.not_false, if_true, ih hb.2]

theorem mem_chainRemove {k h n} {b : List Node} (hb : ChainOk b) :
    n ∈ chainRemove k h b ↔ n ∈ b ∧ n.kh ≠ (k, h) := by
  rw [chainRemove_eq_filter hb, List.mem_filter, Ne, ← Node.is_iff]; simp

theorem chainRemove_ok {k h} {b : List Node} (hb : ChainOk b) : ChainOk (chainRemove k h b) := by
  rw [chainRemove_eq_filter hb]; exact hb.sublist ((List.filter_sublist).map _)

theorem length_chainRemove {k h} {b : List Node} :
    (chainRemove k h b).length + (if (chainFind k h b).isSome then 1 else 0) = b.length := by
  induction b with
  | nil => simp [chainRemove, chainFind]
  | cons m rest ih =>
    simp only [chainRemove, chainFind]
    split
    · simp
    · simp only [List.length_cons]; omega

theorem chainInsert_perm (x : Node) (b : List Node) :
    (chainInsert x b).Perm (x :: chainRemove x.key x.hash b) := by
  induction b with
  | nil => exact .refl _
  | cons m rest ih =>
    simp only [chainInsert, chainRemove]
    split
    · exact .refl _
    · exact ((ih.cons m).trans (List.Perm.swap x m _))

theorem mem_chainInsert {x n} {b : List Node} (hb : ChainOk b) :
    n ∈ chainInsert x b ↔ n = x ∨ (n ∈ b ∧ n.kh ≠ x.kh) := by
  rw [(chainInsert_perm x b).mem_iff, List.mem_cons, mem_chainRemove hb]; rfl

theorem chainInsert_ok {x} {b : List Node} (hb : ChainOk b) : ChainOk (chainInsert x b) := by
  refine (((chainInsert_perm x b).map Node.kh).nodup_iff).2 ?_
  rw [List.map_cons, List.nodup_cons, List.mem_map]
  exact ⟨fun ⟨a, ha, hk⟩ => ((mem_chainRemove hb).1 ha).2 hk, chainRemove_ok hb⟩

theorem mem_flatten_iff_getElem? {n : Node} {L : List (List Node)} :
    n ∈ L.flatten ↔ ∃ (j : Nat) (b : List Node), L[j]? = some b ∧ n ∈ b := by
  rw [List.mem_flatten]
  constructor
  · rintro ⟨b, hb, hn⟩
    obtain ⟨j, hj⟩ := List.mem_iff_getElem?.1 hb
    exact ⟨j, b, hj, hn⟩
  · rintro ⟨j, b, hj, hn⟩
    exact ⟨b, List.mem_iff_getElem?.2 ⟨j, hj⟩, hn⟩

theorem nodup_of_local (len : Nat) (L : List (List Node))
    (hhome : ∀ i b, L[i]? = some b → ∀ n ∈ b, idx n.hash len = i) (hloc : ∀ b ∈ L, ChainOk b) :
    (L.flatten.map Node.kh).Nodup := by
  rw [List.map_flatten]
  refine List.pairwise_flatten.2 ⟨fun l hl => ?_, ?_⟩
  · obtain ⟨b, hb, rfl⟩ := List.mem_map.1 hl; exact hloc b hb
  · rw [List.pairwise_map, List.pairwise_iff_getElem]
    intro i j hi hj hij x hx y hy hxy
    obtain ⟨a, ha, rfl⟩ := List.mem_map.1 hx
    obtain ⟨a', ha', rfl⟩ := List.mem_map.1 hy
    have h1 := hhome i _ (List.getElem?_eq_getElem hi) a ha
    have h2 := hhome j _ (List.getElem?_eq_getElem hj) a' ha'
    have := congrArg (fun p : Bytes × Nat => idx p.2 len) hxy
    simp only [Node.kh] at this
    omega

theorem length_flatten_modify {L : List (List Node)} {i : Nat} {b} (f : List Node → List Node)
    (hb : L[i]? = some b) : (L.modify i f).flatten.length + b.length = L.flatten.length + (f b).length := by
  obtain ⟨hi, hb⟩ := List.getElem?_eq_some_iff.1 hb
  have hL := congrArg (·.flatten.length) (List.take_append_drop i L)
  rw [List.drop_eq_getElem_cons hi] at hL
  simp only [List.modify_eq_take_cons_drop hi, hb, List.flatten_append, List.flatten_cons, List.length_append] at hL ⊢
  omega

theorem Inv'.chainOk {t : HTable} (hI : Inv' t) {i : Nat} {b} (hb : t.buckets[i]? = some b) : ChainOk b := by
  have h := hI.nodup
  rw [List.map_flatten] at h
  exact (List.pairwise_flatten.1 h).1 _ (List.mem_map_of_mem (List.mem_iff_getElem?.2 ⟨i, hb⟩))

theorem Inv'.bucket {t : HTable} (hI : Inv' t) (h : Nat) :
    ∃ b, t.buckets[idx h t.buckets.length]? = some b :=
  ⟨_, List.getElem?_eq_getElem (idx_lt hI.pos)⟩

theorem getElem?_modify_eq_some {L : List (List Node)} {i j : Nat} {b b' : List Node} {f : List Node → List Node}
    (hb : L[i]? = some b) : (L.modify i f)[j]? = some b' ↔ (j = i ∧ b' = f b) ∨ (j ≠ i ∧ L[j]? = some b') := by
  rw [List.getElem?_modify]
  by_cases hij : i = j
  · subst hij; simp [hb, eq_comm]
  · simp [hij, Ne.symm hij]

theorem mem_flatten_modify {t : HTable} (hI : Inv' t) {i b} (hb : t.buckets[i]? = some b)
    (f : List Node → List Node) {Q P : Node → Prop} (hf : ∀ n, n ∈ f b ↔ Q n ∨ (n ∈ b ∧ P n))
    (hP : ∀ n, idx n.hash t.buckets.length ≠ i → P n) (n : Node) :
    n ∈ (t.buckets.modify i f).flatten ↔ Q n ∨ (n ∈ t.buckets.flatten ∧ P n) := by
  simp only [mem_flatten_iff_getElem?, getElem?_modify_eq_some hb]
  constructor
  · rintro ⟨j, b', ⟨rfl, rfl⟩ | ⟨hj, hc⟩, hn⟩
    · rcases (hf n).1 hn with h | h
      · exact .inl h
      · exact .inr ⟨⟨_, b, hb, h.1⟩, h.2⟩
    · exact .inr ⟨⟨j, b', hc, hn⟩, hP n (by rw [hI.home j b' hc n hn]; exact hj)⟩
  · rintro (h | ⟨⟨j, c, hc, hn⟩, hp⟩)
    · exact ⟨i, f b, .inl ⟨rfl, rfl⟩, (hf n).2 (.inl h)⟩
    · by_cases hji : j = i
      · subst hji; rw [hb] at hc; cases hc
        exact ⟨j, f b, .inl ⟨rfl, rfl⟩, (hf n).2 (.inr ⟨hn, hp⟩)⟩
      · exact ⟨j, c, .inr ⟨hji, hc⟩, hn⟩

theorem inv'_modify {t : HTable} (hI : Inv' t) {i b} (hb : t.buckets[i]? = some b)
    (f : List Node → List Node) (e' : Nat) (hok : ChainOk (f b))
    (hhome : ∀ n ∈ f b, idx n.hash t.buckets.length = i)
    (hcount : e' + b.length = t.elems + (f b).length) :
    Inv' { buckets := t.buckets.modify i f, elems := e' } := by
  have hget := fun j b' => (getElem?_modify_eq_some (f := f) (j := j) (b' := b') hb).1
  have hh : ∀ j b', (t.buckets.modify i f)[j]? = some b' → ∀ n ∈ b', idx n.hash t.buckets.length = j := by
    intro j b' hj n hn
    rcases hget j b' hj with ⟨rfl, rfl⟩ | ⟨_, hj'⟩
    · exact hhome n hn
    · exact hI.home j b' hj' n hn
  refine ⟨by simpa using hI.pos, by simpa only [List.length_modify] using hh, ?_, ?_⟩
  · refine nodup_of_local t.buckets.length _ hh fun b' hb' => ?_
    obtain ⟨j, hj⟩ := List.mem_iff_getElem?.1 hb'
    rcases hget j b' hj with ⟨rfl, rfl⟩ | ⟨_, hj'⟩
    · exact hok
    · exact hI.chainOk hj'
  · have := length_flatten_modify f hb
    have := hI.count
    simp only at *
    omega

theorem lookup_eq_some_iff {t : HTable} (hI : Inv' t) {k h n} :
    lookup t k h = some n ↔ n ∈ t.buckets.flatten ∧ n.kh = (k, h) := by
  obtain ⟨b, hb⟩ := hI.bucket h
  simp only [lookup, hb, Option.bind_some]
  rw [chainFind_eq_some_iff (hI.chainOk hb)]
  constructor
  · rintro ⟨hn, hk⟩
    exact ⟨mem_flatten_iff_getElem?.2 ⟨_, b, hb, hn⟩, hk⟩
  · rintro ⟨hn, hk⟩
    obtain ⟨j, c, hc, hnc⟩ := mem_flatten_iff_getElem?.1 hn
    have hj := hI.home j c hc n hnc
    have : n.hash = h := by simp only [Node.kh, Prod.mk.injEq] at hk; exact hk.2
    rw [this] at hj
    rw [← hj, hb] at hc
    cases hc
    exact ⟨hnc, hk⟩

theorem abs_congr {t t' : HTable} (hI : Inv' t) (hI' : Inv' t')
    (hm : ∀ n, n ∈ t'.buckets.flatten ↔ n ∈ t.buckets.flatten) : abs t' = abs t := by
  funext p
  have : lookup t' p.1 p.2 = lookup t p.1 p.2 :=
    Option.ext fun n => by rw [lookup_eq_some_iff hI, lookup_eq_some_iff hI', hm]
  simp only [abs, this]

theorem modify_spec {t : HTable} (hI : Inv' t) (k : Bytes) (h : Nat) {b} (hb : t.buckets[idx h t.buckets.length]? = some b)
    (f : List Node → List Node) (v : Option Node) (e' : Nat) (hok : ChainOk (f b))
    (hf : ∀ n, n ∈ f b ↔ v = some n ∨ (n ∈ b ∧ n.kh ≠ (k, h))) (hv : ∀ n, v = some n → n.kh = (k, h))
    (hcount : e' + b.length = t.elems + (f b).length) :
    Inv' { buckets := t.buckets.modify (idx h t.buckets.length) f, elems := e' } ∧
      abs { buckets := t.buckets.modify (idx h t.buckets.length) f, elems := e' } =
        fun p => if p = (k, h) then v.map (·.id) else abs t p := by
  have hI1 := inv'_modify hI hb f e' hok (fun n hn => by
    rcases (hf n).1 hn with hn | hn
    · exact congrArg (fun p => idx p.2 t.buckets.length) (hv n hn)
    · exact hI.home _ b hb n hn.1) hcount
  have hmem := mem_flatten_modify hI hb f hf (fun n hn hk => hn (congrArg (fun p => idx p.2 t.buckets.length) hk))
  refine ⟨hI1, funext fun p => ?_⟩
  have hl : ∀ n, lookup _ p.1 p.2 = some n ↔ (v = some n ∨ n ∈ t.buckets.flatten ∧ n.kh ≠ (k, h)) ∧ n.kh = p :=
    fun n => by rw [lookup_eq_some_iff hI1, hmem]
  by_cases hp : p = (k, h)
  · subst hp
    have : lookup _ k h = v := Option.ext fun n => by
      rw [hl]; exact ⟨fun h => h.1.resolve_right fun h' => h'.2 h.2, fun h => ⟨.inl h, hv n h⟩⟩
    simp [abs, this]
  · have : lookup _ p.1 p.2 = lookup t p.1 p.2 := Option.ext fun n => by
      rw [hl, lookup_eq_some_iff hI]
      exact ⟨fun h => ⟨(h.1.resolve_left fun h' => hp (h.2.symm.trans (hv n h'))).1, h.2⟩,
        fun h => ⟨.inr ⟨h.1, fun h' => hp (h.2.symm.trans h')⟩, h.2⟩⟩
    simp [abs, this, hp]

/-- the loop doubles `j` times and stops when the fuel is spent or `elems ≤ new_length` -/
theorem newLength_spec (fuel len e : Nat) :
    ∃ j, newLength fuel len e = len * 2 ^ j ∧ (j = fuel ∨ e ≤ len * 2 ^ j) := by
  induction fuel generalizing len with
  | zero => exact ⟨0, (Nat.mul_one _).symm, .inl rfl⟩
  | succ f ih =>
    simp only [newLength]
    split
    · obtain ⟨j, h1, h2⟩ := ih (len * 2)
      rw [Nat.mul_assoc, ← Nat.pow_succ'] at h1 h2
      exact ⟨j + 1, h1, h2.imp (congrArg (· + 1)) id⟩
    · exact ⟨0, (Nat.mul_one _).symm, .inr (by omega)⟩

theorem inv'_replicate {len : Nat} (hl : 0 < len) : Inv' { buckets := List.replicate len [], elems := 0 } := by
  have hf : (List.replicate len ([] : List Node)).flatten = [] := by
    simp
  refine ⟨by simpa using hl, ?_, by simp [hf], by simp [hf]⟩
  intro i b hb n hn
  simp only [List.getElem?_replicate] at hb
  split at hb
  · cases hb; simp at hn
  · cases hb

theorem foldl_pushNode (ns : List Node) : ∀ (bs : List (List Node)) (e : Nat),
    Inv' { buckets := bs, elems := e } → (ns.map Node.kh).Nodup →
    (∀ a ∈ bs.flatten, ∀ b ∈ ns, a.kh ≠ b.kh) →
    Inv' { buckets := ns.foldl pushNode bs, elems := e + ns.length } ∧
      (ns.foldl pushNode bs).length = bs.length ∧
      ∀ n, n ∈ (ns.foldl pushNode bs).flatten ↔ n ∈ bs.flatten ∨ n ∈ ns := by
  induction ns with
  | nil => intro bs e hI _ _; exact ⟨hI, rfl, by simp⟩
  | cons x ns ih =>
    intro bs e hI hnd hdis
    simp only [List.map_cons, List.nodup_cons, List.mem_map, not_exists, not_and] at hnd
    obtain ⟨b, hb⟩ := hI.bucket x.hash
    simp only at hb
    have hmem : ∀ n, n ∈ (pushNode bs x).flatten ↔ n ∈ bs.flatten ∨ n = x := fun n => by
      rw [pushNode, mem_flatten_modify (t := ⟨bs, e⟩) hI hb _ (Q := (· = x)) (P := fun _ => True)
        (fun _ => by simp) (fun _ _ => trivial), and_true, or_comm]
    have hI1 : Inv' { buckets := pushNode bs x, elems := e + 1 } := by
      refine inv'_modify (t := ⟨bs, e⟩) hI hb (x :: ·) (e + 1) ?_ ?_ ?_
      · simp only [ChainOk, List.map_cons, List.nodup_cons, List.mem_map, not_exists, not_and]
        refine ⟨fun a ha => ?_, hI.chainOk hb⟩
        exact hdis a (mem_flatten_iff_getElem?.2 ⟨_, b, hb, ha⟩) x (by simp)
      · intro n hn
        rcases List.mem_cons.1 hn with rfl | hn
        · rfl
        · exact hI.home _ b hb n hn
      · simp only [List.length_cons]; omega
    have := ih (pushNode bs x) (e + 1) hI1 hnd.2 (by
      intro a ha c hc
      rcases (hmem a).1 ha with ha | rfl
      · exact hdis a ha c (by simp [hc])
      · exact fun hk => hnd.1 c hc hk.symm)
    simp only [List.foldl_cons, List.length_cons]
    refine ⟨by rw [show e + (ns.length + 1) = e + 1 + ns.length by omega]; exact this.1,
      by rw [this.2.1]; simp [pushNode], fun n => ?_⟩
    rw [this.2.2 n, hmem n, List.mem_cons, or_assoc]

/-- `lru_table_resize` needs only: no duplicate (key, hash), and `elems` = number of nodes
    (so it also covers `lru_table_init`, where the old table is empty with `length = 0`) -/
theorem resize_spec (t : HTable) (hnd : (t.buckets.flatten.map Node.kh).Nodup)
    (hc : t.elems = t.buckets.flatten.length) :
    Inv (resize t) ∧ ∀ n, n ∈ (resize t).buckets.flatten ↔ n ∈ t.buckets.flatten := by
  obtain ⟨j, hj, hge⟩ := newLength_spec 64 4 t.elems
  have hl : 0 < newLength 64 4 t.elems := hj ▸ Nat.mul_pos (by decide) (Nat.two_pow_pos j)
  have := foldl_pushNode t.buckets.flatten _ 0 (inv'_replicate hl) hnd (by
    intro a ha; simp at ha)
  simp only [Nat.zero_add, ← hc] at this
  have hlen : (resize t).buckets.length = newLength 64 4 t.elems := by
    simp only [resize, this.2.1, List.length_replicate]
  refine ⟨⟨this.1, ?_, 2 + j, by rw [hlen, hj, Nat.pow_add], Nat.le_add_right 2 j⟩,
    fun n => by simp only [resize, this.2.2 n]; simp⟩
  rw [hlen, hj]
  rcases hge with rfl | hge
  · exact Nat.le_trans (Nat.min_le_right _ _) (by decide)
  · exact Nat.le_trans (Nat.min_le_left _ _) hge

theorem resize_abs (t : HTable) (hI : Inv' t) : abs (resize t) = abs t :=
  abs_congr hI (resize_spec t hI.nodup hI.count).1.toInv' (resize_spec t hI.nodup hI.count).2

theorem init_spec : Inv init ∧ ∀ n, n ∉ init.buckets.flatten := by
  have := resize_spec { buckets := [], elems := 0 } (by simp) (by simp)
  exact ⟨this.1, fun n hn => by simpa using (this.2 n).1 hn⟩

theorem init_abs : abs init = fun _ => none := by
  funext p
  cases hl : lookup init p.1 p.2 with
  | none => simp [abs, hl]
  | some n => exact absurd ((lookup_eq_some_iff init_spec.1.toInv').1 hl).1 (init_spec.2 n)

theorem insert_spec {t : HTable} (hI : Inv t) (x : Node) :
    Inv (insert t x).1 ∧ (insert t x).2 = lookup t x.key x.hash ∧
      abs (insert t x).1 = fun p => if p = x.kh then some x.id else abs t p := by
  have hI' := hI.toInv'
  obtain ⟨b, hb⟩ := hI'.bucket x.hash
  have hcb := hI'.chainOk hb
  have hlen := length_chainRemove (k := x.key) (h := x.hash) (b := b)
  rw [← show lookup t x.key x.hash = chainFind x.key x.hash b by simp [lookup, hb]] at hlen
  have hins : (chainInsert x b).length = (chainRemove x.key x.hash b).length + 1 := (chainInsert_perm x b).length_eq
  have hm := fun e' => modify_spec hI' x.key x.hash hb (chainInsert x) (some x) e' (chainInsert_ok hcb)
    (fun n => by rw [mem_chainInsert hcb, Option.some.injEq, eq_comm]; rfl) (fun n h => by cases h; rfl)
  cases hold : lookup t x.key x.hash with
  | some o =>
    rw [hold] at hlen
    obtain ⟨hI1, ha⟩ := hm t.elems (by simp only [Option.isSome_some, if_true] at hlen; omega)
    simp only [insert, hold]
    exact ⟨⟨hI1, by simpa only [List.length_modify] using hI.load, by simpa only [List.length_modify] using hI.pow2⟩,
      trivial, ha⟩
  | none =>
    rw [hold] at hlen
    obtain ⟨hI1, ha⟩ := hm (t.elems + 1) (by simp only [Option.isSome_none, Bool.false_eq_true, if_false] at hlen; omega)
    simp only [insert, hold]
    refine ⟨?_, trivial, ?_⟩
    · split
      · exact (resize_spec _ hI1.nodup hI1.count).1
      · rename_i hgt
        refine ⟨hI1, ?_, by simpa only [List.length_modify] using hI.pow2⟩
        simp only [List.length_modify, gt_iff_lt, Nat.not_lt] at hgt ⊢
        exact Nat.le_trans (Nat.min_le_left _ _) hgt
    · split
      · rw [resize_abs _ hI1]; exact ha
      · exact ha

theorem remove_spec {t : HTable} (hI : Inv t) (k : Bytes) (h : Nat) :
    Inv (remove t k h).1 ∧ (remove t k h).2 = lookup t k h ∧
      abs (remove t k h).1 = fun p => if p = (k, h) then none else abs t p := by
  have hI' := hI.toInv'
  cases hold : lookup t k h with
  | none =>
    simp only [remove, hold]
    refine ⟨hI, trivial, funext fun p => ?_⟩
    split
    · rename_i hp; subst hp; simp [abs, hold]
    · rfl
  | some o =>
    obtain ⟨b, hb⟩ := hI'.bucket h
    have hcb := hI'.chainOk hb
    have hlen := length_chainRemove (k := k) (h := h) (b := b)
    rw [← show lookup t k h = chainFind k h b by simp [lookup, hb], hold] at hlen
    simp only [Option.isSome_some, if_true] at hlen
    have hble : b.length ≤ t.buckets.flatten.length := by
      have := length_flatten_modify (fun _ => []) hb
      simp only [List.length_nil] at this
      omega
    have hcnt := hI'.count
    obtain ⟨hI1, ha⟩ := modify_spec hI' k h hb (chainRemove k h) none (t.elems - 1) (chainRemove_ok hcb)
      (fun n => by rw [mem_chainRemove hcb]; simp) nofun (by omega)
    simp only [remove, hold]
    refine ⟨⟨hI1, ?_, by simpa only [List.length_modify] using hI.pow2⟩, trivial, ha⟩
    simp only [List.length_modify]
    exact Nat.le_trans (Nat.le_min.2 ⟨Nat.le_trans (Nat.min_le_left _ _) (Nat.sub_le _ _), Nat.min_le_right _ _⟩) hI.load

theorem apply_inv (t : HTable) (op : HOp) (hI : Inv t) : Inv (apply t op).1 := by
  cases op with
  | insert k h id => exact (insert_spec hI ⟨k, h, id⟩).1
  | remove k h => exact (remove_spec hI k h).1
  | lookup k h => exact hI

theorem apply_abs (t : HTable) (op : HOp) (hI : Inv t) :
    abs (apply t op).1 = (refApply (abs t) op).1 ∧ (apply t op).2 = (refApply (abs t) op).2 := by
  cases op with
  | insert k h id =>
    have hs := insert_spec hI ⟨k, h, id⟩
    refine ⟨hs.2.2, ?_⟩
    simp only [apply, refApply, abs, hs.2.1]
  | remove k h =>
    have hs := remove_spec hI k h
    refine ⟨hs.2.2, ?_⟩
    simp only [apply, refApply, abs, hs.2.1]
  | lookup k h => exact ⟨rfl, rfl⟩

theorem runOps_refines (ops : List HOp) : ∀ (t : HTable), Inv t →
    (runOps t ops).2 = (refRun (abs t) ops).2 ∧ abs (runOps t ops).1 = (refRun (abs t) ops).1 ∧
      Inv (runOps t ops).1 := by
  induction ops with
  | nil => intro t hI; exact ⟨rfl, rfl, hI⟩
  | cons op ops ih =>
    intro t hI
    have ha := apply_abs t op hI
    have := ih (apply t op).1 (apply_inv t op hI)
    rw [ha.1] at this
    simp only [runOps, refRun]
    exact ⟨by rw [this.1, ha.2], this.2.1, this.2.2⟩

theorem is_map (ops : List HOp) :
    (runOps init ops).2 = (refRun (fun _ => none) ops).2 ∧
      abs (runOps init ops).1 = (refRun (fun _ => none) ops).1 ∧ Inv (runOps init ops).1 := by
  have := runOps_refines ops init init_spec.1
  rwa [init_abs] at this

theorem length_pow2 (ops : List HOp) :
    ∃ k, (runOps init ops).1.buckets.length = 2 ^ k ∧ 2 ≤ k := (is_map ops).2.2.pow2

/-- `elems` is a `uint32_t` in C -/
theorem load_le (ops : List HOp) (h : (runOps init ops).1.elems < 2 ^ 32) :
    (runOps init ops).1.elems ≤ (runOps init ops).1.buckets.length :=
  (is_map ops).2.2.load_le (by omega)

/-! ## non-vacuity: a concrete run (7 inserts incl. a replace and two chain collisions, the resize 4 → 8 at the
    fifth distinct key, removes of a present and of an absent key, same key bytes under another hash) -/

def demoOps : List HOp :=
  [ .insert [1] 1 10, .insert [2] 2 20, .insert [3] 5 30, .insert [1] 1 11, .insert [4] 3 40,
    .insert [5] 9 50, .insert [6] 13 60, .lookup [3] 5, .remove [2] 2, .lookup [2] 2, .remove [2] 2,
    .lookup [1] 1, .lookup [1] 5 ]

example : (runOps init demoOps).2 =
    [none, none, none, some 10, none, none, none, some 30, some 20, none, none, some 11, none] := by decide +kernel

example : (refRun (fun _ => none) demoOps).2 =
    [none, none, none, some 10, none, none, none, some 30, some 20, none, none, some 11, none] := by decide +kernel

example : (runOps init (demoOps.take 5)).1.buckets.length = 4 ∧ (runOps init (demoOps.take 6)).1.buckets.length = 8 ∧
    (runOps init demoOps).1.elems = 5 ∧ (runOps init demoOps).1.buckets.map (·.map (·.id)) =
      [[], [50, 11], [], [40], [], [30, 60], [], []] := by decide +kernel

example : Inv (runOps init demoOps).1 := (is_map demoOps).2.2

end Lcdb.LruCache.HTable
