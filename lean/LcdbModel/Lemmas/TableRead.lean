/-
  Lemmas about `pread`, `readBlock` (ldb_read_block) and `writeBlock`, up to the write/read round trip.
-/
import LcdbModel.Model.Table
import LcdbModel.Props.CrcProps
import LcdbModel.Props.SnappyProps
import LcdbModel.Props.CodingProps
namespace Lcdb

theorem pread_length (f : Bytes) (off n : Nat) : (pread f off n).length = min n (f.length - off) := by
  simp only [pread, List.length_take, List.length_drop]

theorem pread_length_le (f : Bytes) (off n : Nat) : (pread f off n).length ≤ n := by
  rw [pread_length]; exact Nat.min_le_left _ _

theorem pread_length_le_file (f : Bytes) (off n : Nat) : (pread f off n).length ≤ f.length - off := by
  rw [pread_length]; exact Nat.min_le_right _ _

theorem pread_length_eq_of_le (f : Bytes) (off n : Nat) (h : off + n ≤ f.length) :
    (pread f off n).length = n := by
  rw [pread_length]; exact Nat.min_eq_left (Nat.le_sub_of_add_le' h)

theorem pread_append_mid (pre mid suf : Bytes) : pread (pre ++ mid ++ suf) pre.length mid.length = mid := by
  simp only [pread, List.append_assoc, List.drop_left', List.take_left']

theorem pread_pread (f : Bytes) (off n a m : Nat) (h : a + m ≤ n) :
    pread (pread f off n) a m = pread f (off + a) m := by
  simp only [pread, List.drop_take, List.take_take, List.drop_drop]
  congr 1
  omega

theorem pread_zero_take (f : Bytes) (off n m : Nat) (h : m ≤ n) :
    (pread f off n).take m = pread f off m := by
  simp only [pread, List.take_take]
  congr 1
  omega

theorem pread_drop_take (f : Bytes) (off n a m : Nat) (h : a + m ≤ n) :
    ((pread f off n).drop a).take m = pread f (off + a) m := by
  have := pread_pread f off n a m h
  simpa only [pread] using this

theorem pread_congr_sub (f f' : Bytes) (off n a m : Nat) (h : pread f' off n = pread f off n)
    (ham : a + m ≤ n) : pread f' (off + a) m = pread f (off + a) m := by
  rw [← pread_pread f' off n a m ham, ← pread_pread f off n a m ham, h]

theorem sliceC_of_le (raw : Bytes) (a m : Nat) (h : a + m ≤ raw.length) :
    sliceC raw a m = some ((raw.drop a).take m) := by
  simp only [sliceC, h, if_true]

theorem blockCrcOk_of_length (raw : Bytes) (n : Nat) (h : raw.length = n + 5) :
    blockCrcOk raw n =
      some (crcUnmask (BitVec.ofNat 32 (fixedDec ((raw.drop (n + 1)).take 4))) == crcExtendTab 0 (raw.take (n + 1))) := by
  unfold blockCrcOk
  rw [sliceC_of_le raw (n + 1) 4 (by omega), sliceC_of_le raw 0 (n + 1) (by omega)]
  simp only [List.drop_zero]

theorem blockCrcOk_ne_none (raw : Bytes) (n : Nat) (h : raw.length = n + 5) : blockCrcOk raw n ≠ none := by
  rw [blockCrcOk_of_length raw n h]; exact Option.some_ne_none _

theorem readBlockBody_ne_fault (raw : Bytes) (n : Nat) (h : n < raw.length) :
    readBlockBody raw n ≠ .error .fault := by
  unfold readBlockBody
  obtain ⟨ty, h1⟩ : ∃ ty, raw[n]? = some ty := ⟨_, List.getElem?_eq_getElem h⟩
  rw [h1, sliceC_of_le raw 0 n (by omega)]
  simp only
  split
  · intro hh; cases hh
  · split
    · split
      · intro hh; cases hh
      · split
        · intro hh; cases hh
        · intro hh; cases hh
    · intro hh; cases hh

theorem readBlock_eq_of_length (f : Bytes) (off size : Nat) (v : Bool)
    (hs : size ≤ 2 ^ 64 - 1 - 5) (hl : (pread f off (size + 5)).length = size + 5) :
    readBlock f off size v =
      if v then
        match blockCrcOk (pread f off (size + 5)) size with
        | none => .error .fault
        | some false => .error .corruption
        | some true => readBlockBody (pread f off (size + 5)) size
      else readBlockBody (pread f off (size + 5)) size := by
  unfold readBlock
  rw [if_neg (show ¬ size > 2 ^ 64 - 1 - blockTrailerSize from by simp only [blockTrailerSize]; omega)]
  exact if_neg (show ¬ (pread f off (size + 5)).length ≠ size + 5 from fun h => h hl)

theorem readBlock_cases (f : Bytes) (off size : Nat) (v : Bool) :
    readBlock f off size v = .error .corruption ∨ readBlock f off size v = .error .io ∨
      (size ≤ 2 ^ 64 - 1 - 5 ∧ (pread f off (size + 5)).length = size + 5) := by
  unfold readBlock
  by_cases hs : size > 2 ^ 64 - 1 - blockTrailerSize
  · exact .inl (if_pos hs)
  · rw [if_neg hs]
    by_cases hl : (pread f off (size + 5)).length = size + 5
    · exact .inr (.inr ⟨Nat.le_of_not_gt hs, hl⟩)
    · exact .inr (.inl (if_pos hl))

theorem readBlock_total (file : Bytes) (off size : Nat) (verify : Bool) :
    readBlock file off size verify ≠ .error .fault := by
  rcases readBlock_cases file off size verify with h | h | ⟨hs, hl⟩
  · rw [h]; intro hh; cases hh
  · rw [h]; intro hh; cases hh
  · rw [readBlock_eq_of_length file off size verify hs hl]
    have hbody := readBlockBody_ne_fault (pread file off (size + 5)) size (by omega)
    cases verify with
    | false => exact hbody
    | true =>
      simp only [if_true]
      split
      · rename_i heq; exact absurd heq (blockCrcOk_ne_none _ _ hl)
      · intro hh; cases hh
      · exact hbody

theorem readBlock_ok_true {f : Bytes} {off size : Nat} {c : Bytes} (h : readBlock f off size true = .ok c) :
    size ≤ 2 ^ 64 - 1 - 5 ∧ (pread f off (size + 5)).length = size + 5 ∧
    blockCrcOk (pread f off (size + 5)) size = some true ∧
    readBlockBody (pread f off (size + 5)) size = .ok c := by
  rcases readBlock_cases f off size true with h' | h' | ⟨hs, hl⟩
  · rw [h'] at h; cases h
  · rw [h'] at h; cases h
  rw [readBlock_eq_of_length f off size true hs hl] at h
  simp only [if_true] at h
  refine ⟨hs, hl, ?_⟩
  split at h
  · cases h
  · cases h
  · rename_i heq; exact ⟨heq, h⟩

theorem readBlock_ok_crc (f : Bytes) (off size : Nat) (c : Bytes) (h : readBlock f off size true = .ok c) :
    off + size + blockTrailerSize ≤ f.length ∧
    crcUnmask (BitVec.ofNat 32 (fixedDec (pread f (off + size + 1) 4))) = crc32c (pread f off (size + 1)) := by
  obtain ⟨hs, hl, hcrc, _⟩ := readBlock_ok_true h
  refine ⟨?_, ?_⟩
  · have := pread_length_le_file f off (size + 5)
    simp only [blockTrailerSize]; omega
  · rw [blockCrcOk_of_length _ _ hl] at hcrc
    rw [pread_drop_take f off (size + 5) (size + 1) 4 (by omega),
      pread_zero_take f off (size + 5) (size + 1) (by omega), crcExtendTab_eq] at hcrc
    have := Option.some.inj hcrc
    rw [beq_iff_eq] at this
    rw [← Nat.add_assoc] at this
    exact this

theorem readBlock_any_verify {f : Bytes} {off size : Nat} {c : Bytes}
    (h : readBlock f off size true = .ok c) (v : Bool) : readBlock f off size v = .ok c := by
  cases v
  · obtain ⟨hs, hl, _, hb⟩ := readBlock_ok_true h
    rw [readBlock_eq_of_length f off size false hs hl]
    simpa only [Bool.false_eq_true, if_false] using hb
  · exact h

theorem readBlock_congr (f f' : Bytes) (off size : Nat) (v : Bool)
    (h : pread f' off (size + blockTrailerSize) = pread f off (size + blockTrailerSize)) :
    readBlock f' off size v = readBlock f off size v := by
  unfold readBlock
  simp only [h]

theorem readBlock_crc_bad_sharp (f : Bytes) (off size : Nat)
    (h : blockCrcOk (pread f off (size + blockTrailerSize)) size = some false)
    (hl : (pread f off (size + 5)).length = size + 5) (hs : size ≤ 2 ^ 64 - 1 - 5) :
    readBlock f off size true = .error .corruption := by
  simp only [blockTrailerSize] at h
  rw [readBlock_eq_of_length f off size true hs hl]
  simp only [if_true, h]

theorem readBlock_crc_bad (f : Bytes) (off size : Nat)
    (h : blockCrcOk (pread f off (size + blockTrailerSize)) size = some false) :
    readBlock f off size true = .error .corruption ∨ readBlock f off size true = .error .io := by
  rcases readBlock_cases f off size true with h' | h' | ⟨hs, hl⟩
  · exact .inl h'
  · exact .inr h'
  · exact .inl (readBlock_crc_bad_sharp f off size h hl hs)

theorem readBlock_crc_bad_not_ok (f : Bytes) (off size : Nat)
    (h : blockCrcOk (pread f off (size + blockTrailerSize)) size = some false) :
    ∀ c, readBlock f off size true ≠ .ok c := by
  intro c hc
  rcases readBlock_crc_bad f off size h with h' | h' <;> rw [h'] at hc <;> cases hc

theorem blockTrailer_length (c : Bytes) (ty : UInt8) : (blockTrailer c ty).length = 5 := by
  simp only [blockTrailer, List.length_cons, fixedEnc_length]

theorem rawBlockBytes_length (c : Bytes) (ty : UInt8) : (rawBlockBytes c ty).length = c.length + 5 := by
  simp only [rawBlockBytes, List.length_append, blockTrailer_length]

theorem blockCrcOk_rawBlockBytes (c : Bytes) (ty : UInt8) :
    blockCrcOk (rawBlockBytes c ty) c.length = some true := by
  rw [blockCrcOk_of_length _ _ (rawBlockBytes_length c ty)]
  have hsplit : rawBlockBytes c ty
      = (c ++ [ty]) ++ fixedEnc 4 (crcMask (crcExtendTab (crcExtendTab 0 c) [ty])).toNat := by
    simp only [rawBlockBytes, blockTrailer, List.append_assoc, List.singleton_append]
  have hl : (c ++ [ty]).length = c.length + 1 := List.length_append
  rw [hsplit, List.drop_left' hl, List.take_left' hl,
    List.take_of_length_le (Nat.le_of_eq (fixedEnc_length _ _)), ofNat32_fixedDec_fixedEnc,
    mask_unmask]
  simp only [crcExtendTab_eq, crcExtend_append, beq_self_eq_true]

theorem rawBlockBytes_type (c : Bytes) (ty : UInt8) : (rawBlockBytes c ty)[c.length]? = some ty := by
  simp only [rawBlockBytes, blockTrailer, List.getElem?_append_right (Nat.le_refl _), Nat.sub_self,
    List.getElem?_cons_zero]

theorem rawBlockBytes_contents (c : Bytes) (ty : UInt8) : sliceC (rawBlockBytes c ty) 0 c.length = some c := by
  rw [sliceC_of_le _ _ _ (by rw [rawBlockBytes_length]; omega)]
  simp only [rawBlockBytes, List.drop_zero, List.take_left']

theorem readBlock_rawBlockBytes (pre suf c : Bytes) (ty : UInt8) (v : Bool) (hc : c.length < 2 ^ 32) :
    readBlock (pre ++ rawBlockBytes c ty ++ suf) pre.length c.length v
      = readBlockBody (rawBlockBytes c ty) c.length := by
  have hp : pread (pre ++ rawBlockBytes c ty ++ suf) pre.length (c.length + 5) = rawBlockBytes c ty := by
    rw [← rawBlockBytes_length c ty]; exact pread_append_mid _ _ _
  rw [readBlock_eq_of_length _ _ _ v (by omega) (by rw [hp, rawBlockBytes_length]), hp,
    blockCrcOk_rawBlockBytes]
  cases v <;> rfl

theorem readBlockBody_raw (c : Bytes) : readBlockBody (rawBlockBytes c 0) c.length = .ok c := by
  unfold readBlockBody
  rw [rawBlockBytes_type, rawBlockBytes_contents]
  rfl

theorem readBlockBody_snappy (c out : Bytes) (n : Nat) (hsz : Snappy.decodeSize c = some n)
    (hdec : Snappy.decode c = some out) : readBlockBody (rawBlockBytes c 1) c.length = .ok out := by
  unfold readBlockBody
  rw [rawBlockBytes_type, rawBlockBytes_contents]
  simp only [hsz, hdec]
  rfl

theorem readBlock_raw_written (pre suf c : Bytes) (v : Bool) (hc : c.length < 2 ^ 32) :
    readBlock (pre ++ rawBlockBytes c 0 ++ suf) pre.length c.length v = .ok c := by
  rw [readBlock_rawBlockBytes pre suf c 0 v hc, readBlockBody_raw]

theorem readBlock_snappy_written (pre suf raw : Bytes) (v : Bool) (hraw : raw.length ≤ Snappy.maxLength)
    (hc : (Snappy.encode raw).length < 2 ^ 32) :
    readBlock (pre ++ rawBlockBytes (Snappy.encode raw) 1 ++ suf) pre.length (Snappy.encode raw).length v
      = .ok raw := by
  rw [readBlock_rawBlockBytes pre suf _ 1 v hc,
    readBlockBody_snappy _ raw raw.length (Snappy.decodeSize_encode raw hraw) (Snappy.snappy_roundtrip raw hraw)]

theorem compressBlock_cases (o : TableOpts) (raw : Bytes) :
    compressBlock o raw = (raw, 0) ∨
    (compressBlock o raw = (Snappy.encode raw, 1) ∧ (Snappy.encode raw).length < raw.length) := by
  unfold compressBlock
  by_cases hcomp : o.compression = true
  · rw [if_pos hcomp]
    by_cases hlt : (Snappy.encode raw).length < raw.length - raw.length / 8
    · right; exact ⟨if_pos hlt, by omega⟩
    · left; exact if_neg hlt
  · left; exact if_neg hcomp

theorem writeBlock_offset (o : TableOpts) (off : Nat) (raw : Bytes) : (writeBlock o off raw).2.offset = off := rfl

theorem writeBlock_size (o : TableOpts) (off : Nat) (raw : Bytes) :
    (writeBlock o off raw).2.size = (compressBlock o raw).1.length := rfl

theorem writeBlock_bytes (o : TableOpts) (off : Nat) (raw : Bytes) :
    (writeBlock o off raw).1 = rawBlockBytes (compressBlock o raw).1 (compressBlock o raw).2 := rfl

theorem writeBlock_length (o : TableOpts) (off : Nat) (raw : Bytes) :
    (writeBlock o off raw).1.length = (writeBlock o off raw).2.size + blockTrailerSize := by
  rw [writeBlock_bytes, writeBlock_size, rawBlockBytes_length]; rfl

theorem writeBlock_size_le (o : TableOpts) (off : Nat) (raw : Bytes) :
    (writeBlock o off raw).2.size ≤ raw.length := by
  rw [writeBlock_size]
  rcases compressBlock_cases o raw with h | ⟨h, hlt⟩
  · rw [h]; exact Nat.le_refl _
  · rw [h]; exact Nat.le_of_lt hlt

theorem readBlock_written (o : TableOpts) (pre suf raw : Bytes) (v : Bool) (hraw : raw.length ≤ Snappy.maxLength) :
    readBlock (pre ++ (writeBlock o pre.length raw).1 ++ suf) (writeBlock o pre.length raw).2.offset
      (writeBlock o pre.length raw).2.size v = .ok raw := by
  rw [writeBlock_offset, writeBlock_size, writeBlock_bytes]
  have hmax : Snappy.maxLength < 2 ^ 32 := by decide
  rcases compressBlock_cases o raw with h | ⟨h, hlt⟩
  · rw [h]; exact readBlock_raw_written pre suf raw v (by omega)
  · rw [h]; exact readBlock_snappy_written pre suf raw v hraw (by omega)

theorem writeBlock_end (o : TableOpts) (off : Nat) (raw : Bytes) :
    off + (writeBlock o off raw).1.length = (writeBlock o off raw).2.offset + (writeBlock o off raw).2.size + blockTrailerSize := by
  rw [writeBlock_length, writeBlock_offset]; omega

end Lcdb
