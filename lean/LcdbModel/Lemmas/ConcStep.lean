/-
  `WF`, the condition on the initial thread tables under which the theorems of C08, C09 and C04Conc are stated, and
  what each enabled label of `Lcdb.Conc.step` does. The post-state of every writer step is put in the normal form
  "update the global fields (`enq`, `failG`, `commitG`, `beginG`), then map over the writers". The global part is a record update
  whose conditionals stand inside the fields (`schedIf` for `maybeSchedule`, `bcast` for `broadcastBg`), so a field that
  a step does not write is read off by `rfl`. The writers' three labels are the relation `WStep` (stated here, read off
  `step` in ConcQ, `step_writer`, where the queue invariant is at hand).
-/
import LcdbModel.Model.Conc
import LcdbModel.Lemmas.ListBasic

namespace Lcdb.Conc

def WF (ws : List Writer) (rs : List Reader) : Prop :=
  (ws.map (·.tid) ++ rs.map (·.tid)).Nodup ∧ (ws.map (·.batch)).Nodup ∧
  (∀ w ∈ ws, w.pc = .idle ∧ w.done = false) ∧ (∀ r ∈ rs, r.pc = .idle)

def mapW (st : St) (g : Writer → Writer) : St := { st with writers := st.writers.map g }

def mapR (st : St) (g : Reader → Reader) : St := { st with readers := st.readers.map g }

@[simp] theorem mapW_writers (st : St) (g) : (mapW st g).writers = st.writers.map g := rfl
@[simp] theorem mapW_readers (st : St) (g) : (mapW st g).readers = st.readers := rfl
@[simp] theorem mapW_queue (st : St) (g) : (mapW st g).queue = st.queue := rfl
@[simp] theorem mapW_inflight (st : St) (g) : (mapW st g).inflight = st.inflight := rfl
@[simp] theorem mapW_lastSeq (st : St) (g) : (mapW st g).lastSeq = st.lastSeq := rfl
@[simp] theorem mapW_committed (st : St) (g) : (mapW st g).committed = st.committed := rfl
@[simp] theorem mapW_imm (st : St) (g) : (mapW st g).imm = st.imm := rfl
@[simp] theorem mapW_needsCompaction (st : St) (g) : (mapW st g).needsCompaction = st.needsCompaction := rfl
@[simp] theorem mapW_bgScheduled (st : St) (g) : (mapW st g).bgScheduled = st.bgScheduled := rfl
@[simp] theorem mapW_bg (st : St) (g) : (mapW st g).bg = st.bg := rfl
@[simp] theorem mapW_bgError (st : St) (g) : (mapW st g).bgError = st.bgError := rfl
@[simp] theorem mapW_shuttingDown (st : St) (g) : (mapW st g).shuttingDown = st.shuttingDown := rfl
@[simp] theorem mapW_closer (st : St) (g) : (mapW st g).closer = st.closer := rfl
@[simp] theorem mapW_log (st : St) (g) : (mapW st g).log = st.log := rfl
@[simp] theorem mapW_groups (st : St) (g) : (mapW st g).groups = st.groups := rfl

@[simp] theorem mapR_writers (st : St) (g) : (mapR st g).writers = st.writers := rfl
@[simp] theorem mapR_readers (st : St) (g) : (mapR st g).readers = st.readers.map g := rfl
@[simp] theorem mapR_queue (st : St) (g) : (mapR st g).queue = st.queue := rfl
@[simp] theorem mapR_inflight (st : St) (g) : (mapR st g).inflight = st.inflight := rfl
@[simp] theorem mapR_lastSeq (st : St) (g) : (mapR st g).lastSeq = st.lastSeq := rfl
@[simp] theorem mapR_committed (st : St) (g) : (mapR st g).committed = st.committed := rfl
@[simp] theorem mapR_imm (st : St) (g) : (mapR st g).imm = st.imm := rfl
@[simp] theorem mapR_needsCompaction (st : St) (g) : (mapR st g).needsCompaction = st.needsCompaction := rfl
@[simp] theorem mapR_bgScheduled (st : St) (g) : (mapR st g).bgScheduled = st.bgScheduled := rfl
@[simp] theorem mapR_bg (st : St) (g) : (mapR st g).bg = st.bg := rfl
@[simp] theorem mapR_bgError (st : St) (g) : (mapR st g).bgError = st.bgError := rfl
@[simp] theorem mapR_shuttingDown (st : St) (g) : (mapR st g).shuttingDown = st.shuttingDown := rfl
@[simp] theorem mapR_closer (st : St) (g) : (mapR st g).closer = st.closer := rfl
@[simp] theorem mapR_log (st : St) (g) : (mapR st g).log = st.log := rfl
@[simp] theorem mapR_groups (st : St) (g) : (mapR st g).groups = st.groups := rfl

theorem mapW_mapW (st : St) (g g') : mapW (mapW st g) g' = mapW st (g' ∘ g) := by
  simp [mapW, List.map_map]

theorem mapW_congr {st : St} {g g' : Writer → Writer} (h : ∀ x ∈ st.writers, g x = g' x) :
    mapW st g = mapW st g' := by
  simp only [mapW]; rw [List.map_congr_left h]

theorem mapW_id {st : St} {g : Writer → Writer} (h : ∀ x ∈ st.writers, g x = x) : mapW st g = st := by
  have : st.writers.map g = st.writers := by
    rw [List.map_congr_left h]; simp
  simp [mapW, this]

theorem map_tid_map {l : List Writer} {g : Writer → Writer} (hg : ∀ x, (g x).tid = x.tid) :
    (l.map g).map (·.tid) = l.map (·.tid) := by
  rw [List.map_map]; exact List.map_congr_left fun x _ => hg x

theorem nodup_tids_map {l : List Writer} {g : Writer → Writer} (hg : ∀ x, (g x).tid = x.tid)
    (hN : (l.map (·.tid)).Nodup) : ((l.map g).map (·.tid)).Nodup := by
  rw [map_tid_map hg]; exact hN

theorem getW_some {st : St} {t : Tid} {w : Writer} (h : getW st t = some w) : w ∈ st.writers ∧ w.tid = t := by
  unfold getW at h
  exact ⟨List.mem_of_find?_eq_some h, by simpa using List.find?_some h⟩

theorem getW_of_mem {st : St} (hN : (st.writers.map (·.tid)).Nodup) {x : Writer} (hx : x ∈ st.writers) :
    getW st x.tid = some x := find_key_of_mem (key := Writer.tid) hN hx

theorem getW_none {st : St} {t : Tid} (h : getW st t = none) {x : Writer} (hx : x ∈ st.writers) : x.tid ≠ t := by
  unfold getW at h
  simpa using List.find?_eq_none.1 h x hx

theorem writer_unique {st : St} (hN : (st.writers.map (·.tid)).Nodup) {x y : Writer}
    (hx : x ∈ st.writers) (hy : y ∈ st.writers) (h : x.tid = y.tid) : x = y := nodup_map_inj hN x hx y hy h

theorem exists_getW_of_mem {st : St} {x : Writer} (hx : x ∈ st.writers) : ∃ y, getW st x.tid = some y := by
  cases h : getW st x.tid with
  | some y => exact ⟨y, rfl⟩
  | none => exact absurd rfl (getW_none h hx)

theorem getW_map {st st' : St} {g : Writer → Writer} (hg : ∀ x, (g x).tid = x.tid)
    (hw : st'.writers = st.writers.map g) (t : Tid) : getW st' t = (getW st t).map g := by
  have : ((fun x : Writer => x.tid == t) ∘ g) = fun x => x.tid == t := funext fun x => by rw [Function.comp, hg]
  unfold getW; rw [hw, List.find?_map, this]

theorem getR_of_mem {st : St} (hN : (st.readers.map (·.tid)).Nodup) {x : Reader} (hx : x ∈ st.readers) :
    getR st x.tid = some x := find_key_of_mem (key := Reader.tid) hN hx

theorem getR_some {st : St} {t : Tid} {r : Reader} (h : getR st t = some r) : r ∈ st.readers ∧ r.tid = t := by
  unfold getR at h
  exact ⟨List.mem_of_find?_eq_some h, by simpa using List.find?_some h⟩

def putW (t : Tid) (w' : Writer) (x : Writer) : Writer := if x.tid = t then w' else x

theorem putW_self (w' : Writer) {x : Writer} {t : Tid} (h : x.tid = t) : putW t w' x = w' := if_pos h
theorem putW_of_ne (w' : Writer) {x : Writer} {t : Tid} (h : x.tid ≠ t) : putW t w' x = x := if_neg h
theorem putW_tid {t : Tid} {w' : Writer} (h : w'.tid = t) (x : Writer) : (putW t w' x).tid = x.tid := by
  unfold putW; split <;> simp [*]

theorem setW_eq (st : St) (w' : Writer) : setW st w' = mapW st (putW w'.tid w') := by
  simp [setW, mapW, putW]

def putR (t : Tid) (r' : Reader) (x : Reader) : Reader := if x.tid = t then r' else x

theorem setR_eq (st : St) (r' : Reader) : setR st r' = mapR st (putR r'.tid r') := by
  simp [setR, mapR, putR]

/-- the effect of a signal on the writer's own condition variable -/
def wake (x : Writer) : Writer := if x.pc = .asleepW then { x with pc := .wokenW } else x

def atW (t : Tid) (f : Writer → Writer) (x : Writer) : Writer := if x.tid = t then f x else x

@[simp] theorem wake_tid (x : Writer) : (wake x).tid = x.tid := by unfold wake; split <;> rfl
@[simp] theorem wake_frame (x : Writer) : (wake x).batch = x.batch ∧ (wake x).sync = x.sync ∧ (wake x).done = x.done ∧
    (wake x).status = x.status := by unfold wake; split <;> exact ⟨rfl, rfl, rfl, rfl⟩
@[simp] theorem wake_usedDelay (x : Writer) : (wake x).usedDelay = x.usedDelay := by unfold wake; split <;> rfl
theorem wake_pc (x : Writer) : (wake x).pc = if x.pc = .asleepW then .wokenW else x.pc := by
  unfold wake; split <;> simp [*]
theorem wake_of_ne {x : Writer} (h : x.pc ≠ .asleepW) : wake x = x := by simp [wake, h]

theorem mapW_atW {st : St} (hN : (st.writers.map (·.tid)).Nodup) {w : Writer} (hw : w ∈ st.writers)
    (f : Writer → Writer) : mapW st (atW w.tid f) = mapW st (putW w.tid (f w)) :=
  mapW_congr fun x hx => by
    unfold atW putW; split
    · rename_i h; rw [writer_unique hN hx hw h]
    · rfl

theorem signalW_eq {st : St} (hN : (st.writers.map (·.tid)).Nodup) (t : Tid) :
    signalW st t = mapW st (atW t wake) := by
  unfold signalW
  cases h : getW st t with
  | none => exact (mapW_id fun x hx => by simp [atW, getW_none h hx]).symm
  | some w =>
    obtain ⟨hw, rfl⟩ := getW_some h
    rw [mapW_atW hN hw]
    dsimp only; split
    · rename_i hpc; rw [setW_eq]; simp [wake, beq_iff_eq.1 hpc]
    · rename_i hpc
      rw [wake_of_ne (by simpa using hpc)]
      exact ((mapW_atW hN hw id).symm.trans (mapW_id fun x _ => by unfold atW; split <;> rfl)).symm

/-- the effect of the leader's hand-over on a follower -/
def markF (ok : Bool) (x : Writer) : Writer :=
  { x with done := true, status := ok, pc := if x.pc = .asleepW then .wokenW else x.pc }

theorem markF_idem (ok : Bool) (x : Writer) : markF ok (markF ok x) = markF ok x := by
  unfold markF; cases x.pc <;> simp

theorem followStep_eq {st : St} (hN : (st.writers.map (·.tid)).Nodup) (ok : Bool) (m : Tid) :
    followStep ok st m = mapW st (atW m (markF ok)) := by
  unfold followStep
  cases h : getW st m with
  | none =>
    simp only
    rw [mapW_id]
    intro x hx; simp [atW, getW_none h hx]
  | some f =>
    obtain ⟨hf, rfl⟩ := getW_some h
    simp only
    rw [signalW_eq, setW_eq, mapW_mapW, mapW_atW hN hf]
    · apply mapW_congr
      intro x _
      simp only [Function.comp, putW, atW]
      split
      · simp [wake, markF]
        split <;> simp [*]
      · simp [*]
    · rw [setW_eq]; simp only [mapW_writers, List.map_map]
      have : ((fun x : Writer => x.tid) ∘ putW f.tid { f with done := true, status := ok }) = fun x => x.tid := by
        funext x; simp only [Function.comp, putW]; split <;> simp [*]
      rw [this]; exact hN

theorem foldl_followStep_eq (ok : Bool) (ms : List Tid) :
    ∀ {st : St}, (st.writers.map (·.tid)).Nodup →
      ms.foldl (followStep ok) st = mapW st (fun x => if x.tid ∈ ms then markF ok x else x) := by
  induction ms with
  | nil => intro st _; simp [mapW_id]
  | cons m ms ih =>
    intro st hN
    simp only [List.foldl_cons]
    rw [followStep_eq hN, ih, mapW_mapW]
    · apply mapW_congr
      intro x _
      simp only [Function.comp, atW, List.mem_cons]
      by_cases h1 : x.tid = m <;> by_cases h2 : x.tid ∈ ms <;> simp [h1, h2, markF_idem]
      all_goals (first | (subst h1; simp [markF, h2]) | simp [markF] | skip)
    · rw [mapW_writers, map_tid_map]; exact hN
      intro x; simp only [atW]; split <;> simp [markF]

/-- the effect of a broadcast on `background_work_finished_signal` on a writer -/
def bwake (x : Writer) : Writer := if x.pc = .asleepBg then { x with pc := .wokenBg } else x

@[simp] theorem bwake_tid (x : Writer) : (bwake x).tid = x.tid := by unfold bwake; split <;> rfl
@[simp] theorem bwake_frame (x : Writer) : (bwake x).batch = x.batch ∧ (bwake x).sync = x.sync ∧
    (bwake x).done = x.done ∧ (bwake x).status = x.status ∧ (bwake x).usedDelay = x.usedDelay := by
  unfold bwake; split <;> exact ⟨rfl, rfl, rfl, rfl, rfl⟩
theorem bwake_pc (x : Writer) : (bwake x).pc = if x.pc = .asleepBg then .wokenBg else x.pc := by
  unfold bwake; split <;> simp [*]
theorem bwake_of_ne {x : Writer} (h : x.pc ≠ .asleepBg) : bwake x = x := by simp [bwake, h]
theorem bwake_pc_ne (x : Writer) : (bwake x).pc ≠ .asleepBg := by
  rw [bwake_pc]; split <;> simp [*]

/-- a broadcast on `background_work_finished_signal` if `on`: it writes `writers` and `closer` only -/
def bcast (on : Bool) (st : St) : St :=
  { st with writers := if on = true then st.writers.map bwake else st.writers,
            closer := if on = true then (if st.closer = .asleepBg then .wokenBg else st.closer) else st.closer }

theorem broadcastBg_eq (st : St) : broadcastBg st = bcast true st := by
  unfold broadcastBg
  have : (fun w : Writer => if (w.pc == WPc.asleepBg) = true then { w with pc := WPc.wokenBg } else w) = bwake := by
    funext w; simp [bwake]
  simp only [this]
  by_cases h : st.closer = .asleepBg <;> simp [h, bcast]

/-- does `ldb_maybe_schedule_compaction` post a job? -/
def needSched (st : St) : Bool :=
  !st.bgScheduled && !st.shuttingDown && !st.bgError && (st.imm || st.needsCompaction)

theorem needSched_false {st : St} (h : needSched st = false) (h1 : st.imm = true ∨ st.needsCompaction = true)
    (h2 : st.bgError = false) (h3 : st.shuttingDown = false) : st.bgScheduled = true := by
  cases hb : st.bgScheduled with
  | true => rfl
  | false => rcases h1 with h1 | h1 <;> simp [needSched, hb, h1, h2, h3] at h

/-- `ldb_maybe_schedule_compaction` if `on`, nothing otherwise: it writes `bgScheduled` and `bg` only, so every other
    field of the result is that of `st` by `rfl`, and `schedIf false st` is `st` -/
def schedIf (on : Bool) (st : St) : St :=
  { st with bgScheduled := (on && needSched st) || st.bgScheduled,
            bg := if (on && needSched st) = true then .posted else st.bg }

theorem maybeSchedule_eq (st : St) : maybeSchedule st = schedIf true st := by
  obtain ⟨ws, rs, q, i, ls, cm, imm, nc, sch, bg, err, sd, cl, lg, gr⟩ := st
  -- both sides compute as soon as the flags that the code tests, in its order, are known
  cases sch
  · cases sd
    · cases err
      · cases imm
        · cases nc <;> rfl
        · rfl
      · rfl
    · rfl
  · rfl

def wakeHead (q : List Tid) (x : Writer) : Writer := if q.head? = some x.tid then wake x else x

theorem wakeHead_tid (q : List Tid) (y : Writer) : (wakeHead q y).tid = y.tid := by
  unfold wakeHead; split <;> simp

theorem wakeHead_of_ne (q : List Tid) {x : Writer} (h : x.pc ≠ .asleepW) : wakeHead q x = x := by
  unfold wakeHead; split
  · exact wake_of_ne h
  · rfl

theorem wakeHead_pc_ne (q : List Tid) (y : Writer) (h : y.pc ≠ .asleepBg) : (wakeHead q y).pc ≠ .asleepBg := by
  unfold wakeHead; split
  · rw [wake_pc]; split <;> simp [*]
  · exact h

theorem signalHead_eq {st : St} (hN : (st.writers.map (·.tid)).Nodup) :
    signalHead st = mapW st (wakeHead st.queue) := by
  unfold signalHead
  cases hq : st.queue with
  | nil => simp only; rw [mapW_id]; intro x _; simp [wakeHead]
  | cons h q =>
    simp only; rw [signalW_eq hN]; apply mapW_congr; intro x _
    simp only [atW, wakeHead, List.head?_cons, Option.some.injEq]
    by_cases hx : x.tid = h <;> simp [hx]
    intro h'; exact absurd h'.symm hx

def failG (st : St) (t : Tid) : St :=
  { st with queue := st.queue.drop 1, log := st.log ++ [(t, true, st.lastSeq)] }

def failSt (st : St) (w : Writer) : St :=
  mapW (failG st w.tid) (wakeHead (st.queue.drop 1) ∘ putW w.tid { w with pc := .returned false })

theorem failAct_eq {st : St} (hN : (st.writers.map (·.tid)).Nodup) (w : Writer) : failAct st w = failSt st w := by
  unfold failAct failSt
  rw [signalHead_eq, setW_eq, mapW_mapW]
  · rfl
  · rw [setW_eq, mapW_writers, map_tid_map (putW_tid rfl)]; exact hN

def batchesOf (st : St) (l : List Tid) : List Nat := l.filterMap fun m => (getW st m).map (·.batch)

theorem count_batches {st : St} (hN : (st.writers.map (·.tid)).Nodup) (hB : (st.writers.map (·.batch)).Nodup)
    {x : Writer} (hx : x ∈ st.writers) (l : List Tid) (hl : l.Nodup) :
    (batchesOf st l).count x.batch = if x.tid ∈ l then 1 else 0 := by
  -- `m` contributes `x.batch` exactly if it is `x.tid`
  rw [← hl.count, batchesOf, List.count_filterMap, List.count_eq_countP]
  refine List.countP_congr fun m _ => ?_
  rw [beq_iff_eq, beq_iff_eq]
  cases hg : getW st m with
  | none => exact ⟨nofun, fun e => absurd e.symm (getW_none hg hx)⟩
  | some y =>
    obtain ⟨hy, rfl⟩ := getW_some hg
    exact ⟨fun hb => congrArg Writer.tid (nodup_map_inj hB y hy x hx (Option.some.inj hb)),
      fun ht => congrArg (fun z : Writer => some z.batch) (writer_unique hN hy hx ht)⟩

theorem map_tid_filterMap_getW {st : St} (l : List Tid) (h : ∀ m ∈ l, ∃ x ∈ st.writers, x.tid = m) :
    (l.filterMap (getW st)).map (·.tid) = l := by
  rw [List.map_filterMap]
  refine (filterMap_congr' fun m hm => ?_).trans List.filterMap_some
  obtain ⟨x, hx, rfl⟩ := h m hm
  obtain ⟨y, hy⟩ := exists_getW_of_mem hx
  rw [hy]; exact congrArg some (getW_some hy).2

theorem length_batches {st : St} (l : List Tid) (h : ∀ m ∈ l, ∃ x ∈ st.writers, x.tid = m) :
    (batchesOf st l).length = l.length := by
  rw [batchesOf, ← List.map_filterMap, List.length_map, ← List.length_map (f := fun x : Writer => x.tid), map_tid_filterMap_getW l h]

/-- `commitAct` in normal form (`commitAct_eq`): `commitG` is what it makes of the global fields, `commitW` of writer `x` -/
def commitG (st : St) (t : Tid) (sf : Bool) : St :=
  { st with
    lastSeq := if sf = true then st.lastSeq else st.lastSeq + st.inflight.length
    committed := st.committed ++ (if sf = true then [] else batchesOf st st.inflight)
    groups := st.groups ++ (if sf = true then [] else [batchesOf st st.inflight])
    bgError := sf || st.bgError
    closer := if sf = true then (if st.closer = .asleepBg then .wokenBg else st.closer) else st.closer
    queue := st.queue.drop st.inflight.length
    inflight := []
    log := st.log ++ [(t, true, if sf = true then st.lastSeq else st.lastSeq + st.inflight.length)] }

def commitW (st : St) (w : Writer) (sf : Bool) (x : Writer) : Writer :=
  wakeHead (st.queue.drop st.inflight.length)
    (putW w.tid { w with pc := .returned (!sf) }
      (if x.tid ∈ st.inflight.drop 1 then markF (!sf) (if sf then bwake x else x) else (if sf then bwake x else x)))

theorem ite_markF_tid (c : Prop) [Decidable c] (ok : Bool) (y : Writer) : (if c then markF ok y else y).tid = y.tid := by
  split <;> rfl

theorem ite_beq_tid (w' : Writer) (x : Writer) : (if (x.tid == w'.tid) = true then w' else x).tid = x.tid := by
  split <;> simp_all

theorem commitAct_eq {st : St} (hN : (st.writers.map (·.tid)).Nodup) (w : Writer) (sf : Bool) :
    commitAct st w sf = mapW (commitG st w.tid sf) (commitW st w sf) := by
  unfold commitAct
  cases sf with
  | false =>
    simp only [Bool.not_false, if_true, Bool.false_eq_true, if_false]
    rw [foldl_followStep_eq, signalHead_eq, setW_eq]
    · simp only [mapW, commitG, List.map_map, Bool.false_eq_true, if_false]
      congr 1
    all_goals first | exact hN | exact nodup_tids_map (ite_beq_tid _) (nodup_tids_map (fun x => ite_markF_tid _ _ x) hN)
  | true =>
    simp only [Bool.not_true, Bool.false_eq_true, if_false, if_true]
    rw [broadcastBg_eq, foldl_followStep_eq, signalHead_eq, setW_eq]
    · simp only [mapW, commitG, bcast, List.map_map, if_true, List.append_nil]
      congr 1
      apply List.map_congr_left; intro x _
      simp [commitW, Function.comp]
    · exact nodup_tids_map (ite_beq_tid _) (nodup_tids_map (fun x => ite_markF_tid _ _ x) (nodup_tids_map bwake_tid hN))
    · exact nodup_tids_map bwake_tid hN

theorem commitW_inner_tid (l : List Tid) (sf : Bool) (x : Writer) :
    (if x.tid ∈ l then markF (!sf) (if sf = true then bwake x else x) else (if sf = true then bwake x else x)).tid = x.tid := by
  rw [ite_markF_tid]; split
  · exact bwake_tid x
  · rfl

theorem commitW_tid (st : St) (w : Writer) (sf : Bool) (x : Writer) : (commitW st w sf x).tid = x.tid := by
  unfold commitW
  rw [wakeHead_tid, putW_tid (w' := { w with pc := .returned (!sf) }) rfl]; exact commitW_inner_tid _ _ _

theorem commitW_leader (st : St) (w : Writer) (sf : Bool) {x : Writer} (hx : x.tid = w.tid) :
    commitW st w sf x = { w with pc := .returned (!sf) } := by
  unfold commitW putW
  rw [if_pos ((commitW_inner_tid _ _ _).trans hx)]
  exact wakeHead_of_ne _ (by simp)

theorem commitW_pc_ne (st : St) (w : Writer) (x : Writer) (sf : Bool) (h : sf = true ∨ x.pc ≠ .asleepBg) :
    (commitW st w sf x).pc ≠ .asleepBg := by
  unfold commitW
  apply wakeHead_pc_ne
  have hb : (if sf = true then bwake x else x).pc ≠ .asleepBg := by
    split
    · exact bwake_pc_ne x
    · rename_i hsf; exact h.resolve_left hsf
  have hy : ∀ y : Writer, y.pc ≠ .asleepBg → (putW w.tid { w with pc := .returned (!sf) } y).pc ≠ .asleepBg := by
    intro y hy; unfold putW; split <;> simp [hy]
  apply hy
  generalize (if sf = true then bwake x else x) = z at hb ⊢
  split
  · simp only [markF]; split <;> simp [*]
  · exact hb

/-- the fields other than `writers` when the head starts a group of `g`, after a memtable switch if `sw` -/
def beginG (st : St) (sw : Bool) (g : Nat) : St :=
  { schedIf sw { st with imm := sw || st.imm } with inflight := st.queue.take g }

/-- the state after a memtable switch in which closing the old log file failed: `imm` set, `bg_error` recorded (and
    broadcast), nothing scheduled -/
def switchFailSt (st : St) : St := broadcastBg { st with imm := true, bgError := true }

theorem switchFailSt_closer (st : St) :
    (switchFailSt st).closer = if st.closer = .asleepBg then .wokenBg else st.closer := by
  unfold switchFailSt; rw [broadcastBg_eq]; rfl

/-- The enabled outcomes of the head writer's critical section. -/
inductive HeadOutcome (st : St) (w : Writer) : RoomChoice → St → Prop
  | fail : (st.bgError = true ∨ st.imm = false) → HeadOutcome st w .fail (failSt st w)
  | delay : st.bgError = false → w.usedDelay = false →
      HeadOutcome st w .delay (mapW st (putW w.tid { w with pc := .delayed, usedDelay := true }))
  | wait (c : RoomChoice) : st.bgError = false →
      (c = .waitFlush ∧ st.imm = true ∨ c = .waitL0 ∧ st.needsCompaction = true) →
      HeadOutcome st w c (mapW st (putW w.tid { w with pc := .asleepBg }))
  /-- the write fails in `switchFailSt st`, spelled with `bcast` (`broadcastBg_eq`) -/
  | switchFail : st.bgError = false → st.imm = false →
      HeadOutcome st w .switchFail (failSt (bcast true { st with imm := true, bgError := true }) w)
  | begin (sw : Bool) (g : Nat) : st.bgError = false → (sw = true → st.imm = false) → 0 < g → g ≤ st.queue.length →
      (w.sync = false → ∀ m ∈ st.queue.take g, ∃ x, getW st m = some x ∧ (x.sync = true → x.tid = w.tid)) →
      HeadOutcome st w (.begin sw g) (mapW (beginG st sw g) (putW w.tid { w with pc := .io }))

theorem headAct_inv {st st' : St} {w : Writer} {c : RoomChoice} (hN : (st.writers.map (·.tid)).Nodup)
    (h : headAct st w c = some st') : HeadOutcome st w c st' := by
  unfold headAct at h
  by_cases hE : st.bgError = true
  · rw [if_pos hE] at h
    obtain ⟨hc, h⟩ := Option.ite_none_left_eq_some.1 h
    obtain rfl : c = .fail := by simpa using hc
    cases h; rw [failAct_eq hN]; exact .fail (Or.inl hE)
  · rw [if_neg hE] at h
    have hE : st.bgError = false := Bool.not_eq_true _ ▸ hE
    cases c <;> dsimp only at h
    · obtain ⟨hi, h⟩ := Option.ite_none_left_eq_some.1 h
      cases h; rw [failAct_eq hN]; exact .fail (Or.inr (Bool.not_eq_true _ ▸ hi))
    · obtain ⟨hd, h⟩ := Option.ite_none_left_eq_some.1 h
      cases h; rw [setW_eq]; exact .delay hE (Bool.not_eq_true _ ▸ hd)
    · obtain ⟨hi, h⟩ := Option.ite_none_right_eq_some.1 h
      cases h; rw [setW_eq]; exact .wait _ hE (Or.inl ⟨rfl, hi⟩)
    · obtain ⟨hi, h⟩ := Option.ite_none_right_eq_some.1 h
      cases h; rw [setW_eq]; exact .wait _ hE (Or.inr ⟨rfl, hi⟩)
    · obtain ⟨hi, h⟩ := Option.ite_none_left_eq_some.1 h
      cases h; rw [broadcastBg_eq, failAct_eq (nodup_tids_map bwake_tid hN)]
      exact .switchFail hE (Bool.not_eq_true _ ▸ hi)
    · rename_i sw g
      obtain ⟨h1, h⟩ := Option.ite_none_left_eq_some.1 h
      obtain ⟨h2, h⟩ := Option.ite_none_left_eq_some.1 h
      obtain ⟨h3, h⟩ := Option.ite_none_left_eq_some.1 h
      have hS : (if sw = true then maybeSchedule { st with imm := true } else st) =
          schedIf sw { st with imm := sw || st.imm } := by
        cases sw
        · rfl
        · rw [if_pos rfl, maybeSchedule_eq]; rfl
      rw [hS] at h h3
      have hgw : ∀ m, getW (schedIf sw { st with imm := sw || st.imm }) m = getW st m := fun _ => rfl
      cases h; rw [setW_eq]
      refine .begin sw g hE ?_ ?_ ?_ ?_
      · rintro rfl; simpa using h1
      · simp at h2; omega
      · simp at h2; omega
      · intro hs m hm
        simp only [hs, hgw, Bool.not_false, Bool.true_and, Bool.not_eq_true, List.any_eq_false] at h3
        have h3' := h3 m hm
        cases hg : getW st m with
        | none => simp [hg] at h3'
        | some x => exact ⟨x, rfl, fun hxs => by simpa [hg, hxs] using h3'⟩

def enq (st : St) (t : Tid) : St :=
  { st with queue := st.queue ++ [t], log := st.log ++ [(t, false, st.lastSeq)] }

/-- `w` is about to run the head's critical section in `S`: it has just pushed itself (its record still says `idle`),
    has been woken, or is back from the 1 ms delay -/
structure Head (S : St) (w : Writer) : Prop where
  mem : w ∈ S.writers
  head : S.queue.head? = some w.tid
  notDone : w.done = false
  idleQ : S.inflight = []
  pc : w.pc = .idle ∨ w.pc = .wokenW ∨ w.pc = .wokenBg ∨ w.pc = .delayed

theorem Head.notBg {S : St} {w : Writer} (h : Head S w) : w.pc ≠ .asleepBg := by
  rcases h.pc with e | e | e | e <;> rw [e] <;> nofun

theorem Head.switchFail {S : St} {w : Writer} (h : Head S w) :
    Head (bcast true { S with imm := true, bgError := true }) w :=
  ⟨List.mem_map.2 ⟨w, h.mem, bwake_of_ne h.notBg⟩, h.head, h.notDone, h.idleQ, h.pc⟩

/-- What a critical section of writer `w` in `ldb_write` does, in a state that satisfies the queue invariant
    (`step_writer`). A woken writer that is neither done nor the front would wait again; the invariant excludes it. -/
inductive WStep (st : St) (w : Writer) : Label → St → Prop
  /-- called, pushed itself behind another writer: waits on its own cv -/
  | sleep : w.pc = .idle → st.shuttingDown = false → (st.queue ++ [w.tid]).head? ≠ some w.tid →
      WStep st w (.wEnter w.tid .fail) (mapW (enq st w.tid) (putW w.tid { w with pc := .asleepW }))
  /-- called, pushed itself on the empty queue: goes on as the front writer at once -/
  | enter {c st'} : w.pc = .idle → st.shuttingDown = false → Head (enq st w.tid) w →
      HeadOutcome (enq st w.tid) w c st' → WStep st w (.wEnter w.tid c) st'
  /-- woken with `done` set: a leader wrote its batch; returns the status it was handed -/
  | ret : w.pc = .wokenW → w.done = true →
      WStep st w (.wWake w.tid .fail)
        (mapW { st with log := st.log ++ [(w.tid, true, st.lastSeq)] } (putW w.tid { w with pc := .returned w.status }))
  /-- woken (own cv, background cv, or after the delay) as the front writer: `ldb_make_room_for_write`, then the group -/
  | wake {c st'} : w.pc ≠ .idle → Head st w → HeadOutcome st w c st' → WStep st w (.wWake w.tid c) st'
  /-- the leader after its I/O -/
  | commit (sf : Bool) : w.pc = .io → st.inflight.head? = some w.tid →
      WStep st w (.wCommit w.tid sf) (commitAct st w sf)

theorem step_rCapture {st st' : St} {t : Tid} (h : step st (.rCapture t) = some st') :
    ∃ r, getR st t = some r ∧ r.pc = .idle ∧ st.shuttingDown = false ∧
      st' = setR { st with log := st.log ++ [(t, false, st.lastSeq)] } { r with pc := .reading st.lastSeq } := by
  dsimp only [step] at h
  split at h
  · rename_i r hr
    obtain ⟨h1, h⟩ := Option.ite_none_left_eq_some.1 h
    simp only [bne_iff_ne, ne_eq, Bool.or_eq_true, not_or, Decidable.not_not, Bool.not_eq_true] at h1
    exact ⟨r, hr, h1.1, h1.2, (Option.some.inj h).symm⟩
  · cases h

theorem step_rRead {st st' : St} {t : Tid} (h : step st (.rRead t) = some st') :
    ∃ r s, getR st t = some r ∧ r.pc = .reading s ∧ st' = setR st { r with pc := .releasing s } := by
  dsimp only [step] at h
  split at h
  · rename_i r hr
    split at h
    · rename_i s hpc
      exact ⟨r, s, hr, hpc, (Option.some.inj h).symm⟩
    · cases h
  · cases h

theorem step_rRelease {st st' : St} {t : Tid} {seek : Bool} (h : step st (.rRelease t seek) = some st') :
    ∃ r s, getR st t = some r ∧ r.pc = .releasing s ∧
      st' = mapR { schedIf seek { st with needsCompaction := seek || st.needsCompaction } with
                   log := st.log ++ [(t, true, st.lastSeq)] } (putR t { r with pc := .returned s }) := by
  dsimp only [step] at h
  split at h
  · rename_i r hr
    split at h
    · rename_i s hpc
      obtain ⟨_, rfl⟩ := getR_some hr
      refine ⟨r, s, hr, hpc, ?_⟩
      rw [← Option.some.inj h, setR_eq]
      cases seek
      · rfl
      · simp only [↓reduceIte, maybeSchedule_eq]; rfl
    · cases h
  · cases h

theorem step_bgStart {st st' : St} (h : step st .bgStart = some st') :
    st.bg = .posted ∧ st' = { st with bg := .working } := by
  dsimp only [step] at h
  obtain ⟨h1, h⟩ := Option.ite_none_left_eq_some.1 h
  exact ⟨by simpa using h1, (Option.some.inj h).symm⟩

theorem step_bgMid {st st' : St} {fd bc er : Bool} (h : step st (.bgMid fd bc er) = some st') :
    st.bg = .working ∧ (er = true → st.bgError = false) ∧ (fd = true → st.imm = true) ∧
      st' = bcast (bc || er)
        { st with imm := if fd then false else st.imm, bgError := if er then true else st.bgError } := by
  dsimp only [step] at h
  simp only [Option.ite_none_left_eq_some, Option.some.injEq] at h
  obtain ⟨h1, h2, h3, rfl⟩ := h
  refine ⟨by simpa using h1, ?_, ?_, ?_⟩
  · rintro rfl; simpa using h2
  · rintro rfl; simpa using h3
  · have e : ∀ S : St, (if (bc || er) = true then broadcastBg S else S) = bcast (bc || er) S := fun S => by
      cases (bc || er)
      · rfl
      · exact broadcastBg_eq S
    rw [← e]; cases fd <;> cases er <;> rfl

theorem step_bgFinish {st st' : St} {sn : Bool} (h : step st (.bgFinish sn) = some st') :
    st.bg = .working ∧
      st' = bcast true (schedIf true { st with bgScheduled := false, bg := .parked, needsCompaction := sn }) := by
  dsimp only [step] at h
  obtain ⟨h1, h⟩ := Option.ite_none_left_eq_some.1 h
  exact ⟨by simpa using h1, by rw [← Option.some.inj h, maybeSchedule_eq, broadcastBg_eq]⟩

theorem step_close {st st' : St} (h : step st .close = some st') :
    st.closer = .idle ∧
      (∀ w ∈ st.writers, w.pc = .idle ∨ ∃ ok, w.pc = .returned ok) ∧
      (∀ r ∈ st.readers, r.pc = .idle ∨ ∃ s, r.pc = .returned s) ∧
      st' = { st with shuttingDown := true, closer := if st.bgScheduled then .asleepBg else .returned } := by
  dsimp only [step] at h
  simp only [Option.ite_none_left_eq_some, List.any_eq_true, not_exists, not_and] at h
  obtain ⟨h1, h2, h3, h4⟩ := h
  refine ⟨by simpa using h1, fun w hw => ?_, fun r hr => ?_, ?_⟩
  · have := h2 w hw
    cases hpc : w.pc <;> simp [hpc] at this ⊢
  · have := h3 r hr
    cases hpc : r.pc <;> simp [hpc] at this ⊢
  · cases hb : st.bgScheduled <;> rw [hb] at h4 <;> exact (Option.some.inj h4).symm

theorem step_closeWake {st st' : St} (h : step st .closeWake = some st') :
    st.closer = .wokenBg ∧
      st' = { st with closer := if st.bgScheduled then .asleepBg else .returned } := by
  dsimp only [step] at h
  obtain ⟨h1, h4⟩ := Option.ite_none_left_eq_some.1 h
  refine ⟨by simpa using h1, ?_⟩
  cases hb : st.bgScheduled <;> rw [hb] at h4 <;> exact (Option.some.inj h4).symm

def isWriterLabel : Label → Bool
  | .wEnter .. => true
  | .wWake .. => true
  | .wCommit .. => true
  | _ => false

def isReaderLabel : Label → Bool
  | .rCapture .. => true
  | .rRead .. => true
  | .rRelease .. => true
  | _ => false

theorem step_frame {st st' : St} {l : Label} (h : step st l = some st') (hl : isWriterLabel l = false) :
    (st'.writers = st.writers ∨ st'.writers = st.writers.map bwake) ∧ st'.queue = st.queue ∧
      st'.inflight = st.inflight ∧ st'.lastSeq = st.lastSeq ∧ st'.committed = st.committed ∧
      st'.groups = st.groups ∧
      (isReaderLabel l = false → st'.readers = st.readers ∧ st'.log = st.log) := by
  cases l with
  | wEnter t c => cases hl
  | wWake t c => cases hl
  | wCommit t sf => cases hl
  | rCapture t =>
    obtain ⟨r, _, _, _, rfl⟩ := step_rCapture h
    exact ⟨Or.inl rfl, rfl, rfl, rfl, rfl, rfl, nofun⟩
  | rRead t =>
    obtain ⟨r, s, _, _, rfl⟩ := step_rRead h
    exact ⟨Or.inl rfl, rfl, rfl, rfl, rfl, rfl, nofun⟩
  | rRelease t seek =>
    obtain ⟨r, s, _, _, rfl⟩ := step_rRelease h
    exact ⟨Or.inl rfl, rfl, rfl, rfl, rfl, rfl, nofun⟩
  | bgStart =>
    obtain ⟨_, rfl⟩ := step_bgStart h
    exact ⟨Or.inl rfl, rfl, rfl, rfl, rfl, rfl, fun _ => ⟨rfl, rfl⟩⟩
  | bgMid fd bc er =>
    obtain ⟨_, _, _, rfl⟩ := step_bgMid h
    refine ⟨?_, rfl, rfl, rfl, rfl, rfl, fun _ => ⟨rfl, rfl⟩⟩
    cases (bc || er)
    · exact Or.inl rfl
    · exact Or.inr rfl
  | bgFinish sn =>
    obtain ⟨_, rfl⟩ := step_bgFinish h
    exact ⟨Or.inr rfl, rfl, rfl, rfl, rfl, rfl, fun _ => ⟨rfl, rfl⟩⟩
  | close =>
    obtain ⟨_, _, _, rfl⟩ := step_close h
    exact ⟨Or.inl rfl, rfl, rfl, rfl, rfl, rfl, fun _ => ⟨rfl, rfl⟩⟩
  | closeWake =>
    obtain ⟨_, rfl⟩ := step_closeWake h
    exact ⟨Or.inl rfl, rfl, rfl, rfl, rfl, rfl, fun _ => ⟨rfl, rfl⟩⟩

end Lcdb.Conc
