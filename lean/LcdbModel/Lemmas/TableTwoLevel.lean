/-
  The two-level iterator over a list of canonical, sorted, non-empty data blocks with valid
  separators (`TwoCtx`) simulates the cursor over the concatenation of the blocks' entries
  (`TwoCtx.sim`).  `TwoR` relates an iterator to a position in that concatenation, `TwoMid` is the
  state between the positioning of the data iterator and the skip loop.  Forward and backward are
  one argument over `w : Way`: `first`/`last` are `TwoCtx.edge_sim`, `next`/`prev` are
  `TwoCtx.step_sim`, both skip loops are `TwoIter.skipLoop (w.dir c)` (`TwoCtx.skip_mid`).
-/
import LcdbModel.Lemmas.TablePartition
import LcdbModel.Lemmas.TableBlockCursor
namespace Lcdb

def ixsOf (bs : List BlkInfo) : List (Bytes × Bytes) := bs.map fun b => (b.sep, b.hv)

def partsOf (bs : List BlkInfo) : List (List (Bytes × Bytes)) := bs.map (·.entries)

def keysOf (bs : List BlkInfo) : List Bytes := ((partsOf bs).flatten).map (·.1)

theorem ixsOf_getElem? (bs : List BlkInfo) (i : Nat) :
    (ixsOf bs)[i]? = (bs[i]?).map fun b => (b.sep, b.hv) := by
  simp [ixsOf]

theorem partsOf_getElem? (bs : List BlkInfo) (i : Nat) :
    (partsOf bs)[i]? = (bs[i]?).map (·.entries) := by
  simp [partsOf]

theorem partsOf_at {bs : List BlkInfo} {i : Nat} {b : BlkInfo} (hb : bs[i]? = some b) :
    (partsOf bs)[i]? = some b.entries := by
  rw [partsOf_getElem?, hb]; rfl

theorem partsOf_length (bs : List BlkInfo) : (partsOf bs).length = bs.length := by
  simp [partsOf]

theorem ixsOf_length (bs : List BlkInfo) : (ixsOf bs).length = bs.length := by
  simp [ixsOf]

theorem ixsOf_isEmpty (bs : List BlkInfo) : (ixsOf bs).isEmpty = bs.isEmpty := by
  simp [ixsOf]

theorem TwoIter.setDataIter_of_ok {it : TwoIter}
    (hold : ∀ old, it.data = some old → old.status = .ok) (d : Option DataIter) :
    it.setDataIter d = { it with data := d } := by
  unfold TwoIter.setDataIter
  cases ho : it.data with
  | none => rfl
  | some old =>
    have := hold old ho
    simp [TwoIter.saveErr, this]

/-- `hvinj`: equal index values name the same block, so `init_data_block` may keep the data
    iterator it has when the index value has not changed; `keys8`: the keys are internal keys. -/
structure TwoCtx (c : BlockCmp) (rd : Bytes → Option DataIter) (idx : Bytes)
    (bs : List BlkInfo) : Prop where
  ictx : BlockCtx c idx (ixsOf bs)
  bctx : ∀ b ∈ bs, BlockCtx c b.contents b.entries
  nonempty : ∀ b ∈ bs, b.entries ≠ []
  read : ∀ b ∈ bs, rd b.hv = some (.opened (blockIterCreate b.contents))
  hvinj : ∀ b ∈ bs, ∀ b' ∈ bs, b.hv = b'.hv → b.contents = b'.contents ∧ b.entries = b'.entries
  le_sep : ∀ b ∈ bs, ∀ e ∈ b.entries, c.cmp e.1 b.sep ≠ .gt
  sep_lt : ∀ i b b', bs[i]? = some b → bs[i + 1]? = some b' →
    ∀ e, b'.entries.head? = some e → c.cmp b.sep e.1 = .lt
  keys8 : ∀ b ∈ bs, ∀ e ∈ b.entries, 8 ≤ e.1.length

/-- what of `TwoR`/`TwoMid` survives a move of the index iterator: the open block is the one `handle` names, not
    necessarily the one the index stands on -/
def DataInv (bs : List BlkInfo) (it : TwoIter) : Prop :=
  it.data = none ∨ ∃ b d p, b ∈ bs ∧ it.handle = b.hv ∧ it.data = some (.opened d) ∧
    BlockAt b.contents b.entries d p

def TwoMid (idx : Bytes) (bs : List BlkInfo) (it : TwoIter) (i : Nat) (p : Option Nat) : Prop :=
  it.status = .ok ∧ ∃ b d, bs[i]? = some b ∧ BlockAt idx (ixsOf bs) it.index (some i) ∧
    it.handle = b.hv ∧ it.data = some (.opened d) ∧ BlockAt b.contents b.entries d p

def TwoR (idx : Bytes) (bs : List BlkInfo) (it : TwoIter) : Option Nat → Prop
  | none => it.status = .ok ∧ BlockAt idx (ixsOf bs) it.index none ∧ it.data = none
  | some g => ∃ i j, g = partOff (partsOf bs) i + j ∧ TwoMid idx bs it i (some j)

section
variable {c : BlockCmp} {rd : Bytes → Option DataIter} {idx : Bytes} {bs : List BlkInfo}

theorem partsOf_flatten_at {i j : Nat} {b : BlkInfo} (hb : bs[i]? = some b)
    (hj : j < b.entries.length) :
    (partOff (partsOf bs) i + j) < (partsOf bs).flatten.length ∧
    ((partsOf bs).flatten)[partOff (partsOf bs) i + j]? = some b.entries[j] := by
  refine ⟨partOff_add_lt (partsOf_at hb) hj, ?_⟩
  rw [flatten_getElem?_part (partsOf_at hb) hj, List.getElem?_eq_getElem hj]

theorem TwoMid.weak {it : TwoIter} {i : Nat} {p : Option Nat} (hm : TwoMid idx bs it i p) :
    it.status = .ok ∧ DataInv bs it := by
  obtain ⟨hs, b, d, hb, _, hh, hd, hat⟩ := hm
  exact ⟨hs, Or.inr ⟨b, d, p, List.mem_of_getElem? hb, hh, hd, hat⟩⟩

theorem TwoR.weak {it : TwoIter} {p : Option Nat} (hr : TwoR idx bs it p) :
    it.status = .ok ∧ DataInv bs it ∧ ∃ q, BlockAt idx (ixsOf bs) it.index q := by
  cases p with
  | none =>
    obtain ⟨hs, hi, hd⟩ := hr
    exact ⟨hs, Or.inl hd, none, hi⟩
  | some g =>
    obtain ⟨i, j, _, hm⟩ := hr
    obtain ⟨hs, hd⟩ := hm.weak
    obtain ⟨_, b, d, _, hi, _⟩ := hm
    exact ⟨hs, hd, some i, hi⟩

theorem TwoCtx.dataStatus (h : TwoCtx c rd idx bs) {it : TwoIter} (hd : DataInv bs it)
    (old : DataIter) (ho : it.data = some old) : old.status = .ok := by
  rcases hd with hn | ⟨b, d, p, hb, _, hdd, hat⟩
  · rw [hn] at ho; cases ho
  · rw [hdd] at ho
    cases ho
    have := (BlockAt.obs (h.bctx b hb) hat).1
    simp [DataIter.status, this, TStatus.ofB]

theorem TwoCtx.init_invalid (h : TwoCtx c rd idx bs) {it : TwoIter} (hs : it.status = .ok)
    (hd : DataInv bs it) {ix : TIter} (hix : BlockAt idx (ixsOf bs) ix none) :
    ∃ it1, TwoIter.initDataBlock rd { it with index := ix } = some it1 ∧ TwoR idx bs it1 none := by
  have hv : ix.valid = false := by rw [(BlockAt.obs h.ictx hix).2.1]; rfl
  refine ⟨{ it with index := ix, data := none }, ?_, hs, hix, rfl⟩
  unfold TwoIter.initDataBlock
  simp only [hv, Bool.not_false, if_true]
  rw [TwoIter.setDataIter_of_ok (it := { it with index := ix })
    (fun old ho => h.dataStatus hd old ho)]

theorem TwoCtx.index_at (h : TwoCtx c rd idx bs) {ix : TIter} {i : Nat}
    (hix : BlockAt idx (ixsOf bs) ix (some i)) :
    ix.valid = true ∧ ∃ b, bs[i]? = some b ∧ ix.value = b.hv := by
  obtain ⟨_, hv, hobs⟩ := BlockAt.obs h.ictx hix
  obtain ⟨hi, _, hval⟩ := hobs i rfl
  have hb := List.getElem?_eq_getElem hi
  rw [ixsOf_getElem?] at hb
  obtain ⟨b, hb, hbe⟩ := Option.map_eq_some_iff.mp hb
  exact ⟨by rw [hv]; rfl, b, hb, by rw [hval, ← hbe]⟩

theorem TwoCtx.init_valid (h : TwoCtx c rd idx bs) {it : TwoIter} (hs : it.status = .ok)
    (hd : DataInv bs it) {ix : TIter} {i : Nat} (hix : BlockAt idx (ixsOf bs) ix (some i)) :
    ∃ it1 p, TwoIter.initDataBlock rd { it with index := ix } = some it1 ∧
      TwoMid idx bs it1 i p := by
  obtain ⟨hv, b, hb, hval⟩ := h.index_at hix
  have hmem : b ∈ bs := List.mem_of_getElem? hb
  unfold TwoIter.initDataBlock
  simp only [hv, Bool.not_true, Bool.false_eq_true, if_false]
  by_cases hcond : (it.data.isSome && ix.value == it.handle) = true
  · simp only [hcond, if_true]
    simp only [Bool.and_eq_true, beq_iff_eq] at hcond
    obtain ⟨hsome, hh⟩ := hcond
    rcases hd with hn | ⟨b', d, p, hb', hh', hdd, hat⟩
    · rw [hn] at hsome; cases hsome
    · -- the block already open is named by the same index value, hence is block `i`
      have heq : b.hv = b'.hv := by rw [← hval, hh, hh']
      obtain ⟨e1, e2⟩ := h.hvinj _ hmem _ hb' heq
      refine ⟨_, p, rfl, hs, b, d, hb, hix, ?_, hdd, ?_⟩
      · show it.handle = _
        rw [← hh, hval]
      · rw [e1, e2]; exact hat
  · simp only [hcond, Bool.false_eq_true, if_false]
    rw [hval, h.read _ hmem]
    simp only
    rw [TwoIter.setDataIter_of_ok (it := { it with index := ix, handle := b.hv })
      (fun old ho => h.dataStatus hd old ho)]
    exact ⟨_, none, rfl, hs, b, _, hb, hix, rfl, rfl, (h.bctx _ hmem).create⟩

theorem TwoMid.onData {it : TwoIter} {i : Nat} {p : Option Nat} (hm : TwoMid idx bs it i p)
    (f : TIter → Option TIter) (g : BlkInfo → Option Nat)
    (hf : ∀ b d, bs[i]? = some b → BlockAt b.contents b.entries d p →
      ∃ d', f d = some d' ∧ BlockAt b.contents b.entries d' (g b)) :
    ∃ it' b, bs[i]? = some b ∧ it.onData f = some it' ∧ TwoMid idx bs it' i (g b) := by
  obtain ⟨hs, b, d, hb, hix, hh, hd, hat⟩ := hm
  obtain ⟨d', hfd, hat'⟩ := hf b d hb hat
  refine ⟨{ it with data := some (.opened d') }, b, hb, ?_, hs, b, d', hb, hix, hh, rfl, hat'⟩
  simp [TwoIter.onData, hd, DataIter.lift, hfd]

/-- The frame shared by `first`, `last`, `seek` and the skip loops. -/
theorem TwoCtx.reposition (h : TwoCtx c rd idx bs) {it : TwoIter} (hs : it.status = .ok)
    (hd : DataInv bs it) {ixop : TIter → Option TIter} {ix : TIter} {q : Option Nat}
    (hn : ixop it.index = some ix) (hix : BlockAt idx (ixsOf bs) ix q)
    (f : TIter → Option TIter) (g : BlkInfo → Option Nat)
    (hf : ∀ b ∈ bs, ∀ d p, BlockAt b.contents b.entries d p →
      ∃ d', f d = some d' ∧ BlockAt b.contents b.entries d' (g b)) :
    ∃ it2, (∀ k, TwoIter.land rd ixop f k it = k it2) ∧
      match (generalizing := false) q with
      | none => TwoR idx bs it2 none
      | some i => ∃ b, bs[i]? = some b ∧ TwoMid idx bs it2 i (g b) := by
  cases q with
  | none =>
    obtain ⟨it1, e1, hr1⟩ := h.init_invalid hs hd hix
    exact ⟨it1, fun k => by simp [TwoIter.land, hn, e1, TwoIter.onData, hr1.2.2], hr1⟩
  | some i =>
    obtain ⟨it1, p1, e1, hm1⟩ := h.init_valid hs hd hix
    obtain ⟨it2, b, hb, e2, hm2⟩ := hm1.onData f g
      (fun b d hb hat => hf b (List.mem_of_getElem? hb) d p1 hat)
    exact ⟨it2, fun k => by simp only [TwoIter.land, hn, e1, e2], b, hb, hm2⟩

theorem TwoCtx.mid_valid (h : TwoCtx c rd idx bs) {it : TwoIter} {i j : Nat}
    (hm : TwoMid idx bs it i (some j)) :
    it.data.isNone = false ∧ it.dataValid = true ∧
      ∃ b, bs[i]? = some b ∧ ∃ hj : j < b.entries.length,
        it.key = b.entries[j].1 ∧ it.value = b.entries[j].2 := by
  obtain ⟨hs, b, d, hb, hix, hh, hd, hat⟩ := hm
  obtain ⟨_, hv, hobs⟩ := BlockAt.obs (h.bctx b (List.mem_of_getElem? hb)) hat
  obtain ⟨hj, hk, hvl⟩ := hobs j rfl
  refine ⟨by simp [hd], ?_, b, hb, hj, ?_, ?_⟩
  · simp [TwoIter.dataValid, hd, DataIter.valid, hv]
  · simp [TwoIter.key, hd, DataIter.key, hk]
  · simp [TwoIter.value, hd, DataIter.value, hvl]

theorem TwoCtx.mid_invalid (h : TwoCtx c rd idx bs) {it : TwoIter} {i : Nat}
    (hm : TwoMid idx bs it i none) :
    it.dataValid = false ∧ it.index.valid = true ∧ it.status = .ok ∧ DataInv bs it ∧
      BlockAt idx (ixsOf bs) it.index (some i) := by
  obtain ⟨hs, hdi⟩ := hm.weak
  obtain ⟨_, b, d, hb, hix, hh, hd, hat⟩ := hm
  obtain ⟨_, hv, _⟩ := BlockAt.obs (h.bctx b (List.mem_of_getElem? hb)) hat
  exact ⟨by simp [TwoIter.dataValid, hd, DataIter.valid, hv], (h.index_at hix).1, hs, hdi, hix⟩

theorem TwoCtx.skip_valid (h : TwoCtx c rd idx bs) (d : TwoIter.Dir c) {it : TwoIter} {i j : Nat}
    (hm : TwoMid idx bs it i (some j)) (fuel : Nat) :
    TwoIter.skipLoop d rd (fuel + 1) it = some it := by
  obtain ⟨h1, h2, _⟩ := h.mid_valid hm
  simp [TwoIter.skipLoop, h1, h2]

theorem TwoCtx.skip_none (h : TwoCtx c rd idx bs) (d : TwoIter.Dir c) {it : TwoIter}
    (hr : TwoR idx bs it none) (fuel : Nat) :
    ∃ it', TwoIter.skipLoop d rd (fuel + 1) it = some it' ∧ TwoR idx bs it' none := by
  obtain ⟨hs, hix, hd⟩ := hr
  have hv : it.index.valid = false := by rw [(BlockAt.obs h.ictx hix).2.1]; rfl
  refine ⟨it.setDataIter none, by simp [TwoIter.skipLoop, hd, hv], ?_⟩
  rw [TwoIter.setDataIter_of_ok (by intro old ho; rw [hd] at ho; cases ho)]
  exact ⟨hs, hix, rfl⟩

theorem TwoCtx.parts_ne (h : TwoCtx c rd idx bs) : ∀ l ∈ partsOf bs, l ≠ [] := by
  intro l hl
  obtain ⟨b, hb, rfl⟩ := List.mem_map.mp hl
  exact h.nonempty b hb

/-- What `first`, `last` and a round of a skip loop do once the index iterator has been moved to
    `ix`: the block it names is entered from the side `w` starts at. -/
theorem TwoCtx.enter (h : TwoCtx c rd idx bs) (w : Way) {it : TwoIter} (hs : it.status = .ok)
    (hd : DataInv bs it) {ixop : TIter → Option TIter} {ix : TIter} {q : Option Nat}
    (hn : ixop it.index = some ix) (hix : BlockAt idx (ixsOf bs) ix q) (fuel : Nat) :
    ∃ it', TwoIter.land rd ixop (w.dir c).pos (TwoIter.skipLoop (w.dir c) rd (fuel + 1)) it
        = some it' ∧
      TwoR idx bs it' (q.map (w.enter (partsOf bs))) := by
  obtain ⟨it2, e, hpos⟩ := h.reposition hs hd hn hix (w.dir c).pos
    (fun b => w.edge b.entries.length) (fun b hb _ _ hat => (h.bctx b hb).pos_at w hat)
  rw [e]
  cases q with
  | none => exact h.skip_none _ hpos fuel
  | some i =>
    obtain ⟨b, hb, hm2⟩ := hpos
    rw [Way.edge, if_neg (mt List.eq_nil_of_length_eq_zero (h.nonempty b (List.mem_of_getElem? hb)))]
      at hm2
    exact ⟨it2, h.skip_valid _ hm2 fuel, i, _, w.enter_eq (partsOf_at hb), hm2⟩

/-- `fuel + 2`: the blocks being non-empty, a skip loop runs at most two rounds (move to the neighbouring block,
    then return); `table_ctx` matches it against `skipFuel` -/
theorem TwoCtx.skip_mid (h : TwoCtx c rd idx bs) (w : Way) {it : TwoIter} {i : Nat}
    {p : Option Nat} (hm : TwoMid idx bs it i p) (fuel : Nat) :
    ∃ it', TwoIter.skipLoop (w.dir c) rd (fuel + 2) it = some it' ∧
      TwoR idx bs it' (w.skipPos (partsOf bs) i p) := by
  cases p with
  | some j => exact ⟨it, h.skip_valid _ hm _, i, j, rfl, hm⟩
  | none =>
    obtain ⟨hdv, hiv, hs, hdi, hix⟩ := h.mid_invalid hm
    obtain ⟨ix, hnx, hix'⟩ := h.ictx.step_at w hix
    rw [TwoIter.skipLoop]
    simp only [hdv, hiv, Bool.not_false, Bool.or_true, if_true, Bool.not_true, Bool.false_eq_true,
      if_false]
    rw [ixsOf_length, ← partsOf_length] at hix'
    exact h.enter w hs hdi hnx hix' fuel

theorem TwoCtx.below_of_sep (h : TwoCtx c rd idx bs) (x : Bytes) {b : BlkInfo} (hb : b ∈ bs)
    (hsep : (c.cmp b.sep x != .lt) = false) : ∀ e ∈ b.entries, (c.cmp e.1 x != .lt) = false := by
  intro e he
  have h1 : c.cmp b.sep x = .lt := by simpa using hsep
  have := h.ictx.laws.cmp3.lt_of_ne_gt_of_lt (h.le_sep b hb e he) h1
  simp [this]

theorem TwoCtx.seek_none (h : TwoCtx c rd idx bs) (x : Bytes)
    (hn : ((ixsOf bs).map (·.1)).findIdx? (fun k => c.cmp k x != .lt) = none) :
    (keysOf bs).findIdx? (fun k => c.cmp k x != .lt) = none := by
  unfold keysOf
  rw [List.findIdx?_map]
  apply findIdx?_flatten_none
  intro l hl e he
  obtain ⟨b, hb, rfl⟩ := List.mem_map.mp hl
  have hsep := List.findIdx?_eq_none_iff.mp hn b.sep
    (List.mem_map.mpr ⟨(b.sep, b.hv), List.mem_map.mpr ⟨b, hb, rfl⟩, rfl⟩)
  exact h.below_of_sep x hb hsep e he

theorem TwoCtx.seek_some (h : TwoCtx c rd idx bs) (x : Bytes) {i : Nat} {b : BlkInfo}
    (hb : bs[i]? = some b)
    (hi : ((ixsOf bs).map (·.1)).findIdx? (fun k => c.cmp k x != .lt) = some i) :
    Way.fwd.skipPos (partsOf bs) i ((b.entries.map (·.1)).findIdx? (fun k => c.cmp k x != .lt))
      = (keysOf bs).findIdx? (fun k => c.cmp k x != .lt) := by
  obtain ⟨hpi, hlt⟩ := findIdx?_map_some hi
  have hpi := hpi (b.sep, b.hv) (by rw [ixsOf_getElem?, hb]; rfl)
  have hbef : ∀ i' l', i' < i → (partsOf bs)[i']? = some l' →
      ∀ e ∈ l', ((fun k => c.cmp k x != .lt) ∘ (fun e : Bytes × Bytes => e.1)) e = false := by
    intro i' l' hi' hl' e he
    rw [partsOf_getElem?] at hl'
    obtain ⟨b', hb', rfl⟩ := Option.map_eq_some_iff.mp hl'
    exact h.below_of_sep x (List.mem_of_getElem? hb')
      (hlt i' (b'.sep, b'.hv) hi' (by rw [ixsOf_getElem?, hb']; rfl)) e he
  unfold keysOf
  rw [List.findIdx?_map, List.findIdx?_map]
  refine (findIdx?_flatten_skipPos _ h.parts_ne (partsOf_at hb) hbef fun l' e hl' he => ?_).symm
  rw [partsOf_getElem?] at hl'
  obtain ⟨b', hb', rfl⟩ := Option.map_eq_some_iff.mp hl'
  have h1 := h.sep_lt i b b' hb hb' e he
  have h2 : c.cmp b.sep x ≠ .lt := bne_iff_ne.mp hpi
  exact bne_iff_ne.mpr fun hc => h2 (h.ictx.laws.lt_trans _ _ _ h1 hc)

/-- `first` and `last` -/
theorem TwoCtx.edge_sim (h : TwoCtx c rd idx bs) (w : Way) (fuel : Nat) {s : TwoIter}
    {t : Option Nat} (hr : TwoR idx bs s t) :
    ∃ s', (twoIterOps c rd (fuel + 2)).edge w s = some s' ∧
      TwoR idx bs s' (w.edge (keysOf bs).length) := by
  obtain ⟨hs, hd, q, hq⟩ := hr.weak
  obtain ⟨ix, hix1, hix2⟩ := h.ictx.pos_at w hq
  rw [ixsOf_length, ← partsOf_length] at hix2
  rw [twoIterOps_edge, keysOf, List.length_map, ← w.edge_enter h.parts_ne]
  exact h.enter w hs hd hix1 hix2 (fuel + 1)

/-- `next` and `prev` -/
theorem TwoCtx.step_sim (h : TwoCtx c rd idx bs) (w : Way) (fuel : Nat) {s : TwoIter} {g : Nat}
    (hr : TwoR idx bs s (some g)) :
    ∃ s', (twoIterOps c rd (fuel + 2)).step w s = some s' ∧
      TwoR idx bs s' (w.adv (keysOf bs).length g) := by
  obtain ⟨i, j, hg, hm⟩ := hr
  obtain ⟨_, _, b, hb, hj, _⟩ := h.mid_valid hm
  obtain ⟨it2, b', hb', e2, hm2⟩ := hm.onData (w.dir c).step (fun b => w.adv b.entries.length j)
    (fun b d hb hat => (h.bctx b (List.mem_of_getElem? hb)).step_at w hat)
  rw [hb] at hb'
  cases hb'
  rw [twoIterOps_step, e2, keysOf, List.length_map, hg,
    ← w.skipPos_adv h.parts_ne (partsOf_at hb) hj]
  exact h.skip_mid w hm2 fuel

theorem TwoCtx.seek_sim (h : TwoCtx c rd idx bs) (fuel : Nat) {s : TwoIter} {t : Option Nat}
    (hr : TwoR idx bs s t) (x : Bytes) (hx : 8 ≤ x.length) :
    ∃ s', TwoIter.seek c rd (fuel + 2) x s = some s' ∧
      TwoR idx bs s' ((keysOf bs).findIdx? (fun k => c.cmp k x != .lt)) := by
  obtain ⟨hs, hd, q, hq⟩ := hr.weak
  obtain ⟨ix, hix1, hix2⟩ := h.ictx.seek_at hq x fun _ => hx
  obtain ⟨it2, e, hpos⟩ := h.reposition hs hd hix1 hix2 (TIter.seek c x)
    (fun b => (b.entries.map (·.1)).findIdx? (fun k => c.cmp k x != .lt))
    (fun b hb _ _ hat => (h.bctx b hb).seek_at hat x fun _ => hx)
  rw [TwoIter.seek_eq, e, TwoIter.skipForward_eq]
  cases hfi : ((ixsOf bs).map (·.1)).findIdx? (fun k => c.cmp k x != .lt) with
  | none =>
    rw [hfi] at hpos
    rw [h.seek_none x hfi]
    exact h.skip_none _ hpos _
  | some i =>
    rw [hfi] at hpos
    obtain ⟨b', hb', hm2⟩ := hpos
    obtain ⟨it3, e3, hr3⟩ := h.skip_mid .fwd hm2 fuel
    rw [h.seek_some x hb' hfi] at hr3
    exact ⟨it3, e3, hr3⟩

theorem TwoR.obs (h : TwoCtx c rd idx bs) {it : TwoIter} {p : Option Nat} (hr : TwoR idx bs it p) :
    it.getStatus = .ok ∧ OnPosT ((partsOf bs).flatten) it p := by
  cases p with
  | none =>
    obtain ⟨hs, hix, hd⟩ := hr
    have hst := (BlockAt.obs h.ictx hix).1
    refine ⟨?_, ?_⟩
    · simp [TwoIter.getStatus, hst, TStatus.ofB, hd, hs]
    · simp [OnPosT, TwoIter.valid, TwoIter.dataValid, hd]
  | some g =>
    obtain ⟨i, j, hg, hm⟩ := hr
    obtain ⟨_, hv, b, hb, hj, hk, hvl⟩ := h.mid_valid hm
    obtain ⟨h1, h2⟩ := partsOf_flatten_at hb hj
    obtain ⟨hs, b', d, hb', hix, hh, hd, hat⟩ := hm
    have hst := (BlockAt.obs h.ictx hix).1
    have hdst := (BlockAt.obs (h.bctx b' (List.mem_of_getElem? hb')) hat).1
    refine ⟨?_, ?_⟩
    · simp [TwoIter.getStatus, hst, TStatus.ofB, hd, hs, DataIter.status, hdst]
    · subst hg
      have h3 := (List.getElem?_eq_some_iff.mp h2).2
      exact ⟨h1, hv, by rw [hk, h3], by rw [hvl, h3]⟩

theorem TwoCtx.sim (h : TwoCtx c rd idx bs) (fuel : Nat) :
    IterOps.Sim (twoIterOps c rd (fuel + 2)) (cursorOps c.cmp (keysOf bs)) (TwoR idx bs)
      (fun x => 8 ≤ x.length) := by
  have hkey : ∀ s t, TwoR idx bs s t → TwoIter.valid s = true →
      ∃ g, t = some g ∧ TwoIter.key s = (keysOf bs).getD g [] ∧ 8 ≤ (TwoIter.key s).length := by
    intro s t hr hv
    have hp := (hr.obs h).2
    cases t with
    | none => rw [show s.valid = false from hp] at hv; cases hv
    | some g =>
      obtain ⟨hg, _, hk, _⟩ := hp
      obtain ⟨l, hl, hmem⟩ := List.mem_flatten.mp (List.getElem_mem hg)
      obtain ⟨b, hb, rfl⟩ := List.mem_map.mp hl
      refine ⟨g, rfl, ?_, hk ▸ h.keys8 b hb _ hmem⟩
      rw [hk, keysOf, List.getD_eq_getElem?_getD, List.getElem?_map, List.getElem?_eq_getElem hg]
      rfl
  refine ⟨fun s t hr => ?_, fun s t hr hv => ?_, ?_,
    fun s t hr => ?_, fun s t hr => ?_, fun s t hr hv => ?_, fun s t hr hv => ?_, ?_⟩
  · have hp := (hr.obs h).2
    cases t with
    | none => exact hp
    | some g => obtain ⟨_, hv, _⟩ := hp; exact hv
  · obtain ⟨g, rfl, hk, _⟩ := hkey s t hr hv
    exact hk
  · intro s t x hr hv hx
    obtain ⟨g, rfl, hk, hk8⟩ := hkey s t hr hv
    have hcmp : c.compare (TwoIter.key s) x = some (c.cmp (TwoIter.key s) x) := by
      simp [BlockCmp.compare, Nat.not_lt.mpr hk8, Nat.not_lt.mpr hx]
    refine ⟨?_, rfl⟩
    show c.compare (TwoIter.key s) x = some (c.cmp ((keysOf bs).getD g []) x)
    rw [← hk, hcmp]
  · obtain ⟨s', e, hr'⟩ := h.edge_sim .fwd fuel hr
    exact ⟨s', _, e, cursorOps_edge _ _ .fwd t, hr'⟩
  · obtain ⟨s', e, hr'⟩ := h.edge_sim .bwd fuel hr
    exact ⟨s', _, e, cursorOps_edge _ _ .bwd t, hr'⟩
  · obtain ⟨g, rfl, _⟩ := hkey s t hr hv
    obtain ⟨s', e, hr'⟩ := h.step_sim .fwd fuel hr
    exact ⟨s', _, e, cursorOps_step _ _ .fwd g, hr'⟩
  · obtain ⟨g, rfl, _⟩ := hkey s t hr hv
    obtain ⟨s', e, hr'⟩ := h.step_sim .bwd fuel hr
    exact ⟨s', _, e, cursorOps_step _ _ .bwd g, hr'⟩
  · intro s t x hr hx
    obtain ⟨s', e, hr'⟩ := h.seek_sim fuel hr x hx
    exact ⟨s', _, e, rfl, hr'⟩

end
end Lcdb
