/-
  Lookups in a well-formed table file: `tableGet` answers like the reference lookup `refSeek`
  over the entry list, as far as `save_value` can tell (`table_get_spec`, `table_get_visible`).
-/
import LcdbModel.Lemmas.TableCursor
import LcdbModel.Props.FilterProps
namespace Lcdb

theorem refSeek_eq (c : Cmp) (es : List (Bytes × Bytes)) (ikey : Bytes) :
    refSeek c es ikey
      = ((es.map (·.1)).findIdx? (fun k => ikeyCmp c k ikey != .lt)).bind (fun i => es[i]?) := by
  unfold refSeek
  rw [List.find?_eq_bind_findIdx?_getElem?, List.findIdx?_map]
  rfl

section
variable {o : TableOpts} {file : Bytes} {es : List (Bytes × Bytes)} {L : Layout}
  {rd : Bytes → Option DataIter}

theorem get_ref_none (hg : L.Good o file es)
    (hctx : TwoCtx (mkBlockCmp o.cmp true) rd L.index L.blocks) (ikey : Bytes)
    (hfi : ((ixsOf L.blocks).map (·.1)).findIdx? (fun k => ikeyCmp o.cmp k ikey != .lt) = none) :
    refSeek o.cmp es ikey = none := by
  rw [refSeek_eq, hg.es_eq]
  show ((keysOf L.blocks).findIdx? fun k => (mkBlockCmp o.cmp true).cmp k ikey != .lt).bind _ = none
  rw [hctx.seek_none ikey hfi]
  rfl

theorem refSeek_twoLevel (hg : L.Good o file es)
    (hctx : TwoCtx (mkBlockCmp o.cmp true) rd L.index L.blocks) (ikey : Bytes) {i : Nat}
    {b : BlkInfo} (hb : L.blocks[i]? = some b)
    (hfi : ((ixsOf L.blocks).map (·.1)).findIdx? (fun k => ikeyCmp o.cmp k ikey != .lt) = some i) :
    refSeek o.cmp es ikey = (Way.fwd.skipPos (partsOf L.blocks) i
      ((b.entries.map (·.1)).findIdx? fun k => ikeyCmp o.cmp k ikey != .lt)).bind (es[·]?) := by
  rw [refSeek_eq, hg.es_eq]
  exact congrArg (Option.bind · _) (hctx.seek_some ikey hb hfi).symm

theorem get_ref_some (hg : L.Good o file es)
    (hctx : TwoCtx (mkBlockCmp o.cmp true) rd L.index L.blocks) (ikey : Bytes) {i : Nat}
    {b : BlkInfo} (hb : L.blocks[i]? = some b)
    (hfi : ((ixsOf L.blocks).map (·.1)).findIdx? (fun k => ikeyCmp o.cmp k ikey != .lt) = some i)
    {j : Nat}
    (hj : (b.entries.map (·.1)).findIdx? (fun k => ikeyCmp o.cmp k ikey != .lt) = some j) :
    ∃ hjl : j < b.entries.length, refSeek o.cmp es ikey = some b.entries[j] := by
  have hjl : j < b.entries.length := by
    have := (List.findIdx?_eq_some_iff_getElem.mp hj).1
    simpa using this
  refine ⟨hjl, ?_⟩
  rw [refSeek_twoLevel hg hctx ikey hb hfi, hj, hg.es_eq]
  exact (partsOf_flatten_at hb hjl).2

/-- The lookup lands on the first entry of the next block, whose user key differs from that of
    `ikey`: the separator lies between. -/
theorem get_ref_miss (hg : L.Good o file es)
    (hctx : TwoCtx (mkBlockCmp o.cmp true) rd L.index L.blocks) (ikey : Bytes) {i : Nat}
    {b : BlkInfo} (hb : L.blocks[i]? = some b)
    (hfi : ((ixsOf L.blocks).map (·.1)).findIdx? (fun k => ikeyCmp o.cmp k ikey != .lt) = some i)
    (hj : (b.entries.map (·.1)).findIdx? (fun k => ikeyCmp o.cmp k ikey != .lt) = none) :
    ∀ e, refSeek o.cmp es ikey = some e → ikeyUser e.1 ≠ ikeyUser ikey := by
  intro e he huser
  have hlaws := ordLaws_ikeyCmp o.cmp
  have hbm : b ∈ L.blocks := List.mem_of_getElem? hb
  have hsep : ikeyCmp o.cmp b.sep ikey ≠ .lt :=
    bne_iff_ne.mp ((findIdx?_map_some hfi).1 (b.sep, b.hv) (by rw [ixsOf_getElem?, hb]; rfl))
  have hbelow : ∀ e' ∈ b.entries, ikeyCmp o.cmp e'.1 ikey = .lt := by
    intro e' he'
    have := List.findIdx?_eq_none_iff.mp hj e'.1 (List.mem_map_of_mem he')
    simpa using this
  rw [refSeek_twoLevel hg hctx ikey hb hfi, hj] at he
  simp only [Way.skipPos, Way.adv, partsOf_length] at he
  by_cases hi1 : i + 1 < L.blocks.length
  · simp only [hi1, if_true, Option.map_some, Option.bind_some] at he
    obtain ⟨b1, hb1⟩ := exists_getElem? hi1
    have hbm1 := List.mem_of_getElem? hb1
    have hpos : 0 < b1.entries.length :=
      List.length_pos_iff.mpr (hg.nonempty hbm1)
    have h3 := flatten_getElem?_part (partsOf_at hb1) hpos
    rw [← hg.es_eq] at h3
    change es[Way.fwd.enter (partsOf L.blocks) (i + 1)]? = _ at h3
    rw [he, ← List.head?_eq_getElem?] at h3
    have hfirst := firstKeyOf_head h3.symm
    obtain ⟨_, _, hle, hlt, hform⟩ := hg.sepOk_at hb
    rw [hb1] at hform
    simp only [Option.map_some, sepForm] at hform
    rcases hform with heq | ⟨_, _, hu⟩
    · obtain ⟨el, hel, hlast⟩ := lastKeyOf_mem _ (hg.nonempty hbm)
      apply hsep
      rw [heq, hlast]
      exact hbelow el hel
    · rw [hfirst] at hu
      have h4 : o.cmp.compare (ikeyUser ikey) (ikeyUser b.sep) ≠ .gt :=
        ikeyCmp_le_user fun hc => hsep ((hlaws.gt_iff _ _).mp hc)
      have h5 := (CmpBasic.cmp3_compare o.cmp).lt_of_ne_gt_of_lt h4 hu
      rw [huser] at h5
      exact (CmpBasic.cmp3_compare o.cmp).lt_irrefl _ h5
  · simp [hi1] at he

end

theorem filterRejects_spec {o : TableOpts} {file : Bytes} {es : List (Bytes × Bytes)} {L : Layout}
    (hL : tableLayout file = some L) (hg : L.Good o file es) (t : Table) (paranoid : Bool)
    (ho : t.opts = o) (hmeta : readMeta o file paranoid L.footer = .ok t.filter)
    {b : BlkInfo} (hb : b ∈ L.blocks) (ikey : Bytes) :
    ∃ r, filterRejects t b.hv ikey = some r ∧
      (r = true → ∀ e ∈ b.entries, ikeyUser e.1 ≠ ikeyUser ikey) := by
  unfold filterRejects
  rw [ho]
  cases hflt : t.filter with
  | none => exact ⟨false, rfl, fun h => by cases h⟩
  | some fc =>
    cases hpol : o.policy with
    | none => exact ⟨false, rfl, fun h => by cases h⟩
    | some p =>
      obtain ⟨_, _, ⟨r, hr⟩, _, _⟩ := blkInfo_some (tableLayout_blocks hL b hb)
      simp only [hr]
      obtain ⟨bits, _, rfl⟩ := Option.map_eq_some_iff.mp (show o.filterBits.map _ = some p from hpol)
      rw [(filter_no_fault bits fc b.handle.offset ikey).2]
      refine ⟨_, rfl, ?_⟩
      intro hrej e he huser
      have hcov := hg.filter_covers paranoid
      unfold filterCovers at hcov
      rw [hpol, hmeta, hflt] at hcov
      have h1 := hcov b hb e he
      have h2 : filterMatch (ifpPolicy (bloomPolicy bits)) fc b.handle.offset ikey
          = filterMatch (ifpPolicy (bloomPolicy bits)) fc b.handle.offset e.1 :=
        filterMatch_congr _ fc _ e.1 ikey
          (fun f => ifpPolicy_trailer_irrelevant _ f e.1 ikey huser.symm)
      rw [h2, h1] at hrej
      cases hrej

/-- `tableGet` runs the index seek, the filter test and a seek in the ONE block `i` the index names.
    The reference lookup ends in block `i` too (`get_ref_some`) or, when block `i` has nothing at or
    above `ikey`, on an entry with another user key (`get_ref_miss`); so neither stopping at block
    `i` nor a filter rejection (`filterRejects_spec`) hides an entry with the user key looked up. -/
theorem table_get_spec (o : TableOpts) (file : Bytes) (es : List (Bytes × Bytes))
    (hwf : TableWF o file es) (t : Table) (paranoid verify : Bool)
    (ht : tableOpen o file paranoid = .ok t) (ikey : Bytes) (hk : 8 ≤ ikey.length) :
    ∃ g, tableGet t ikey verify = some g ∧ g.status = .ok ∧
      (∀ e, g.found = some e → refSeek o.cmp es ikey = some e) ∧
      (∀ e, refSeek o.cmp es ikey = some e → ikeyUser e.1 = ikeyUser ikey → g.found = some e) := by
  obtain ⟨L, hL, hg, ho, hi, hmeta, hctx, _, _, _⟩ := table_ctx hwf verify ht
  have hcmpB : t.cmpB = mkBlockCmp o.cmp true := by unfold Table.cmpB; rw [ho]
  obtain ⟨ix, hix1, hix2⟩ := hctx.ictx.seek_at hctx.ictx.create ikey fun _ => hk
  obtain ⟨hixst, hixv, _⟩ := BlockAt.obs hctx.ictx hix2
  unfold tableGet
  rw [hcmpB, hi]
  simp only [hix1, hixst, TStatus.ofB]
  cases hfi : ((ixsOf L.blocks).map (·.1)).findIdx?
      (fun k => (mkBlockCmp o.cmp true).cmp k ikey != .lt) with
  | none =>
    rw [hfi] at hixv
    simp only [hixv, Option.isSome_none, Bool.false_eq_true, if_false]
    have href := get_ref_none hg hctx ikey hfi
    refine ⟨_, rfl, rfl, (fun e he => by cases he), fun e he => ?_⟩
    rw [href] at he; cases he
  | some i =>
    rw [hfi] at hix2
    obtain ⟨hixv, b, hb, hval⟩ := hctx.index_at hix2
    have hbm : b ∈ L.blocks := List.mem_of_getElem? hb
    simp only [hixv, if_true, hval]
    obtain ⟨r, hr, hrej⟩ := filterRejects_spec hL hg t paranoid ho hmeta hbm ikey
    rw [hr]
    obtain ⟨d', hd1, hd2⟩ :=
      (hctx.bctx _ hbm).seek_at (hctx.bctx _ hbm).create ikey fun _ => hk
    obtain ⟨hdst, hdv, hdobs⟩ := BlockAt.obs (hctx.bctx _ hbm) hd2
    cases r with
    | true =>
      refine ⟨_, rfl, rfl, (fun e he => by cases he), fun e he huser => ?_⟩
      exfalso
      cases hj : (b.entries.map (·.1)).findIdx?
          (fun k => (mkBlockCmp o.cmp true).cmp k ikey != .lt) with
      | none => exact get_ref_miss hg hctx ikey hb hfi hj e he huser
      | some j =>
        obtain ⟨hjl, href⟩ := get_ref_some hg hctx ikey hb hfi hj
        rw [href] at he
        cases he
        exact hrej rfl _ (List.getElem_mem hjl) huser
    | false =>
      simp only [hctx.read _ hbm, DataIter.lift, hd1, Option.map_some, DataIter.valid,
        DataIter.status, DataIter.key, DataIter.value, hdst, TStatus.ofB, if_true]
      refine ⟨_, rfl, rfl, ?_⟩
      cases hj : (b.entries.map (·.1)).findIdx?
          (fun k => (mkBlockCmp o.cmp true).cmp k ikey != .lt) with
      | none =>
        rw [hj] at hdv
        simp only [hdv, Option.isSome_none, Bool.false_eq_true, if_false]
        refine ⟨(fun e he => by cases he), fun e he huser => ?_⟩
        exact absurd huser (get_ref_miss hg hctx ikey hb hfi hj e he)
      | some j =>
        rw [hj] at hdv
        obtain ⟨hjl, hkey, hvalue⟩ := hdobs j hj
        obtain ⟨_, href⟩ := get_ref_some hg hctx ikey hb hfi hj
        simp only [hdv, Option.isSome_some, if_true, hkey, hvalue]
        rw [href]
        exact ⟨fun e he => he, fun e he _ => he⟩

theorem table_get_visible (o : TableOpts) (file : Bytes) (es : List (Bytes × Bytes))
    (hwf : TableWF o file es) (t : Table) (paranoid verify : Bool)
    (ht : tableOpen o file paranoid = .ok t) (ikey : Bytes) (hk : 8 ≤ ikey.length) :
    ∃ g, tableGet t ikey verify = some g ∧ g.status = .ok ∧
      g.visible ikey = (refSeek o.cmp es ikey).filter (fun e => ikeyUser e.1 == ikeyUser ikey) := by
  obtain ⟨g, h1, h2, h3, h4⟩ := table_get_spec o file es hwf t paranoid verify ht ikey hk
  refine ⟨g, h1, h2, ?_⟩
  unfold GetResult.visible
  cases hf : g.found with
  | some e =>
    rw [h3 e hf]
  | none =>
    cases hr : refSeek o.cmp es ikey with
    | none => rfl
    | some e =>
      by_cases hu : ikeyUser e.1 = ikeyUser ikey
      · have := h4 e hr hu
        rw [hf] at this; cases this
      · simp [Option.filter, hu]

end Lcdb
