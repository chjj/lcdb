/-
  Invariant of one shard of the LRU cache (Model/LruCache.lean) and the two ways a state changes without
  breaking it: one entry is written and only its id moves between the lists (`InvX.update`), or one slot
  of the table is written (`InvX.setTable`).  Every operation is made of these.
-/
import LcdbModel.Model.LruCache
import LcdbModel.Lemmas.ListBasic
namespace Lcdb.LruCache

/-- what an entry contributes to `usage` -/
def wt (e : CEntry) : Nat := if e.inCache then e.charge else 0

def sumCharge : List CEntry → Nat
  | [] => 0
  | e :: es => wt e + sumCharge es

theorem sumCharge_append (a b : List CEntry) : sumCharge (a ++ b) = sumCharge a + sumCharge b := by
  induction a with
  | nil => simp [sumCharge]
  | cons e es ih => simp [sumCharge, ih]; omega

theorem sumCharge_set {l : List CEntry} {i : Nat} {e : CEntry} (e' : CEntry) (h : l[i]? = some e) :
    sumCharge (l.set i e') + wt e = sumCharge l + wt e' := by
  obtain ⟨hi, rfl⟩ := List.getElem?_eq_some_iff.mp h
  rw [List.set_eq_take_append_cons_drop, if_pos hi]
  conv => rhs; rw [← List.take_append_drop i l, List.drop_eq_getElem_cons hi]
  simp only [sumCharge_append, sumCharge]; omega

theorem sumCharge_set_same {l : List CEntry} {i : Nat} {e e' : CEntry} (h : l[i]? = some e) (hw : wt e' = wt e) :
    sumCharge (l.set i e') = sumCharge l := by
  have := sumCharge_set e' h; omega

/-- The shard invariant.  `x` is the one in-cache entry (if any) the handle table does not point to: inside an operation,
    the entry taken out of the table and not yet `finish`ed, or the new entry of `insert` not yet put in (`alloc_inv`). -/
structure InvX (s : Shard) (x : Option Nat) : Prop where
  refs : ∀ id e, s.entries[id]? = some e → e.refs = s.held.count id + (if e.inCache then 1 else 0)
  lruIff : ∀ id, id ∈ s.lru ↔ ∃ e, s.entries[id]? = some e ∧ e.inCache = true ∧ e.refs = 1
  useIff : ∀ id, id ∈ s.inUse ↔ ∃ e, s.entries[id]? = some e ∧ e.inCache = true ∧ 2 ≤ e.refs
  delIff : ∀ id, id ∈ s.deleted ↔ ∃ e, s.entries[id]? = some e ∧ e.refs = 0
  heldB : ∀ id, id ∈ s.held → id < s.entries.length
  tab : ∀ id e, s.entries[id]? = some e → x ≠ some id → e.inCache = true → s.table e.key = some id
  tabIn : ∀ k id, s.table k = some id → ∃ e, s.entries[id]? = some e ∧ e.inCache = true ∧ e.key = k
  usage : s.usage = sumCharge s.entries
  ndLru : s.lru.Nodup
  ndUse : s.inUse.Nodup
  ndDel : s.deleted.Nodup

abbrev Inv (s : Shard) : Prop := InvX s none

theorem inv_empty (cap : Nat) : Inv (Shard.empty cap) := by
  constructor <;> simp [Shard.empty, sumCharge]

structure Moved (id : Nat) (l l' : List Nat) : Prop where
  mem : ∀ j, j ≠ id → (j ∈ l' ↔ j ∈ l)
  nodup : l.Nodup → l'.Nodup

theorem Moved.refl {id : Nat} {l : List Nat} : Moved id l l := ⟨fun _ _ => Iff.rfl, fun h => h⟩

theorem Moved.filter {id : Nat} {l : List Nat} : Moved id l (l.filter (· != id)) :=
  ⟨fun j hj => by simp [hj], fun h => h.filter _⟩

theorem Moved.snoc {id : Nat} {l l' : List Nat} (h : Moved id l l') (hid : id ∉ l') : Moved id l (l' ++ [id]) := by
  refine ⟨fun j hj => by simp [hj, h.mem j hj], fun hl => ?_⟩
  rw [List.nodup_append]
  refine ⟨h.nodup hl, List.pairwise_singleton _ id, fun b hb c hc hbc => hid ?_⟩
  rw [List.mem_singleton.1 hc] at hbc
  exact hbc ▸ hb

theorem Moved.ite {id : Nat} {l a b : List Nat} {c : Prop} [Decidable c] (ha : Moved id l a) (hb : Moved id l b) :
    Moved id l (if c then a else b) := by
  split
  · exact ha
  · exact hb

theorem mem_ite_snoc {c : Prop} [Decidable c] {l : List Nat} {id : Nat} (h : id ∉ l) :
    id ∈ (if c then l ++ [id] else l) ↔ c := by
  split <;> simp [*]

theorem mem_iff_at {s : Shard} {l : List Nat} {P : CEntry → Prop} {id : Nat} {e : CEntry}
    (h : ∀ id, id ∈ l ↔ ∃ e, s.entries[id]? = some e ∧ P e) (hx : s.entries[id]? = some e) : id ∈ l ↔ P e := by
  rw [h, hx]; simp

theorem InvX.pinned {s : Shard} {x : Option Nat} (hi : InvX s x) {id : Nat} (hh : id ∈ s.held) :
    id ∉ s.deleted ∧ ∃ e, s.entries[id]? = some e ∧ 0 < e.refs := by
  obtain ⟨e, hx⟩ := exists_getElem? (hi.heldB id hh)
  have hrefs := hi.refs id e hx
  have hcnt : 0 < s.held.count id := List.count_pos_iff.2 hh
  exact ⟨fun hd => by have := (mem_iff_at hi.delIff hx).1 hd; omega, e, hx, by omega⟩

theorem InvX.fresh {s : Shard} {x : Option Nat} (hi : InvX s x) {j : Nat} (hj : s.entries.length ≤ j) :
    j ∉ s.lru ∧ j ∉ s.inUse ∧ j ∉ s.deleted ∧ j ∉ s.held ∧ ∀ k, s.table k ≠ some j := by
  have hn : s.entries[j]? = none := List.getElem?_eq_none hj
  refine ⟨?_, ?_, ?_, fun h => Nat.lt_irrefl _ (Nat.lt_of_lt_of_le (hi.heldB j h) hj), fun k hk => ?_⟩
  · simp [hi.lruIff, hn]
  · simp [hi.useIff, hn]
  · simp [hi.delIff, hn]
  · obtain ⟨e, he, _⟩ := hi.tabIn k j hk; rw [hn] at he; cases he

theorem InvX.of_table {s : Shard} {x : Option Nat} {k : Bytes} {id : Nat} {e : CEntry} (hi : InvX s x)
    (hk : s.table k = some id) (hx : s.entries[id]? = some e) : e.inCache = true ∧ e.key = k := by
  obtain ⟨e1, h1, h2, h3⟩ := hi.tabIn k id hk
  rw [hx] at h1; cases h1; exact ⟨h2, h3⟩

/-- The clauses `refs`, `lruIff`, `useIff`, `delIff` speak of one id at a time.  So an operation that writes entry `id` (an
    old one or the next free one), moves no other id on or off a list (`Moved`) and leaves the table alone keeps the invariant as
    soon as those clauses hold of `id` itself and the table still agrees with the entry (`tab`, `tabIn`). -/
theorem InvX.update {s s' : Shard} {x x' : Option Nat} {id : Nat} {e' : CEntry} (hi : InvX s x)
    (hid : s'.entries[id]? = some e') (hne : ∀ j, j ≠ id → s'.entries[j]? = s.entries[j]?)
    (htable : s'.table = s.table) (hxx : ∀ j, j ≠ id → x' ≠ some j → x ≠ some j)
    (hheld : ∀ j, j ≠ id → s'.held.count j = s.held.count j)
    (mlru : Moved id s.lru s'.lru) (muse : Moved id s.inUse s'.inUse) (mdel : Moved id s.deleted s'.deleted)
    (refs : e'.refs = s'.held.count id + (if e'.inCache then 1 else 0))
    (lruIff : id ∈ s'.lru ↔ e'.inCache = true ∧ e'.refs = 1)
    (useIff : id ∈ s'.inUse ↔ e'.inCache = true ∧ 2 ≤ e'.refs)
    (delIff : id ∈ s'.deleted ↔ e'.refs = 0)
    (tab : e'.inCache = true → x' ≠ some id → s.table e'.key = some id)
    (tabIn : ∀ k, s.table k = some id → e'.inCache = true ∧ e'.key = k)
    (usage : s'.usage = sumCharge s'.entries) : InvX s' x' := by
  have one : ∀ {P : CEntry → Prop} {l l' : List Nat}, Moved id l l' → (id ∈ l' ↔ P e') →
      (∀ j, j ∈ l ↔ ∃ e, s.entries[j]? = some e ∧ P e) → ∀ j, j ∈ l' ↔ ∃ e, s'.entries[j]? = some e ∧ P e := by
    intro P l l' m h0 h j
    by_cases hj : j = id
    · subst hj; rw [hid]; simpa using h0
    · rw [hne j hj, m.mem j hj]; exact h j
  refine ⟨?_, one mlru lruIff hi.lruIff, one muse useIff hi.useIff, one mdel delIff hi.delIff, ?_, ?_, ?_, usage,
    mlru.nodup hi.ndLru, muse.nodup hi.ndUse, mdel.nodup hi.ndDel⟩
  · intro j e1 h1
    by_cases hj : j = id
    · subst hj; rw [hid] at h1; cases h1; exact refs
    · rw [hne j hj] at h1; rw [hheld j hj]; exact hi.refs j e1 h1
  · intro j hj
    by_cases hji : j = id
    · exact hji ▸ getElem?_lt hid
    · have := List.count_pos_iff.2 hj
      rw [hheld j hji] at this
      have hlt := hi.heldB j (List.count_pos_iff.1 this)
      exact getElem?_lt ((hne j hji).trans (List.getElem?_eq_getElem hlt))
  · intro j e1 h1 hjx hc1
    rw [htable]
    by_cases hj : j = id
    · subst hj; rw [hid] at h1; cases h1; exact tab hc1 hjx
    · rw [hne j hj] at h1; exact hi.tab j e1 h1 (hxx j hj hjx) hc1
  · intro k j hk
    rw [htable] at hk
    by_cases hj : j = id
    · subst hj; exact ⟨e', hid, tabIn k hk⟩
    · rw [hne j hj]; exact hi.tabIn k j hk

/-- Writing the table slot of key `k` leaves the old occupant of the slot as the entry the table does not know.  `v = none`
    takes an entry out of the table (`lru_table_remove`); `v = some n` puts in the entry `n` that was not in it yet
    (`lru_table_insert`). -/
theorem InvX.setTable {s : Shard} {x : Option Nat} (hi : InvX s x) (k : Bytes) (v : Option Nat)
    (hv : ∀ n, v = some n → ∃ e, s.entries[n]? = some e ∧ e.inCache = true ∧ e.key = k)
    (hx : ∀ n, x = some n → v = some n) :
    InvX { s with table := tableSet s.table k v } (s.table k) ∧
    ∀ y, s.table k = some y → v ≠ some y → ∀ k', tableSet s.table k v k' ≠ some y := by
  refine ⟨⟨hi.refs, hi.lruIff, hi.useIff, hi.delIff, hi.heldB, ?_, ?_, hi.usage, hi.ndLru, hi.ndUse, hi.ndDel⟩, ?_⟩
  · intro j e he hj hc
    show tableSet s.table k v e.key = some j
    simp only [tableSet]
    by_cases hxj : x = some j
    · obtain ⟨e1, h1, _, h3⟩ := hv j (hx j hxj)
      rw [he] at h1; cases h1; rw [if_pos h3]; exact hx j hxj
    · have := hi.tab j e he hxj hc
      split
      · rename_i hk; rw [hk] at this; exact absurd this hj
      · exact this
  · intro k' j h
    simp only [tableSet] at h
    split at h
    · rename_i hk; subst hk; exact hv j h
    · exact hi.tabIn k' j h
  · intro y hy hvy k' h
    simp only [tableSet] at h
    split at h
    · exact hvy h
    · rename_i hk
      obtain ⟨e, he, _, h1⟩ := hi.tabIn k y hy
      exact hk ((hi.of_table h he).2.symm.trans h1)

/-- what every operation except `insert` (which appends an entry: `InsertSpec`) leaves alone -/
structure Frame (s s' : Shard) : Prop where
  cap : s'.capacity = s.capacity
  len : s'.entries.length = s.entries.length
  kv : ∀ (id : Nat) (e : CEntry), s.entries[id]? = some e → ∃ e' : CEntry, s'.entries[id]? = some e' ∧ e'.key = e.key ∧ e'.val = e.val ∧ e'.charge = e.charge

theorem Frame.refl {s : Shard} : Frame s s := ⟨rfl, rfl, fun _ e h => ⟨e, h, rfl, rfl, rfl⟩⟩

theorem Frame.trans {a b c : Shard} (h1 : Frame a b) (h2 : Frame b c) : Frame a c := by
  refine ⟨h2.cap.trans h1.cap, h2.len.trans h1.len, ?_⟩
  intro id e h
  obtain ⟨e', h', k1, v1, c1⟩ := h1.kv id e h
  obtain ⟨e'', h'', k2, v2, c2⟩ := h2.kv id e' h'
  exact ⟨e'', h'', k2.trans k1, v2.trans v1, c2.trans c1⟩

def kvc (e : CEntry) : Bytes × Nat × Nat := (e.key, e.val, e.charge)

theorem frame_kvc {s s' : Shard} (h : Frame s s') : s'.entries.map kvc = s.entries.map kvc := by
  apply List.ext_getElem?
  intro i
  simp only [List.getElem?_map]
  cases hi : s.entries[i]? with
  | some e => obtain ⟨e', h', k, v, c⟩ := h.kv i e hi; simp [h', kvc, k, v, c]
  | none => rw [List.getElem?_eq_none (h.len ▸ List.getElem?_eq_none_iff.1 hi)]

theorem Frame.set {s s' : Shard} {id : Nat} {e e' : CEntry} (hx : s.entries[id]? = some e)
    (hcap : s'.capacity = s.capacity) (hent : s'.entries = s.entries.set id e')
    (hk : e'.key = e.key) (hv : e'.val = e.val) (hc : e'.charge = e.charge) : Frame s s' := by
  refine ⟨hcap, by rw [hent, List.length_set], fun j e1 h1 => ?_⟩
  rw [hent, List.getElem?_set]
  by_cases h : id = j
  · subst h; rw [hx] at h1; cases h1; exact ⟨e', by simp [getElem?_lt hx], hk, hv, hc⟩
  · exact ⟨e1, by simp [h, h1], rfl, rfl, rfl⟩

structure FinishSpec (s s' : Shard) (x : Nat) : Prop where
  frame : Frame s s'
  table : s'.table = s.table
  held : s'.held = s.held
  lru : s'.lru = s.lru.filter (· != x)
  inUse : s'.inUse = s.inUse.filter (· != x)
  deleted : s'.deleted = s.deleted ++ (if s.held.count x = 0 then [x] else [])
  usage : ∀ e : CEntry, s.entries[x]? = some e → s'.usage + e.charge = s.usage
  gone : ∃ e' : CEntry, s'.entries[x]? = some e' ∧ e'.inCache = false
  others : ∀ id : Nat, id ≠ x → s'.entries[id]? = s.entries[id]?

/-- closed form of `finish` under the invariant -/
def finished (s : Shard) (x : Nat) (e : CEntry) : Shard :=
  { s with lru := s.lru.filter (· != x), inUse := s.inUse.filter (· != x),
           entries := s.entries.set x { e with inCache := false, refs := s.held.count x },
           usage := s.usage - e.charge,
           deleted := s.deleted ++ (if s.held.count x = 0 then [x] else []) }

theorem finish_inv {s : Shard} {x : Nat} {e : CEntry} (hi : InvX s (some x)) (hx : s.entries[x]? = some e)
    (hc : e.inCache = true) (hnt : ∀ k, s.table k ≠ some x) :
    finish s (some x) = some (finished s x e) ∧ Inv (finished s x e) ∧ FinishSpec s (finished s x e) x := by
  have hrefs : e.refs = s.held.count x + 1 := by simpa [hc] using hi.refs x e hx
  have hset : ∀ a : CEntry, (s.entries.set x a)[x]? = some a := fun a => List.getElem?_set_self (getElem?_lt hx)
  have hoth : ∀ (a : CEntry) (j : Nat), j ≠ x → (s.entries.set x a)[j]? = s.entries[j]? :=
    fun a j hj => List.getElem?_set_ne (Ne.symm hj)
  have hsum := sumCharge_set { e with inCache := false, refs := s.held.count x } hx
  simp only [wt, hc, if_true, Bool.false_eq_true, if_false, Nat.add_zero, ← hi.usage] at hsum
  have hxd : x ∉ s.deleted := fun h => by have := (mem_iff_at hi.delIff hx).1 h; omega
  refine ⟨?_, ?_, ?_⟩
  · simp only [finish, hx, hc, unlink, unref, hset, finished, hrefs, Nat.add_sub_cancel, Nat.add_one_ne_zero, if_false,
      Bool.true_eq_false, Bool.false_eq_true, false_and, List.set_set]
    split
    · rfl
    · simp
  · apply hi.update (s' := finished s x e) (id := x) (e' := { e with inCache := false, refs := s.held.count x })
      (hset _) (hoth _) rfl (mlru := .filter) (muse := .filter)
    case hxx => intro j hj _ h; cases h; exact hj rfl
    case hheld => intro _ _; rfl
    case mdel =>
      simp only [finished]; split
      · exact Moved.refl.snoc hxd
      · simpa using Moved.refl
    case refs => rfl
    case lruIff => simp [finished]
    case useIff => simp [finished]
    case delIff => simp only [finished, List.mem_append]; split <;> simp [*]
    case tab => nofun
    case tabIn => exact fun k hk => absurd hk (hnt k)
    case usage => show s.usage - e.charge = sumCharge (s.entries.set x _); omega
  · refine ⟨Frame.set hx rfl rfl rfl rfl rfl, rfl, rfl, rfl, rfl, rfl, ?_, ?_, ?_⟩
    · intro e1 h1; rw [hx] at h1; cases h1
      show s.usage - e.charge + e.charge = s.usage; omega
    · exact ⟨_, hset _, rfl⟩
    · exact hoth _

end Lcdb.LruCache
