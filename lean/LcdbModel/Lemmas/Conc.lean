/-
  The fourth invariant of the concurrency model, `InvS` (stated over `syncTable`, the writers' `(tid, sync)` pairs,
  which no step changes: `SameStatic`), and the combined invariant `Inv` with its preservation along every step, hence
  in every reachable state.  How one step changes the commit history: only `wCommit` without a sync failure does, by
  appending the batches of the whole group being written.
-/
import LcdbModel.Lemmas.ConcL

namespace Lcdb.Conc

def SameStatic (a b : Writer) : Prop := a.tid = b.tid ∧ a.batch = b.batch ∧ a.sync = b.sync

theorem SameStatic.refl (a : Writer) : SameStatic a a := ⟨rfl, rfl, rfl⟩
theorem SameStatic.trans {a b c : Writer} (h1 : SameStatic a b) (h2 : SameStatic b c) : SameStatic a c :=
  ⟨h1.1.trans h2.1, h1.2.1.trans h2.2.1, h1.2.2.trans h2.2.2⟩

theorem wake_static (x : Writer) : SameStatic (wake x) x := ⟨by simp, by simp, by simp⟩
theorem bwake_static (x : Writer) : SameStatic (bwake x) x := ⟨by simp, by simp, by simp⟩
theorem wakeHead_static (q : List Tid) (x : Writer) : SameStatic (wakeHead q x) x := by
  unfold wakeHead; split
  · exact wake_static x
  · exact SameStatic.refl x
theorem markF_static (ok : Bool) (x : Writer) : SameStatic (markF ok x) x := ⟨rfl, rfl, rfl⟩

theorem putW_static {st : St} (hN : (st.writers.map (·.tid)).Nodup) {w : Writer} (w' : Writer) (hw : w ∈ st.writers)
    (hs : SameStatic w' w) : ∀ x ∈ st.writers, SameStatic (putW w.tid w' x) x := by
  intro x hx; unfold putW; split
  · rename_i h; rw [writer_unique hN hx hw h]; exact hs
  · exact SameStatic.refl x

theorem commitW_static {st : St} (hN : (st.writers.map (·.tid)).Nodup) {w : Writer} (hw : w ∈ st.writers) (sf : Bool) :
    ∀ x ∈ st.writers, SameStatic (commitW st w sf x) x := by
  intro x hx
  unfold commitW
  refine (wakeHead_static _ _).trans ?_
  have hin : SameStatic (if x.tid ∈ List.drop 1 st.inflight then markF (!sf) (if sf = true then bwake x else x)
      else if sf = true then bwake x else x) x := by
    have hb : SameStatic (if sf = true then bwake x else x) x := by
      split
      · exact bwake_static x
      · exact SameStatic.refl x
    split
    · exact (markF_static _ _).trans hb
    · exact hb
  generalize (if x.tid ∈ List.drop 1 st.inflight then markF (!sf) (if sf = true then bwake x else x)
      else if sf = true then bwake x else x) = y at hin
  unfold putW; split
  · rename_i h
    have := writer_unique hN hx hw (hin.1.symm.trans h)
    rw [this]; exact ⟨rfl, rfl, rfl⟩
  · exact hin

def syncTable (st : St) : List (Tid × Bool) := st.writers.map fun x => (x.tid, x.sync)

theorem syncTable_map {st st' : St} {g : Writer → Writer} (hw : st'.writers = st.writers.map g)
    (hg : ∀ x ∈ st.writers, SameStatic (g x) x) : syncTable st' = syncTable st := by
  unfold syncTable; rw [hw, List.map_map]; apply List.map_congr_left
  intro x hx; simp [(hg x hx).1, (hg x hx).2.2]

/-- a non-sync leader leads no sync follower -/
def InvS (st : St) : Prop :=
  ∀ h, st.inflight.head? = some h → (h, false) ∈ syncTable st → ∀ m ∈ st.inflight, (m, true) ∉ syncTable st

theorem InvS.of_same {st st' : St} (H : InvS st) (hi : st'.inflight = st.inflight) (ht : syncTable st' = syncTable st) :
    InvS st' := by
  unfold InvS; rw [hi, ht]; exact H

theorem InvS.setPc {st : St} {w : Writer} (H : InvS st) (hN : (st.writers.map (·.tid)).Nodup) (hw : w ∈ st.writers)
    (p : WPc) (u : Bool) : InvS (mapW st (putW w.tid { w with pc := p, usedDelay := u })) :=
  H.of_same rfl (syncTable_map rfl (putW_static (w := w) hN _ hw ⟨rfl, rfl, rfl⟩))

theorem InvS.fail {st : St} {w : Writer} (H : InvS st) (hN : (st.writers.map (·.tid)).Nodup) (hw : w ∈ st.writers) :
    InvS (failSt st w) := by
  refine H.of_same rfl (syncTable_map (g := wakeHead (st.queue.drop 1) ∘ putW w.tid { w with pc := .returned false })
    rfl ?_)
  intro x hx
  exact (wakeHead_static _ _).trans (putW_static (w := w) hN { w with pc := .returned false } hw ⟨rfl, rfl, rfl⟩ x hx)

theorem InvS.headOutcome {st st' : St} {w : Writer} {c : RoomChoice} (H : InvS st)
    (hN : (st.writers.map (·.tid)).Nodup) (hH : Head st w) (h : HeadOutcome st w c st') : InvS st' := by
  cases h with
  | fail _ => exact InvS.fail H hN hH.mem
  | switchFail _ _ =>
    exact InvS.fail (H.of_same rfl (syncTable_map (g := bwake) rfl (fun x _ => bwake_static x)))
      (nodup_tids_map bwake_tid hN) hH.switchFail.mem
  | delay _ _ | wait _ _ _ => exact H.setPc hN hH.mem _ _
  | begin sw g _ _ hg _ hsync =>
    have hT : syncTable (mapW (beginG st sw g) (putW w.tid { w with pc := .io })) = syncTable st :=
      syncTable_map rfl (putW_static (w := w) hN { w with pc := .io } hH.mem ⟨rfl, rfl, rfl⟩)
    intro h (hh : (st.queue.take g).head? = some h) hns m (hm : m ∈ st.queue.take g)
    rw [hT] at hns ⊢
    obtain ⟨q, hq⟩ := List.head?_eq_some_iff.1 hH.head
    have hhw : h = w.tid := by
      rw [hq] at hh
      cases g with
      | zero => omega
      | succ n => simp at hh; exact hh.symm
    subst hhw
    have hws : w.sync = false := by
      simp only [syncTable, List.mem_map, Prod.mk.injEq] at hns
      obtain ⟨x, hx, hxt, hxs⟩ := hns
      rw [← writer_unique hN hx hH.mem hxt]; exact hxs
    obtain ⟨x, hgx, hx⟩ := hsync hws m hm
    obtain ⟨hxm, hxt⟩ := getW_some hgx
    intro hmt
    simp only [syncTable, List.mem_map, Prod.mk.injEq] at hmt
    obtain ⟨y, hy, hyt, hys⟩ := hmt
    have hyx : y = x := writer_unique hN hy hxm (hyt.trans hxt.symm)
    rw [hyx] at hys
    have := hx hys
    rw [writer_unique hN hxm hH.mem this, hws] at hys
    cases hys

theorem step_InvS {st st' : St} {l : Label} (HQ : InvQ st) (H : InvS st) (h : step st l = some st') : InvS st' := by
  have hN := HQ.wnodup
  cases hl : isWriterLabel l with
  | false =>
    obtain ⟨hw | hw, _, hi, _⟩ := step_frame h hl
    · exact H.of_same hi (by unfold syncTable; rw [hw])
    · exact H.of_same hi (syncTable_map hw (fun x _ => bwake_static x))
  | true =>
    obtain ⟨w, hw, hs⟩ := step_writer HQ h hl
    have HE : InvS (enq st w.tid) := H.of_same rfl rfl
    cases hs with
    | sleep _ _ _ => exact HE.setPc hN hw _ _
    | enter _ _ hH ho => exact InvS.headOutcome HE hN hH ho
    | ret _ _ => exact InvS.setPc (st := { st with log := st.log ++ [(w.tid, true, st.lastSeq)] }) H hN hw _ _
    | wake _ hH ho => exact InvS.headOutcome H hN hH ho
    | commit sf _ _ =>
      rw [commitAct_eq hN]
      intro a ha; cases ha

structure Inv (st : St) : Prop where
  q : InvQ st
  b : InvB st
  l : InvL st
  s : InvS st

theorem step_Inv {st st' : St} {l : Label} (H : Inv st) (h : step st l = some st') : Inv st' :=
  ⟨step_InvQ H.q h, step_InvB H.q H.b h, step_InvL H.q H.l h, step_InvS H.q H.s h⟩

theorem init_Inv {ws : List Writer} {rs : List Reader} (hwf : WF ws rs) : Inv (initSt ws rs) := by
  obtain ⟨h1, h2, h3, h4⟩ := hwf
  refine ⟨⟨(List.nodup_append.1 h1).1, List.nodup_nil, (fun _ h => nomatch h), List.prefix_refl _, ?_⟩,
    ⟨by simp [initSt], by simp [initSt], nofun, by simp [initSt], ?_, ?_⟩,
    ⟨h1, h2, rfl, rfl, (fun _ h => nomatch h), ?_, List.Pairwise.nil, (fun _ h => nomatch h), (fun _ h => nomatch h),
      ?_, ?_, ?_⟩, ?_⟩
  · intro w hw _
    have := h3 w hw
    simp [WQ, initSt, this.1, this.2]
  · intro w hw
    have := h3 w hw
    simp [WB, initSt, this.1]
  · intro r hr _; exact Or.inl (h4 r hr)
  · exact ⟨[], by simp [initSt, writerInvs, invocations], by simp [initSt], by simp⟩
  · intro w hw
    have := h3 w hw
    simp [WC, initSt, wCommitted, this.1, this.2]
  · intro w hw _
    have := h3 w hw
    simp [WLog, initSt, this.1, entriesOf]
  · intro r hr
    have := h4 r hr
    simp [RL, initSt, this, entriesOf]
  · intro h hh; simp [initSt] at hh

theorem reachable_Inv {ws : List Writer} {rs : List Reader} (hwf : WF ws rs) {st : St} (h : Reachable ws rs st) :
    Inv st := by
  induction h with
  | init => exact init_Inv hwf
  | step l _ hs ih => exact step_Inv ih hs

theorem run_append {st st' st'' : St} {l1 l2 : List Label} (h1 : run st l1 = some st') (h2 : run st' l2 = some st'') :
    run st (l1 ++ l2) = some st'' := by
  induction l1 generalizing st with
  | nil => cases h1; exact h2
  | cons l ls ih =>
    obtain ⟨s, hs, h1'⟩ := Option.bind_eq_some_iff.1 h1
    exact Option.bind_eq_some_iff.2 ⟨s, hs, ih h1'⟩

theorem reachable_run {ws : List Writer} {rs : List Reader} {st st' : St} {ls : List Label}
    (h : Reachable ws rs st) (hr : run st ls = some st') : Reachable ws rs st' := by
  induction ls generalizing st with
  | nil => cases hr; exact h
  | cons l ls ih =>
    obtain ⟨s, hs, hr'⟩ := Option.bind_eq_some_iff.1 hr
    exact ih (Reachable.step l h hs) hr'

theorem HeadOutcome.history {st st' : St} {w : Writer} {c : RoomChoice} (h : HeadOutcome st w c st') :
    st'.committed = st.committed ∧ st'.lastSeq = st.lastSeq ∧ st'.groups = st.groups := by
  cases h <;> exact ⟨rfl, rfl, rfl⟩

theorem step_history {st st' : St} {l : Label} (HQ : InvQ st) (h : step st l = some st') :
    (st'.committed = st.committed ∧ st'.lastSeq = st.lastSeq ∧ st'.groups = st.groups ∧
      ∀ t, l ≠ .wCommit t false) ∨
    (∃ t, l = .wCommit t false ∧ st'.committed = st.committed ++ batchesOf st st.inflight ∧
      st'.lastSeq = st.lastSeq + st.inflight.length ∧ st'.groups = st.groups ++ [batchesOf st st.inflight]) := by
  cases hl : isWriterLabel l with
  | false =>
    obtain ⟨_, _, _, hls, hcm, hgr, _⟩ := step_frame h hl
    exact Or.inl ⟨hcm, hls, hgr, fun t e => by rw [e] at hl; cases hl⟩
  | true =>
    obtain ⟨w, _, hs⟩ := step_writer HQ h hl
    cases hs with
    | sleep _ _ _ | ret _ _ => exact Or.inl ⟨rfl, rfl, rfl, nofun⟩
    | enter _ _ _ ho | wake _ _ ho => exact Or.inl ⟨ho.history.1, ho.history.2.1, ho.history.2.2, nofun⟩
    | commit sf _ _ =>
      rw [commitAct_eq HQ.wnodup]
      cases sf with
      | true => exact Or.inl ⟨List.append_nil _, rfl, List.append_nil _, nofun⟩
      | false => exact Or.inr ⟨_, rfl, rfl, rfl, rfl⟩

end Lcdb.Conc
