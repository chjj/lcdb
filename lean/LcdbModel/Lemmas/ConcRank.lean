/-
  A rank (potential) on the states of the concurrency model that strictly decreases along every step that continues
  an operation in flight, except for the two kinds of worker steps that can repeat without bound: `bgStart` (the
  worker starts another round: `bgFinish` may reschedule it for as long as the data say a compaction is needed) and
  `bgMid false _ false` (a critical section of the worker that neither installs a flush nor records an error); those
  increase the rank by at most a constant.
-/
import LcdbModel.Lemmas.Conc

namespace Lcdb.Conc

def isSpin : Label → Bool
  | .bgStart => true
  | .bgMid false _ false => true
  | _ => false

/-! The constants. A waiter woken by a broadcast on the background cv may go back to sleep there by a step of its own,
    so `wokenBg` ranks above `asleepBg` (for writers and for the closer), and a broadcast *raises* the rank: by one per
    sleeper, at most `#writers + 1` in all (`rank_bcast`). Every worker step that broadcasts and is not a spin (`isSpin`)
    pays for this with `M`: it leaves `working` (`bgFinish`; `M + 1`, since it may also reschedule itself), clears `imm`, or records the error;
    hence `M ≥ #writers + 2`. The head that starts a group falls from a woken pc (`≥ 2 U + 1`) to `io` and may set
    `imm` and schedule the worker (`+ M + 1`); hence `U ≥ M + 2`. A reader that releases its snapshot may schedule
    the worker (`+ 1`); hence `releasing` is 2. -/

def wbase (U : Nat) : WPc → Nat
  | .idle => 0
  | .returned _ => 0
  | .asleepW => 3 * U + 1
  | .wokenW => 3 * U
  | .asleepBg => 2 * U
  | .wokenBg => 2 * U + 1
  | .delayed => 3 * U
  | .io => 1

def inFlightPc : WPc → Bool
  | .idle => false
  | .returned _ => false
  | _ => true

/-- the 1 ms delay a writer may still take -/
def bonus (U : Nat) (w : Writer) : Nat := if w.usedDelay then 0 else U

def wrank (U : Nat) (w : Writer) : Nat :=
  (if inFlightPc w.pc then (if w.done then 1 else wbase U w.pc) else 0) + bonus U w

def immrank (M : Nat) (b : Bool) : Nat := if b then M else 0
def errrank (M : Nat) (b : Bool) : Nat := if b then 0 else M

def rrank (r : Reader) : Nat :=
  match r.pc with
  | .reading _ => 3
  | .releasing _ => 2
  | _ => 0

def crank : CPc → Nat
  | .asleepBg => 1
  | .wokenBg => 2
  | _ => 0

def bgrank (M : Nat) : BgPc → Nat
  | .parked => 0
  | .posted => 1
  | .working => M + 1

def WS (U : Nat) (st : St) : Nat := (st.writers.map (wrank U)).sum
def RS (st : St) : Nat := (st.readers.map rrank).sum

def rankWith (M U : Nat) (st : St) : Nat :=
  WS U st + RS st + crank st.closer + bgrank M st.bg + immrank M st.imm + errrank M st.bgError

def rank (st : St) : Nat := rankWith (st.writers.length + 2) (st.writers.length + 4) st

def grank (M : Nat) (st : St) : Nat := crank st.closer + bgrank M st.bg + immrank M st.imm + errrank M st.bgError

theorem rankWith_eq (M U : Nat) (st : St) : rankWith M U st = WS U st + RS st + grank M st := by
  simp only [rankWith, grank, Nat.add_assoc]

theorem wrank_wake_le (U : Nat) (x : Writer) : wrank U (wake x) ≤ wrank U x := by
  unfold wake; split
  · rename_i h
    cases hd : x.done <;> simp [wrank, bonus, h, inFlightPc, wbase, hd]
  · exact Nat.le_refl _

theorem wrank_wakeHead_le (U : Nat) (q : List Tid) (x : Writer) : wrank U (wakeHead q x) ≤ wrank U x := by
  unfold wakeHead; split
  · exact wrank_wake_le U x
  · exact Nat.le_refl _

theorem wrank_bwake_le (U : Nat) (x : Writer) : wrank U (bwake x) ≤ wrank U x + 1 := by
  unfold bwake; split
  · rename_i h
    cases hd : x.done <;> simp [wrank, bonus, h, inFlightPc, wbase, hd] <;> omega
  · exact Nat.le_succ _

theorem wrank_markF_le (U : Nat) (ok : Bool) {x : Writer} (hp : x.pc = .asleepW) :
    wrank U (markF ok x) ≤ wrank U x := by
  cases hd : x.done <;> simp [wrank, bonus, markF, hp, inFlightPc, wbase, hd] <;> omega

theorem wrank_returned (U : Nat) (w : Writer) (ok : Bool) :
    wrank U { w with pc := .returned ok } = bonus U w := by
  simp [wrank, inFlightPc, bonus]

theorem wrank_woken {U : Nat} (hU : 1 ≤ U) {w : Writer} (hpc : w.pc = .wokenW ∨ w.pc = .wokenBg ∨ w.pc = .delayed)
    (hd : w.done = false) : 2 * U + 1 + bonus U w ≤ wrank U w := by
  rcases hpc with h | h | h <;> simp [wrank, h, inFlightPc, hd, wbase] <;> omega

theorem wrank_setPc (U : Nat) {w : Writer} (hd : w.done = false) (p : WPc) (hp : inFlightPc p = true) :
    wrank U { w with pc := p } = wbase U p + bonus U w := by
  simp [wrank, hp, hd, bonus]

theorem rankWith_mapW_le {M U : Nat} {st G : St} {g : Writer → Writer} {w : Writer} {d e : Nat}
    (hN : (st.writers.map (·.tid)).Nodup) (hw : w ∈ st.writers) (hGw : G.writers = st.writers)
    (hGr : G.readers = st.readers) (hgw : wrank U (g w) + d ≤ wrank U w)
    (hg : ∀ x ∈ st.writers, x.tid ≠ w.tid → wrank U (g x) ≤ wrank U x) (he : grank M G ≤ grank M st + e) :
    rankWith M U (mapW G g) + d ≤ rankWith M U st + e := by
  have hWS : WS U (mapW G g) + d ≤ WS U st := by
    unfold WS; rw [mapW_writers, hGw, List.map_map]
    refine sum_map_lt st.writers (wrank U) _ (fun x hx => ?_) hw hgw
    by_cases h : x.tid = w.tid
    · rw [writer_unique hN hx hw h]; exact Nat.le_of_add_right_le hgw
    · exact hg x hx h
  have hRS : RS (mapW G g) = RS st := by unfold RS; rw [mapW_readers, hGr]
  have hgr : grank M (mapW G g) = grank M G := rfl
  rw [rankWith_eq, rankWith_eq, hRS, hgr]; omega

theorem rankWith_mapR_le {M U : Nat} {st G : St} {r r' : Reader} {d e : Nat}
    (hN : (st.readers.map (·.tid)).Nodup) (hr : r ∈ st.readers) (hGw : G.writers = st.writers)
    (hGr : G.readers = st.readers) (hd : rrank r' + d ≤ rrank r) (he : grank M G ≤ grank M st + e) :
    rankWith M U (mapR G (putR r.tid r')) + d ≤ rankWith M U st + e := by
  have hRS : RS (mapR G (putR r.tid r')) + d ≤ RS st := by
    unfold RS; rw [mapR_readers, hGr, List.map_map]
    refine sum_map_lt st.readers rrank _ (fun x hx => ?_) hr ?_
    · simp only [Function.comp, putR]
      split
      · rename_i h; rw [nodup_map_inj hN x hx r hr h]; exact Nat.le_of_add_right_le hd
      · exact Nat.le_refl _
    · simp only [Function.comp, putR, if_true]; exact hd
  have hWS : WS U (mapR G (putR r.tid r')) = WS U st := by unfold WS; rw [mapR_writers, hGw]
  have hgr : grank M (mapR G (putR r.tid r')) = grank M G := rfl
  rw [rankWith_eq, rankWith_eq, hWS, hgr]; omega

theorem rank_bcast (M U : Nat) (on : Bool) (G : St) :
    (bcast on G).writers.length = G.writers.length ∧
      rankWith M U (bcast on G) ≤ rankWith M U G + G.writers.length + 1 := by
  cases on with
  | false => exact ⟨rfl, Nat.le_trans (Nat.le_add_right _ _) (Nat.le_succ _)⟩
  | true =>
    have h1 : ((G.writers.map bwake).map (wrank U)).sum ≤ (G.writers.map (wrank U)).sum + G.writers.length := by
      rw [List.map_map]; exact sum_map_le_add _ _ _ (fun x _ => wrank_bwake_le U x)
    have h2 : crank (if G.closer = .asleepBg then .wokenBg else G.closer) ≤ crank G.closer + 1 := by
      split
      · rename_i h; rw [h]; simp [crank]
      · exact Nat.le_succ _
    refine ⟨List.length_map _, ?_⟩
    simp only [bcast, if_true, rankWith, RS, WS] at h1 h2 ⊢
    omega

theorem grank_schedIf (M : Nat) (on : Bool) {G : St} (hs : G.bgScheduled = false → G.bg = .parked) :
    grank M (schedIf on G) ≤ grank M G + 1 := by
  unfold schedIf
  cases hn : (on && needSched G) with
  | false => exact Nat.le_succ _
  | true =>
    have hb : G.bgScheduled = false := by
      cases hb : G.bgScheduled with
      | false => rfl
      | true => simp [needSched, hb] at hn
    simp only [grank, hs hb, bgrank]; simp; omega

theorem fail_rank {M U : Nat} {st : St} {w : Writer} (hN : (st.writers.map (·.tid)).Nodup) (hw : w ∈ st.writers)
    {d : Nat} (hd : bonus U w + d ≤ wrank U w) :
    (failSt st w).writers.length = st.writers.length ∧ rankWith M U (failSt st w) + d ≤ rankWith M U st := by
  have := rankWith_mapW_le (M := M) (U := U) (G := failG st w.tid) (d := d) (e := 0)
    (g := wakeHead (st.queue.drop 1) ∘ putW w.tid { w with pc := .returned false }) hN hw rfl rfl
    (by simp only [Function.comp, putW_self _ rfl]
        have := wrank_wakeHead_le U (st.queue.drop 1) { w with pc := .returned false }
        rw [wrank_returned] at this; omega)
    (fun x _ hx => by simp only [Function.comp, putW_of_ne _ hx]; exact wrank_wakeHead_le U _ x) (Nat.le_add_right _ _)
  exact ⟨List.length_map _, this⟩

theorem setW_rank {M U : Nat} {st G : St} {w w' : Writer} {d : Nat} (hN : (st.writers.map (·.tid)).Nodup)
    (hw : w ∈ st.writers) (hGw : G.writers = st.writers) (hGr : G.readers = st.readers)
    (hd : wrank U w' + d ≤ wrank U w) (he : grank M G = grank M st) :
    (mapW G (putW w.tid w')).writers.length = st.writers.length ∧
      rankWith M U (mapW G (putW w.tid w')) + d ≤ rankWith M U st := by
  have := rankWith_mapW_le (M := M) (U := U) (g := putW w.tid w') (d := d) (e := 0) hN hw hGw hGr
    (by rw [putW_self _ rfl]; exact hd) (fun x _ hx => by rw [putW_of_ne _ hx]; exact Nat.le_refl _) (Nat.le_of_eq he)
  exact ⟨by simp [hGw], this⟩

theorem grank_beginG {M : Nat} {st : St} (H : InvB st) (sw : Bool) (g : Nat) (himm : sw = true → st.imm = false) :
    grank M (beginG st sw g) ≤ grank M st + (M + 1) := by
  have := grank_schedIf M sw (G := { st with imm := sw || st.imm }) H.parked
  have h2 : grank M { st with imm := sw || st.imm } ≤ grank M st + M := by
    cases sw with
    | false => exact Nat.le_add_right _ _
    | true => simp only [grank, immrank, himm rfl]; simp; omega
  exact Nat.le_trans this (by omega)

/-- A woken head holds `≥ 2 U + 1` (`wrank_woken`): failing or starting a group leaves at most 1 of it and adds at most
    `#writers + 1` (broadcast of the error) resp. `M + 1` (switch); the delay keeps the pc's weight and spends the bonus
    `U`; waiting goes down to `asleepBg`. -/
theorem headOutcome_rank {M U : Nat} {st st' : St} {w : Writer} {c : RoomChoice} (H : Inv st)
    (hM : st.writers.length + 2 ≤ M) (hU : M + 2 ≤ U) (hH : Head st w) (hni : w.pc ≠ .idle)
    (ho : HeadOutcome st w c st') :
    st'.writers.length = st.writers.length ∧ rankWith M U st' + 1 ≤ rankWith M U st := by
  have hN := H.q.wnodup
  have hwk := wrank_woken (U := U) (by omega) (hH.pc.resolve_left hni) hH.notDone
  cases ho with
  | fail _ => exact fail_rank hN hH.mem (d := 1) (by omega)
  | switchFail hE hi =>
    obtain ⟨h1, h2⟩ := fail_rank (M := M) (U := U) (nodup_tids_map bwake_tid hN) hH.switchFail.mem
      (d := 2 * U + 1) (Nat.add_comm _ _ ▸ hwk)
    obtain ⟨hl, h3⟩ := rank_bcast M U true { st with imm := true, bgError := true }
    replace h3 : _ ≤ _ + st.writers.length + 1 := h3
    have h4 : rankWith M U { st with imm := true, bgError := true } = rankWith M U st := by
      simp only [rankWith, WS, RS, hE, hi, immrank, errrank]; simp
    rw [h4] at h3
    exact ⟨h1.trans hl, by omega⟩
  | delay _ hud =>
    have hb : bonus U w = U := by simp [bonus, hud]
    have hnew : wrank U { w with pc := .delayed, usedDelay := true } = 3 * U := by
      simp [wrank, inFlightPc, hH.notDone, wbase, bonus]
    exact setW_rank (w := w) hN hH.mem rfl rfl (by rw [hnew]; omega) rfl
  | wait _ _ _ =>
    exact setW_rank (w := w) hN hH.mem rfl rfl (by rw [wrank_setPc U hH.notDone _ rfl]; simp only [wbase]; omega) rfl
  | begin sw g hE himm _ _ _ =>
    have h2 := rankWith_mapW_le (M := M) (U := U) (G := beginG st sw g) (g := putW w.tid { w with pc := .io })
      (d := M + 2) hN hH.mem rfl rfl
      (by rw [putW_self _ rfl, wrank_setPc U hH.notDone _ rfl]; simp only [wbase]; omega)
      (fun x _ hx => by rw [putW_of_ne _ hx]; exact Nat.le_refl _) (grank_beginG H.b sw g himm)
    exact ⟨List.length_map _, by omega⟩

theorem commit_rank {M U : Nat} {st : St} {w : Writer} (H : Inv st) (hw : w ∈ st.writers)
    (hpc : w.pc = .io) (sf : Bool) :
    (commitAct st w sf).writers.length = st.writers.length ∧
      rankWith M U (commitAct st w sf) + 1 ≤ rankWith M U st := by
  have hN := H.q.wnodup
  have hs : st.shuttingDown = false := H.b.not_shutting hw (by simp [hpc]) (by simp [hpc])
  have hcl := H.b.closer_idle hs
  have hwq := H.q.wq' hw
  simp only [WQ, hpc] at hwq
  rw [commitAct_eq hN]
  refine ⟨List.length_map _, ?_⟩
  suffices h : rankWith M U (mapW (commitG st w.tid sf) (commitW st w sf)) + 1 ≤ rankWith M U st + 0 from h
  refine rankWith_mapW_le hN hw rfl rfl ?_ ?_ ?_
  · have : wrank U w = 1 + bonus U w := by simp [wrank, hpc, inFlightPc, wbase, hwq.1]
    rw [commitW_leader st w sf rfl, wrank_returned]; omega
  · intro x hx hxt
    rcases H.q.commitW_cases hw hpc sf hx with ⟨rfl, _⟩ | ⟨_, _, ⟨_, hp, e⟩ | ⟨_, e⟩⟩
    · exact absurd rfl hxt
    · rw [e]; exact wrank_markF_le U _ hp
    · rw [e]; exact wrank_wakeHead_le U _ x
  · cases sf with
    | false => exact Nat.le_refl _
    | true => simp only [commitG, grank, hcl, errrank, if_true]; simp

theorem rankWith_step {M U : Nat} {st st' : St} {l : Label} (H : Inv st)
    (hM : st.writers.length + 2 ≤ M) (hU : M + 2 ≤ U) (hs : step st l = some st') (hni : isInvocation l = false) :
    st'.writers.length = st.writers.length ∧
    (isSpin l = true → rankWith M U st' ≤ rankWith M U st + M) ∧
    (isSpin l = false → rankWith M U st' + 1 ≤ rankWith M U st) := by
  have hN := H.q.wnodup
  cases hl : isWriterLabel l with
  | true =>
    obtain ⟨w, hw, hws⟩ := step_writer H.q hs hl
    suffices h : st'.writers.length = st.writers.length ∧ rankWith M U st' + 1 ≤ rankWith M U st from
      ⟨h.1, fun hsp => (by cases hws <;> cases hsp), fun _ => h.2⟩
    cases hws with
    | sleep _ _ _ | enter _ _ _ _ => cases hni
    | ret hpc hd =>
      exact setW_rank (G := { st with log := st.log ++ [(w.tid, true, st.lastSeq)] }) (w := w)
        (w' := { w with pc := .returned w.status }) (d := 1) hN hw rfl rfl
        (by rw [wrank_returned]; simp [wrank, hpc, inFlightPc, hd]; omega) rfl
    | wake hni' hH ho => exact headOutcome_rank H hM hU hH hni' ho
    | commit sf hpc _ => exact commit_rank H hw hpc sf
  | false =>
  cases l with
  | rCapture t => cases hni
  | close => cases hni
  | rRead t =>
    obtain ⟨r, s, hg, hpc, rfl⟩ := step_rRead hs
    obtain ⟨hr, rfl⟩ := getR_some hg
    rw [setR_eq]
    have := rankWith_mapR_le (M := M) (U := U) (r := r) (G := st) (r' := { r with pc := .releasing s }) (d := 1) (e := 0)
      H.l.rnodup hr rfl rfl (by simp [rrank, hpc]) (Nat.le_add_right _ _)
    exact ⟨rfl, nofun, fun _ => this⟩
  | rRelease t seek =>
    obtain ⟨r, s, hg, hpc, rfl⟩ := step_rRelease hs
    obtain ⟨hr, rfl⟩ := getR_some hg
    have hd : rrank { r with pc := .returned s } + 2 ≤ rrank r := by simp [rrank, hpc]
    have := rankWith_mapR_le (M := M) (U := U) (r := r) H.l.rnodup hr
      (G := { schedIf seek { st with needsCompaction := seek || st.needsCompaction } with
                log := st.log ++ [(r.tid, true, st.lastSeq)] }) rfl rfl hd
      (grank_schedIf M seek (G := { st with needsCompaction := seek || st.needsCompaction }) H.b.parked)
    exact ⟨rfl, nofun, fun _ => Nat.le_of_add_le_add_right (b := 1) this⟩
  | bgStart =>
    obtain ⟨hb, rfl⟩ := step_bgStart hs
    refine ⟨rfl, fun _ => ?_, nofun⟩
    simp only [rankWith, WS, RS, hb, bgrank]; omega
  | bgMid fd bc er =>
    obtain ⟨hb, hE, hfd, rfl⟩ := step_bgMid hs
    -- gives up `M` for each of `fd`, `er` (`hr1`); the broadcast adds at most `#writers + 1` (`hbc`)
    generalize hst1 : ({ st with imm := if fd then false else st.imm,
                                 bgError := if er then true else st.bgError } : St) = st1
    have hw1 : st1.writers = st.writers := by rw [← hst1]
    have hbc := rank_bcast M U (bc || er) st1
    rw [hw1] at hbc
    have hr1 : rankWith M U st1 + (if fd = true then M else 0) + (if er = true then M else 0) = rankWith M U st := by
      rw [← hst1, rankWith_eq, rankWith_eq]
      have e1 : immrank M (if fd = true then false else st.imm) + (if fd = true then M else 0) = immrank M st.imm := by
        cases fd
        · rfl
        · simp [immrank, hfd rfl]
      have e2 : errrank M (if er = true then true else st.bgError) + (if er = true then M else 0) = errrank M st.bgError := by
        cases er
        · rfl
        · simp [errrank, hE rfl]
      simp only [grank, WS, RS] at e1 e2 ⊢
      omega
    refine ⟨hbc.1, fun hsp => ?_, fun hsp => ?_⟩
    · have : fd = false ∧ er = false := by cases fd <;> cases er <;> simp [isSpin] at hsp ⊢
      obtain ⟨h1, h2⟩ := this
      simp only [h1, h2, Bool.false_eq_true, if_false] at hr1
      omega
    · have : fd = true ∨ er = true := by cases fd <;> cases er <;> simp [isSpin] at hsp ⊢
      rcases this with h1 | h1
      · simp only [h1, if_true] at hr1; omega
      · simp only [h1, if_true] at hr1; omega
  | bgFinish sn =>
    obtain ⟨hb, rfl⟩ := step_bgFinish hs
    -- `working → parked` gives up `M + 1` (`h3`); rescheduling adds at most 1 (`h2`), the broadcast `#writers + 1` (`h1`)
    obtain ⟨hl, h1⟩ :=
      rank_bcast M U true (schedIf true { st with bgScheduled := false, bg := .parked, needsCompaction := sn })
    have h2 := grank_schedIf M true (G := { st with bgScheduled := false, bg := .parked, needsCompaction := sn })
      (fun _ => rfl)
    have h3 : grank M { st with bgScheduled := false, bg := .parked, needsCompaction := sn } + (M + 1) = grank M st := by
      simp only [grank, hb, bgrank]; omega
    have e : rankWith M U (schedIf true { st with bgScheduled := false, bg := .parked, needsCompaction := sn }) =
        WS U st + RS st + grank M (schedIf true { st with bgScheduled := false, bg := .parked, needsCompaction := sn }) :=
      rankWith_eq _ _ _
    have hl' : (schedIf true { st with bgScheduled := false, bg := .parked, needsCompaction := sn }).writers.length =
        st.writers.length := rfl
    refine ⟨hl, nofun, fun _ => ?_⟩
    rw [rankWith_eq M U st]
    omega
  | closeWake =>
    obtain ⟨hc, rfl⟩ := step_closeWake hs
    refine ⟨rfl, nofun, fun _ => ?_⟩
    have h1 : crank (if st.bgScheduled = true then CPc.asleepBg else CPc.returned) ≤ 1 := by
      split <;> simp [crank]
    have h2 : crank CPc.wokenBg = 2 := rfl
    simp only [rankWith, WS, RS, hc]
    omega
  | _ => cases hl

end Lcdb.Conc
