/-
  Lemmas about LcdbModel.Model.TableFormat0 (block handle and footer of src/table/format.c).  The footer reader is taken
  on `handles ‖ padding ‖ magic` for any padding; the footer round trip in Props/FilterProps.lean is the case of zero
  padding.  `ldb_read_block`, the rest of format.c, is in Model/Table.lean.
-/
import LcdbModel.Model.TableFormat0
import LcdbModel.Props.CodingProps
namespace Lcdb

theorem handle_roundtrip (h : BlockHandle) (rest : Bytes)
    (ho : h.offset < 2 ^ 64) (hs : h.size < 2 ^ 64) :
    handleRead (handleEncode h ++ rest) = some (h, rest) := by
  unfold handleRead handleEncode
  rw [List.append_assoc, varint64_roundtrip h.offset _ ho]
  simp only
  rw [varint64_roundtrip h.size _ hs]

theorem handleEncode_length_le (h : BlockHandle) (ho : h.offset < 2 ^ 64) (hs : h.size < 2 ^ 64) :
    (handleEncode h).length ≤ handleMaxLen := by
  unfold handleEncode handleMaxLen
  have := varintEnc_length_le64 h.offset ho
  have := varintEnc_length_le64 h.size hs
  rw [List.length_append]; omega

theorem handleEncode_length_pos (h : BlockHandle) : 2 ≤ (handleEncode h).length := by
  unfold handleEncode
  have := varintEnc_length_pos h.offset
  have := varintEnc_length_pos h.size
  rw [List.length_append]; omega

theorem handleRead_consumes (bs : Bytes) (h : BlockHandle) (rest : Bytes)
    (hr : handleRead bs = some (h, rest)) :
    h.offset < 2 ^ 64 ∧ h.size < 2 ^ 64 ∧ ∃ k, 2 ≤ k ∧ k ≤ 20 ∧ rest = bs.drop k := by
  unfold handleRead at hr
  split at hr
  · cases hr
  · next o r1 h1 =>
    split at hr
    · cases hr
    · next s r2 h2 =>
      cases hr
      obtain ⟨ho, k1, _, _, hd1⟩ := varint64Read_consumes bs o r1 h1
      obtain ⟨hs, k2, _, _, hd2⟩ := varint64Read_consumes r1 s rest h2
      exact ⟨ho, hs, k1 + k2, by omega, by omega, by rw [hd2, hd1, List.drop_drop]⟩

theorem footerRead_layout (f : Footer) (pad rest : Bytes)
    (h1 : f.metaindex.offset < 2 ^ 64) (h2 : f.metaindex.size < 2 ^ 64)
    (h3 : f.index.offset < 2 ^ 64) (h4 : f.index.size < 2 ^ 64)
    (hp : (handleEncode f.metaindex ++ handleEncode f.index).length + pad.length = 2 * handleMaxLen) :
    footerRead (handleEncode f.metaindex ++ handleEncode f.index ++ pad ++ fixedEnc 8 tableMagic ++ rest)
      = some (f, rest) := by
  have hm : (fixedEnc 8 tableMagic).length = 8 := fixedEnc_length 8 tableMagic
  have h40 : (handleEncode f.metaindex ++ handleEncode f.index ++ pad).length = footerSize - 8 := by
    rw [List.length_append]; exact hp
  have h48 : (handleEncode f.metaindex ++ handleEncode f.index ++ pad ++ fixedEnc 8 tableMagic).length
      = footerSize := by
    rw [List.length_append, h40, hm]; rfl
  unfold footerRead
  rw [if_neg (by rw [List.length_append, h48]; omega), List.drop_left' h48, List.append_assoc _ _ rest,
    List.drop_left' h40, List.take_left' hm, fixedDec_fixedEnc, if_neg (by decide)]
  simp only [List.append_assoc]
  rw [handle_roundtrip _ _ h1 h2]
  simp only
  rw [handle_roundtrip _ _ h3 h4]

end Lcdb
