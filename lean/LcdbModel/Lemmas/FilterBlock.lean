/-
  Lemmas about LcdbModel.Model.FilterBlock.

  `filterLayout fs` is the byte layout of a filter block holding the filters `fs`
  (an empty filter = "no keys in this 2 KiB range").  The reader on `filterLayout fs` selects exactly
  `fs[idx]`.  The state of the builder is a function `KeySets.gen p s` of the key sets `s` it has been
  given, those already closed (one per filter generated) and the pending one; each builder operation is an
  equation between two of its values, and the built block is `filterLayout ((keySets blocks).map (genFilter p))`
  for any policy and any call sequence, where `keySets` mentions neither the policy nor any byte: what the
  block covers and how long it is are facts about lists of key lists.
-/
import LcdbModel.Model.FilterBlock
import LcdbModel.Lemmas.Coding
import LcdbModel.Lemmas.ListBasic
import LcdbModel.Lemmas.Bloom
namespace Lcdb

theorem fixed32At_entry (D T : Bytes) (xs : List Nat) (i : Nat) (hi : i < xs.length) :
    fixed32At (D ++ xs.flatMap (fixedEnc 4) ++ T) (D.length + i * 4) = xs[i] % 2 ^ 32 :=
  fixedDec_word D T xs i hi

/-- entry `i` is where filter `i` starts, the last entry is the total length (the array offset word) -/
def prefixLens (fs : List Bytes) : List Nat :=
  (List.range (fs.length + 1)).map (fun i => (fs.take i).flatten.length)

theorem prefixLens_length (fs : List Bytes) : (prefixLens fs).length = fs.length + 1 := by simp [prefixLens]

theorem prefixLens_getElem (fs : List Bytes) (i : Nat) (hi : i < (prefixLens fs).length) :
    (prefixLens fs)[i] = (fs.take i).flatten.length := by
  simp only [prefixLens, List.getElem_map, List.getElem_range]

def starts (fs : List Bytes) : List Nat := (List.range fs.length).map fun i => (fs.take i).flatten.length

theorem starts_concat (fs : List Bytes) (f : Bytes) : starts (fs ++ [f]) = prefixLens fs := by
  unfold starts prefixLens
  rw [List.length_append, List.length_singleton]
  apply List.map_congr_left
  intro i hi
  rw [List.take_append_of_le_length (by have := List.mem_range.mp hi; omega)]

theorem prefixLens_eq (fs : List Bytes) : prefixLens fs = starts fs ++ [fs.flatten.length] := by
  unfold starts prefixLens
  rw [List.range_succ, List.map_append, List.map_singleton, List.take_length]

def filterLayout (fs : List Bytes) : Bytes :=
  fs.flatten ++ (prefixLens fs).flatMap (fixedEnc 4) ++ [UInt8.ofNat filterBaseLg]

theorem layout_length (fs : List Bytes) : (filterLayout fs).length = fs.flatten.length + 4 * fs.length + 5 := by
  rw [filterLayout, List.length_append, List.length_append, flatMap_fixedEnc4_length, prefixLens_length,
    List.length_singleton]
  omega

theorem fixed32At_layout (fs : List Bytes) (hlen : fs.flatten.length < 2 ^ 32) (i : Nat) (hi : i ≤ fs.length) :
    fixed32At (filterLayout fs) (fs.flatten.length + i * 4) = (fs.take i).flatten.length := by
  have hi' : i < (prefixLens fs).length := by rw [prefixLens_length]; omega
  rw [filterLayout, fixed32At_entry _ _ _ i hi', prefixLens_getElem]
  exact Nat.mod_eq_of_lt (Nat.lt_of_le_of_lt (flatten_take_le fs i) hlen)

theorem filterReaderInit_eq (c : Bytes) (d m lg : Nat) (hn : c.length = d + 4 * m + 5)
    (hlast : fixed32At c (c.length - 5) = d) (hlg : (c.getD (c.length - 1) 0).toNat % 64 = lg) :
    filterReaderInit c = { data := c, arrayOff := d, num := m, baseLg := lg } := by
  unfold filterReaderInit
  simp only
  rw [if_neg (by omega), hlast, hlg, if_neg (by omega), hn, Nat.add_sub_cancel, Nat.add_sub_cancel_left,
    Nat.mul_div_cancel_left m (by decide)]

theorem filterReaderInit_layout (fs : List Bytes) (hlen : fs.flatten.length < 2 ^ 32) :
    filterReaderInit (filterLayout fs) =
      { data := filterLayout fs, arrayOff := fs.flatten.length, num := fs.length, baseLg := filterBaseLg } := by
  have hn := layout_length fs
  apply filterReaderInit_eq _ _ _ _ hn
  · rw [show (filterLayout fs).length - 5 = fs.flatten.length + fs.length * 4 by omega,
      fixed32At_layout fs hlen _ (Nat.le_refl _), List.take_length]
  · have hidx1 : (filterLayout fs).length - 1 =
        (fs.flatten ++ (prefixLens fs).flatMap (fixedEnc 4)).length := by
      rw [List.length_append, flatMap_fixedEnc4_length, prefixLens_length]; omega
    rw [List.getD_eq_getElem?_getD, hidx1, filterLayout, List.getElem?_append_right (Nat.le_refl _),
      Nat.sub_self]
    rfl

theorem layout_slice (fs : List Bytes) (i : Nat) (hi : i < fs.length) :
    ((filterLayout fs).drop (fs.take i).flatten.length).take
      ((fs.take (i + 1)).flatten.length - (fs.take i).flatten.length) = fs[i] := by
  have hsucc := flatten_take_succ fs i hi
  have hD : fs.flatten = (fs.take i).flatten ++ fs[i] ++ (fs.drop (i + 1)).flatten := by
    rw [← hsucc, ← List.flatten_append, List.take_append_drop]
  rw [filterLayout, hD, hsucc, List.length_append, Nat.add_sub_cancel_left, List.append_assoc _ _ [_],
    List.append_assoc _ (fs.drop (i + 1)).flatten, List.append_assoc, List.drop_left, List.take_left]

theorem filterMatch_layout (p : Policy) (fs : List Bytes) (hlen : fs.flatten.length < 2 ^ 32)
    (i : Nat) (hi : i < fs.length) (off : Nat) (hoff : off / filterBase = i) (key : Bytes) :
    filterMatch p (filterLayout fs) off key = p.mayMatch fs[i] key := by
  unfold filterMatch
  rw [filterReaderInit_layout fs hlen]
  unfold FilterReader.mayMatch
  simp only
  rw [show off / 2 ^ filterBaseLg = i from hoff, if_pos hi, fixed32At_layout fs hlen i (Nat.le_of_lt hi),
    Nat.add_assoc, ← Nat.succ_mul, fixed32At_layout fs hlen (i + 1) hi,
    if_pos ⟨by rw [flatten_take_succ fs i hi, List.length_append]; omega, flatten_take_le fs _⟩,
    layout_slice fs i hi]

def genFilter (p : Policy) (pending : List Bytes) : Bytes :=
  if pending.isEmpty then [] else p.build pending

theorem generate_eq (p : Policy) (fb : FilterGen) :
    fb.generate p = { pending := [], result := fb.result ++ genFilter p fb.pending,
                      offsets := fb.offsets ++ [fb.result.length] } := by
  unfold FilterGen.generate genFilter
  cases hp : fb.pending with
  | nil => cases fb; simp_all
  | cons a l => simp

/-- the keys a builder has been given: one set per filter already generated, and the pending one -/
structure KeySets where
  closed : List (List Bytes) := []
  pending : List Bytes := []

namespace KeySets

/-- `start_block(blk.1)`, then `add_key` for each key of `blk.2` -/
def addBlock (s : KeySets) (blk : Nat × List Bytes) : KeySets :=
  if blk.1 / filterBase ≤ s.closed.length then { s with pending := s.pending ++ blk.2 }
  else ⟨s.closed ++ s.pending :: List.replicate (blk.1 / filterBase - s.closed.length - 1) [], blk.2⟩

def all (s : KeySets) : List (List Bytes) := s.closed ++ [s.pending]

def finish (s : KeySets) : List (List Bytes) := if s.pending.isEmpty then s.closed else s.all

def gen (p : Policy) (s : KeySets) : FilterGen :=
  { pending := s.pending, result := (s.closed.map (genFilter p)).flatten, offsets := starts (s.closed.map (genFilter p)) }

end KeySets

/-- the key set of every filter of the block built from `blocks` -/
def keySets (blocks : List (Nat × List Bytes)) : List (List Bytes) := (blocks.foldl KeySets.addBlock {}).finish

theorem generate_gen (p : Policy) (s : KeySets) : (s.gen p).generate p = KeySets.gen p ⟨s.all, []⟩ := by
  rw [generate_eq, KeySets.gen, KeySets.gen, KeySets.all, List.map_append, List.map_singleton, starts_concat,
    prefixLens_eq, List.flatten_concat]

/-- the first `generate` closes the pending key set, each further one an empty set -/
theorem generateN_gen (p : Policy) (n : Nat) : ∀ s : KeySets,
    FilterGen.generateN p (n + 1) (s.gen p) = KeySets.gen p ⟨s.closed ++ s.pending :: List.replicate n [], []⟩ := by
  induction n with
  | zero => intro s; rw [FilterGen.generateN, generate_gen]; rfl
  | succ n ih =>
    intro s
    rw [FilterGen.generateN, generate_gen, ih, KeySets.all, List.append_assoc, List.singleton_append,
      List.replicate_succ]

theorem foldl_addKey_eq (keys : List Bytes) : ∀ fb : FilterGen,
    keys.foldl FilterGen.addKey fb = { fb with pending := fb.pending ++ keys } := by
  induction keys with
  | nil => intro fb; rw [List.append_nil]; rfl
  | cons k keys ih => intro fb; rw [List.foldl_cons, ih, FilterGen.addKey, List.append_assoc]; rfl

theorem addBlock_gen (p : Policy) (s : KeySets) (blk : Nat × List Bytes) :
    FilterGen.addBlock p (s.gen p) blk = (s.addBlock blk).gen p := by
  have hlen : (s.gen p).offsets.length = s.closed.length := by simp [KeySets.gen, starts]
  rw [FilterGen.addBlock, FilterGen.startBlock, foldl_addKey_eq, hlen, KeySets.addBlock]
  split
  · next h => rw [Nat.sub_eq_zero_of_le h]; rfl
  · next h =>
    rw [show blk.1 / filterBase - s.closed.length = (blk.1 / filterBase - s.closed.length - 1) + 1 by omega,
      generateN_gen]
    rfl

theorem finish_gen (p : Policy) (s : KeySets) : (s.gen p).finish p = filterLayout (s.finish.map (genFilter p)) := by
  have h (s : KeySets) : (s.gen p).result ++ (s.gen p).offsets.flatMap (fixedEnc 4)
      ++ fixedEnc 4 (s.gen p).result.length ++ [UInt8.ofNat filterBaseLg] = filterLayout (s.closed.map (genFilter p)) := by
    rw [filterLayout, prefixLens_eq, List.flatMap_append, List.flatMap_singleton, ← List.append_assoc _ _ (fixedEnc 4 _)]
    rfl
  rw [FilterGen.finish, KeySets.finish]
  split
  · next he => rw [if_pos (show s.pending.isEmpty = true from he)]; exact h s
  · next he => rw [if_neg (show ¬ s.pending.isEmpty = true from he), generate_gen]; exact h _

theorem filterBuild_eq (p : Policy) (blocks : List (Nat × List Bytes)) :
    filterBuild p blocks = filterLayout ((keySets blocks).map (genFilter p)) := by
  rw [filterBuild, show ({} : FilterGen) = KeySets.gen p {} from rfl, List.foldl_hom (KeySets.gen p) (addBlock_gen p),
    finish_gen, keySets]

def InSet (kss : List (List Bytes)) (i : Nat) (k : Bytes) : Prop := ∃ ks, kss[i]? = some ks ∧ k ∈ ks

theorem InSet_at {c more : List (List Bytes)} {x : List Bytes} {k : Bytes} (hk : k ∈ x) :
    InSet (c ++ x :: more) c.length k :=
  ⟨x, by rw [List.getElem?_append_right (Nat.le_refl _), Nat.sub_self]; rfl, hk⟩

/-- closed sets stay; the pending one may go anywhere as long as its keys stay in set number `s.closed.length` -/
theorem InSet_keep {s : KeySets} {more : List (List Bytes)} {i : Nat} {k : Bytes} (h : InSet s.all i k)
    (ho : ∀ k ∈ s.pending, InSet (s.closed ++ more) s.closed.length k) : InSet (s.closed ++ more) i k := by
  obtain ⟨ks, hks, hk⟩ := h
  rcases Nat.lt_or_ge i s.closed.length with hi | hi
  · rw [KeySets.all, List.getElem?_append_left hi] at hks
    exact ⟨ks, by rw [List.getElem?_append_left hi]; exact hks, hk⟩
  · rw [KeySets.all, List.getElem?_append_right hi] at hks
    cases hd : i - s.closed.length with
    | zero =>
      rw [hd] at hks; cases hks
      rw [show i = s.closed.length by omega]; exact ho k hk
    | succ j => rw [hd] at hks; cases hks

theorem addBlock_all (s : KeySets) (blk : Nat × List Bytes) :
    (s.addBlock blk).all = if blk.1 / filterBase ≤ s.closed.length then s.closed ++ [s.pending ++ blk.2]
      else s.closed ++ s.pending :: (List.replicate (blk.1 / filterBase - s.closed.length - 1) [] ++ [blk.2]) := by
  unfold KeySets.all KeySets.addBlock
  split
  · rfl
  · rw [List.append_assoc, List.cons_append]

theorem addBlock_mono (s : KeySets) (blk : Nat × List Bytes) {i : Nat} {k : Bytes}
    (h : InSet s.all i k) : InSet (s.addBlock blk).all i k := by
  rw [addBlock_all]
  split
  · exact InSet_keep h fun k hk => InSet_at (List.mem_append_left _ hk)
  · exact InSet_keep h fun k hk => InSet_at hk

theorem addBlock_length (s : KeySets) (blk : Nat × List Bytes) :
    (s.addBlock blk).closed.length = max s.closed.length (blk.1 / filterBase) := by
  unfold KeySets.addBlock
  split
  · next h => exact (Nat.max_eq_left h).symm
  · next h => rw [List.length_append, List.length_cons, List.length_replicate]; omega

theorem addBlock_new (s : KeySets) (blk : Nat × List Bytes) (hle : s.closed.length ≤ blk.1 / filterBase)
    {k : Bytes} (hk : k ∈ blk.2) : InSet (s.addBlock blk).all (blk.1 / filterBase) k := by
  have hl := addBlock_length s blk
  rw [Nat.max_eq_right hle] at hl
  rw [← hl]
  refine InSet_at ?_
  unfold KeySets.addBlock
  split
  · exact List.mem_append_right _ hk
  · exact hk

theorem foldl_addBlock_length_le (blocks : List (Nat × List Bytes)) {M : Nat} (hM : ∀ blk ∈ blocks, blk.1 / filterBase ≤ M) :
    (blocks.foldl KeySets.addBlock {}).closed.length ≤ M :=
  List.foldlRecOn (motive := fun s => s.closed.length ≤ M) blocks KeySets.addBlock (Nat.zero_le _) fun s hs blk hblk => by
    rw [addBlock_length]; exact Nat.max_le.mpr ⟨hs, hM blk hblk⟩

/-- the blocks before `b` close no more than `b.1 / filterBase` sets, `b` itself puts its keys there, the blocks after
    it keep them there -/
theorem keySets_covers (blocks : List (Nat × List Bytes)) (hsorted : List.Pairwise (fun a b => a.1 ≤ b.1) blocks)
    (b : Nat × List Bytes) (hb : b ∈ blocks) (k : Bytes) (hk : k ∈ b.2) : InSet (keySets blocks) (b.1 / filterBase) k := by
  obtain ⟨pre, post, rfl⟩ := List.append_of_mem hb
  have hpre := foldl_addBlock_length_le pre fun a ha =>
    Nat.div_le_div_right (c := filterBase) ((List.pairwise_append.mp hsorted).2.2 a ha b List.mem_cons_self)
  have h : InSet ((pre ++ b :: post).foldl KeySets.addBlock {}).all (b.1 / filterBase) k := by
    rw [List.foldl_append, List.foldl_cons]
    exact List.foldlRecOn post KeySets.addBlock (addBlock_new _ b hpre hk) fun s hs blk _ => addBlock_mono s blk hs
  unfold keySets KeySets.finish
  split
  · next he =>
    rw [← List.append_nil (KeySets.closed _)]
    refine InSet_keep h fun k hk => ?_
    rw [List.isEmpty_iff.mp he] at hk; cases hk
  · exact h

theorem finish_flatten (s : KeySets) : s.finish.flatten = s.all.flatten := by
  unfold KeySets.finish
  split
  · next he => rw [KeySets.all, List.isEmpty_iff.mp he, List.flatten_concat, List.append_nil]
  · rfl

theorem keySets_flatten (blocks : List (Nat × List Bytes)) : (keySets blocks).flatten = blocks.flatMap (·.2) := by
  have hstep (s : KeySets) (blk : Nat × List Bytes) : s.all.flatten ++ blk.2 = (s.addBlock blk).all.flatten := by
    rw [addBlock_all]
    split <;> simp [KeySets.all]
  rw [keySets, finish_flatten, List.flatMap_eq_foldl]
  exact (List.foldl_hom (fun s : KeySets => s.all.flatten) hstep).symm

theorem keySets_length_le (blocks : List (Nat × List Bytes)) {M : Nat} (hM : ∀ blk ∈ blocks, blk.1 / filterBase ≤ M) :
    (keySets blocks).length ≤ M + 1 := by
  have := foldl_addBlock_length_le blocks hM
  unfold keySets KeySets.finish
  split
  · omega
  · rw [KeySets.all, List.length_append, List.length_singleton]; omega

theorem genFilters_length_le {p : Policy} {a : Nat} (hp : ∀ keys, keys ≠ [] → (p.build keys).length ≤ a * keys.length)
    (kss : List (List Bytes)) : (kss.map (genFilter p)).flatten.length ≤ a * kss.flatten.length := by
  induction kss with
  | nil => exact Nat.le_refl _
  | cons ks kss ih =>
    rw [List.map_cons, List.flatten_cons, List.flatten_cons, List.length_append, List.length_append, Nat.mul_add]
    refine Nat.add_le_add ?_ ih
    unfold genFilter
    split
    · exact Nat.zero_le _
    · next h => exact hp ks fun he => h (by rw [he]; rfl)

/-- The filter block of data blocks that all start at or before `D`: the filters, one 4-byte
    offset per `filterBase` bytes of data (and one for a last `generate`), array offset and `base_lg`. -/
theorem filterBuild_length_le {p : Policy} {a : Nat} (hp : ∀ keys, keys ≠ [] → (p.build keys).length ≤ a * keys.length)
    (blocks : List (Nat × List Bytes)) {D : Nat} (hD : ∀ blk ∈ blocks, blk.1 ≤ D) :
    (filterBuild p blocks).length ≤ a * (blocks.map (·.2.length)).sum + 4 * (D / filterBase) + 9 := by
  have h1 := genFilters_length_le hp (keySets blocks)
  have h2 := keySets_length_le blocks fun blk hblk => Nat.div_le_div_right (c := filterBase) (hD blk hblk)
  rw [keySets_flatten, List.length_flatMap] at h1
  rw [filterBuild_eq, layout_length, List.length_map]
  omega

/-- what `ldb_filter_init` guarantees about the reader it sets up -/
def FilterReader.WF (fr : FilterReader) : Prop :=
  fr.num = 0 ∨ fr.arrayOff + 4 * fr.num + 5 ≤ fr.data.length

theorem fixed32AtC_eq {data : Bytes} {off : Nat} (h : off + 4 ≤ data.length) :
    fixed32AtC data off = some (fixed32At data off) := if_pos h

theorem FilterReader.mayMatchC_eq (p : Policy) (hp : p.Safe) (fr : FilterReader) (hwf : fr.WF)
    (off : Nat) (key : Bytes) : fr.mayMatchC p off key = some (fr.mayMatch p off key) := by
  unfold FilterReader.mayMatchC FilterReader.mayMatch
  by_cases hidx : off / 2 ^ fr.baseLg < fr.num
  · have hb : fr.arrayOff + 4 * fr.num + 5 ≤ fr.data.length := hwf.resolve_left (Nat.ne_of_gt (Nat.lt_of_le_of_lt (Nat.zero_le _) hidx))
    simp only [hidx, if_true]
    generalize off / 2 ^ fr.baseLg = idx at hidx ⊢
    rw [fixed32AtC_eq (by omega), fixed32AtC_eq (by omega)]
    simp only
    split
    · rw [sliceC, if_pos (by omega)]; exact hp _ _
    · split <;> rfl
  · simp only [hidx, if_false]

theorem filterReaderInit_spec (contents : Bytes) :
    (filterReaderInit contents).data = contents ∧ (filterReaderInit contents).WF := by
  unfold filterReaderInit FilterReader.WF
  simp only
  split
  · exact ⟨rfl, Or.inl rfl⟩
  · split
    · exact ⟨rfl, Or.inl rfl⟩
    · exact ⟨rfl, Or.inr (by simp only; omega)⟩

theorem filterReaderInitC_eq (contents : Bytes) :
    filterReaderInitC contents = some (filterReaderInit contents) := by
  unfold filterReaderInitC filterReaderInit
  simp only
  split
  · rfl
  · rw [List.getElem?_eq_getElem (by omega), fixed32AtC_eq (by omega), List.getD_eq_getElem?_getD,
      List.getElem?_eq_getElem (by omega)]
    simp only [Option.getD_some]
    split <;> rfl

/-- No out-of-bounds read on arbitrary bytes: every `fixed32` read, the filter slice and every probe of the policy
    are checked against the length of `contents`. -/
theorem filterMatch_total (p : Policy) (hp : p.Safe) (contents : Bytes) (off : Nat) (key : Bytes) :
    filterMatchC p contents off key = some (filterMatch p contents off key) := by
  unfold filterMatchC filterMatch
  rw [filterReaderInitC_eq]
  exact FilterReader.mayMatchC_eq p hp _ (filterReaderInit_spec contents).2 off key

end Lcdb
