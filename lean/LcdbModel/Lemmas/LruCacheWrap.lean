/-
  The 16-shard wrapper: scripts of cache-level operations, their projection to the 16 per-shard scripts, and the
  projection lemma `cache_run_proj` (the i-th shard after a cache script = the shard run of what shard i sees of it: the ops
  whose key hashes to i, the releases of its handles, every prune).
-/
import LcdbModel.Lemmas.LruCacheSpec
namespace Lcdb.LruCache

/-- cache-level operations (`ldb_lru_insert/lookup/release/erase/prune`) -/
inductive COp where
  | insert (key : Bytes) (val charge : Nat)
  | lookup (key : Bytes)
  | release (h : Handle)
  | erase (key : Bytes)
  | prune
deriving Repr, DecidableEq

inductive COut where
  | handle (h : Option Handle)
  | unit
deriving Repr, DecidableEq

def Cache.step (c : Cache) : COp → Option (Cache × COut)
  | .insert k v ch => (c.insert k v ch).map fun (c', h) => (c', .handle (some h))
  | .lookup k => (c.lookup k).map fun (c', h) => (c', .handle h)
  | .release h => (c.release h).map fun c' => (c', .unit)
  | .erase k => (c.erase k).map fun c' => (c', .unit)
  | .prune => (c.prune).map fun c' => (c', .unit)

def Cache.run : Cache → List COp → Option (Cache × List COut)
  | c, [] => some (c, [])
  | c, op :: ops =>
    match c.step op with
    | none => none
    | some (c', o) => (Cache.run c' ops).map fun (c'', os) => (c'', o :: os)

def projOp (i : Nat) : COp → List Op
  | .insert k v ch => if shardOf k = i then [.insert k v ch] else []
  | .lookup k => if shardOf k = i then [.lookup k] else []
  | .release h => if h.1 = i then [.release h.2] else []
  | .erase k => if shardOf k = i then [.erase k] else []
  | .prune => [.prune]

def proj (i : Nat) : List COp → List Op
  | [] => []
  | op :: ops => projOp i op ++ proj i ops

theorem Cache.run_cons {c c'' : Cache} {op : COp} {ops : List COp} {outs : List COut}
    (h : c.run (op :: ops) = some (c'', outs)) :
    ∃ c' o os, c.step op = some (c', o) ∧ c'.run ops = some (c'', os) ∧ outs = o :: os := by
  simp only [Cache.run] at h
  split at h
  · cases h
  · rename_i c' o hs
    simp only [Option.map_eq_some_iff, Prod.exists, Prod.mk.injEq] at h
    obtain ⟨c2, os, hr, rfl, rfl⟩ := h
    exact ⟨c', o, os, hs, hr, rfl⟩

/-- the shard a cache operation goes to and the shard operation it is there; `prune` (`none`) goes to every shard -/
def route : COp → Option (Nat × Op)
  | .insert k v ch => some (shardOf k, .insert k v ch)
  | .lookup k => some (shardOf k, .lookup k)
  | .release h => some (h.1, .release h.2)
  | .erase k => some (shardOf k, .erase k)
  | .prune => none

theorem projOp_eq (i : Nat) (op : COp) :
    projOp i op = match route op with
      | some (j, x) => if j = i then [x] else []
      | none => [.prune] := by
  cases op <;> rfl

theorem projOp_eq_insert (i : Nat) (op : COp) (k : Bytes) (v ch : Nat) (h : projOp i op = [.insert k v ch]) :
    op = .insert k v ch := by
  cases op <;> simp only [projOp] at h <;> (try split at h) <;> simp at h
  obtain ⟨rfl, rfl, rfl⟩ := h; rfl

/-- a shard's answer as the cache's: a handle is tagged with its shard `j` -/
def liftOut (j : Nat) : Out → COut
  | .handle h => .handle (h.map fun id => (j, id))
  | _ => .unit

theorem Cache.step_route {op : COp} {j : Nat} {x : Op} (hr : route op = some (j, x)) (c : Cache) :
    c.step op = c.onShard j fun s => (LruCache.step s x).map fun r => (r.1, liftOut j r.2) := by
  cases op <;> cases hr <;>
    simp only [Cache.step, Cache.insert, Cache.lookup, Cache.release, Cache.erase, Cache.onShard, LruCache.step] <;>
    split <;> simp only [Option.map_none, Option.map_map] <;> rfl

theorem step_routed {c c' : Cache} {op : COp} {o : COut} {j : Nat} {x : Op} (hr : route op = some (j, x))
    (h : c.step op = some (c', o)) :
    ∃ sj sj' so, c.shards[j]? = some sj ∧ step sj x = some (sj', so) ∧ c'.shards = c.shards.set j sj' := by
  rw [Cache.step_route hr, Cache.onShard] at h
  split at h
  · cases h
  · rename_i sj hj
    simp only [Option.map_map, Option.map_eq_some_iff] at h
    obtain ⟨r, hs, hrr⟩ := h
    cases hrr
    exact ⟨sj, r.1, r.2, hj, hs, rfl⟩

theorem mapM'_spec (f : Shard → Option Shard) (l l' : List Shard) (h : mapM' f l = some l') :
    l'.length = l.length ∧ ∀ (i : Nat) (s : Shard), l[i]? = some s → ∃ s', l'[i]? = some s' ∧ f s = some s' := by
  induction l generalizing l' with
  | nil => cases h; exact ⟨rfl, nofun⟩
  | cons a l ih =>
    simp only [mapM', Option.bind_eq_some_iff, Option.map_eq_some_iff] at h
    obtain ⟨a', hf, r, hm, rfl⟩ := h
    obtain ⟨hl, hr⟩ := ih r hm
    refine ⟨by simp [hl], fun i s hi => ?_⟩
    cases i with
    | zero => cases hi; exact ⟨a', rfl, hf⟩
    | succ i => exact hr i s hi

theorem step_unrouted {c c' : Cache} {op : COp} {o : COut} (hr : route op = none) (h : c.step op = some (c', o)) :
    c'.shards.length = c.shards.length ∧
      ∀ (i : Nat) (s : Shard), c.shards[i]? = some s → ∃ s', c'.shards[i]? = some s' ∧ prune s = some s' := by
  cases op <;> try cases hr
  simp only [Cache.step, Cache.prune, Option.map_eq_some_iff, Prod.mk.injEq] at h
  obtain ⟨c1, ⟨ss, hm, rfl⟩, rfl, -⟩ := h
  exact mapM'_spec _ _ _ hm

theorem step_proj {c c' : Cache} {op : COp} {o : COut} (h : c.step op = some (c', o)) :
    c'.shards.length = c.shards.length ∧ ∀ (i : Nat) (s : Shard), c.shards[i]? = some s →
      ∃ s' outs, c'.shards[i]? = some s' ∧ run s (projOp i op) = some (s', outs) := by
  simp only [projOp_eq]
  cases hr : route op with
  | some p =>
    obtain ⟨sj, sj', so, hj, hst, hc⟩ := step_routed hr h
    refine ⟨by rw [hc, List.length_set], fun i s hs => ?_⟩
    by_cases hji : p.1 = i
    · subst hji
      rw [hj] at hs; cases hs
      exact ⟨sj', [so], by rw [hc]; simp [getElem?_lt hj], by simp [run, hst]⟩
    · exact ⟨s, [], by rw [hc]; simp [hji, hs], by simp [hji, run]⟩
  | none =>
    obtain ⟨hl, hp⟩ := step_unrouted hr h
    refine ⟨hl, fun i s hs => ?_⟩
    obtain ⟨s', h1, h2⟩ := hp i s hs
    exact ⟨s', [.unit], h1, by simp [run, step, h2]⟩

theorem cache_run_proj {c c' : Cache} {ops : List COp} {outs : List COut} (h : c.run ops = some (c', outs)) :
    c'.shards.length = c.shards.length ∧ ∀ (i : Nat) (s : Shard), c.shards[i]? = some s →
      ∃ s' o, c'.shards[i]? = some s' ∧ run s (proj i ops) = some (s', o) := by
  induction ops generalizing c outs with
  | nil => cases h; exact ⟨rfl, fun i s hs => ⟨s, [], hs, rfl⟩⟩
  | cons op ops ih =>
    obtain ⟨c1, o, os, hst, hr, -⟩ := Cache.run_cons h
    obtain ⟨hl1, hp1⟩ := step_proj hst
    obtain ⟨hl2, hp2⟩ := ih hr
    refine ⟨hl2.trans hl1, fun i s hs => ?_⟩
    obtain ⟨s1, o1, hs1, hr1⟩ := hp1 i s hs
    obtain ⟨s2, o2, hs2, hr2⟩ := hp2 i s1 hs1
    exact ⟨s2, o1 ++ o2, hs2, run_append hr1 hr2⟩

theorem create_getElem? (cap i : Nat) (hi : i < 16) :
    (Cache.create cap).shards[i]? = some (Shard.empty ((cap + 15) / 16)) := by
  show (List.replicate numShards (Shard.empty ((cap + (numShards - 1)) / numShards)))[i]? = _
  rw [List.getElem?_replicate]; simp [numShards, hi]

theorem projOp_cases (i : Nat) (op : COp) : projOp i op = [] ∨ ∃ x, projOp i op = [x] := by
  rw [projOp_eq]
  split
  · split
    · exact .inr ⟨_, rfl⟩
    · exact .inl rfl
  · exact .inr ⟨_, rfl⟩

/-- a shard sees at most one op of each cache op -/
theorem proj_eq (i : Nat) (ops : List COp) : proj i ops = ops.filterMap fun op => (projOp i op).head? := by
  induction ops with
  | nil => rfl
  | cons op ops ih =>
    rw [proj, ih, List.filterMap_cons]
    obtain h | ⟨x, h⟩ := projOp_cases i op <;> rw [h] <;> rfl

theorem proj_append (i : Nat) (a b : List COp) : proj i (a ++ b) = proj i a ++ proj i b := by
  simp only [proj_eq, List.filterMap_append]

theorem proj_split (i : Nat) (ops : List COp) (a b : List Op) (x : Op) (h : proj i ops = a ++ x :: b) :
    ∃ pre op post, ops = pre ++ op :: post ∧ projOp i op = [x] ∧ proj i pre = a ∧ proj i post = b := by
  simp only [proj_eq] at h ⊢
  obtain ⟨l1, l2, rfl, rfl, h2⟩ := List.filterMap_eq_append_iff.1 h
  obtain ⟨l3, op, l4, rfl, h3, hop, rfl⟩ := List.filterMap_eq_cons_iff.1 h2
  refine ⟨l1 ++ l3, op, l4, (List.append_assoc ..).symm, ?_, ?_, rfl⟩
  · obtain h' | ⟨y, h'⟩ := projOp_cases i op <;> rw [h'] at hop ⊢ <;> cases hop
    rfl
  · rw [List.filterMap_append, List.filterMap_eq_nil_iff.2 h3, List.append_nil]

def tagFrom (n : Nat) : List (List Nat) → List (Nat × Nat)
  | [] => []
  | x :: xs => x.map (fun id => (n, id)) ++ tagFrom (n + 1) xs

theorem tagFrom_eq (n : Nat) (l : List (List Nat)) :
    tagFrom n l = (l.zipIdx n).flatMap fun p => p.1.map (p.2, ·) := by
  induction l generalizing n with
  | nil => rfl
  | cons x xs ih => rw [tagFrom, ih, List.zipIdx_cons, List.flatMap_cons]

theorem mem_tagFrom (n : Nat) (l : List (List Nat)) (i id : Nat) :
    (i, id) ∈ tagFrom n l ↔ ∃ x, (x, i) ∈ l.zipIdx n ∧ id ∈ x := by
  simp only [tagFrom_eq, List.mem_flatMap, List.mem_map, Prod.mk.injEq, exists_eq_right_right, Prod.exists]

theorem nodup_tagFrom (n : Nat) (l : List (List Nat)) (h : ∀ x ∈ l, x.Nodup) : (tagFrom n l).Nodup := by
  rw [tagFrom_eq, List.Nodup, List.pairwise_flatMap]
  refine ⟨fun p hp => List.pairwise_map.2 ((h p.1 (List.fst_mem_of_mem_zipIdx hp)).imp fun hab he => hab (Prod.mk.inj he).2),
    (List.pairwise_map.1 (?_ : (List.map Prod.snd (l.zipIdx n)).Nodup)).imp ?_⟩
  · rw [List.zipIdx_map_snd]; exact List.nodup_range'
  · intro p q hpq x hx y hy hxy
    simp only [List.mem_map] at hx hy
    obtain ⟨_, _, rfl⟩ := hx; obtain ⟨_, _, rfl⟩ := hy
    exact hpq (Prod.mk.inj hxy).1

/-- all deleter calls of the cache: per shard in shard order, tagged (shard, entry id) -/
def Cache.deletedAll (c : Cache) : List Handle := tagFrom 0 (c.shards.map (·.deleted))

def Cache.heldAll (c : Cache) : List Handle := tagFrom 0 (c.shards.map (·.held))

end Lcdb.LruCache
