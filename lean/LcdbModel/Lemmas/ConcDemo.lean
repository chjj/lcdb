/-
  Concrete runs of the concurrency model used for the non-vacuity examples. The main one: three writers (the second, a
  sync writer, leads a group that contains the third), two memtable switches, a stall on the background cv that is ended
  by `bgFinish`, readers overlapping commits, and `close` waiting for the worker. A second, sequential one (for the
  real-time statements of C08), and short runs through the error paths of the head writer and of `close`.
-/
import LcdbModel.Lemmas.Conc

namespace Lcdb.Conc.Demo
open Lcdb.Conc

def ws : List Writer := [{ tid := 1, batch := 10, sync := false }, { tid := 2, batch := 20, sync := true },
  { tid := 3, batch := 30, sync := false }]
def rs : List Reader := [{ tid := 11 }, { tid := 12 }]

def labels1 : List Label :=
  [ .wEnter 1 (.begin true 1),     -- head: switches memtables (schedules the flush), leads a group of one
    .wEnter 2 .fail,               -- queued behind 1
    .wEnter 3 .fail,               -- queued behind 2
    .rCapture 11,                  -- a reader captures sequence 0 while 1 is writing
    .wCommit 1 false,              -- publishes sequence 1, wakes 2
    .rRead 11,
    .wWake 2 .waitFlush,           -- memtable full again, imm still there: stall on background_work_finished
    .bgStart ]

def labels2 : List Label :=
  [ .bgMid true false false,
    .bgFinish false,               -- broadcast: wakes 2
    .wWake 2 (.begin true 2),      -- second switch, group of two: 3 is a follower
    .rCapture 12 ]                 -- a reader overlapping the group commit captures sequence 1

def labels3 : List Label :=
  [ .wCommit 2 false,              -- publishes sequence 3, marks 3 done
    .rRelease 11 false,
    .wWake 3 .fail,                -- the follower returns the leader's status
    .rRead 12,
    .rRelease 12 true,
    .close,                        -- a background call is scheduled: wait
    .bgStart,
    .bgFinish false,               -- wakes the closer
    .closeWake ]

def labels : List Label := labels1 ++ labels2 ++ labels3

def st0 : St := initSt ws rs
def st1 : St := (run st0 labels1).getD st0
def st2 : St := (run st1 labels2).getD st0
def st3 : St := (run st2 labels3).getD st0

theorem wf : WF ws rs := by
  unfold WF; decide

/-! The states the three parts of the run end in, written out (`run_s1`, `run_s2`, `run_s3`); the examples below and
    those of C08, C09 and C04Conc are proved on these values. -/

def s1 : St :=
  { writers := [{ tid := 1, batch := 10, sync := false, pc := .returned true },
      { tid := 2, batch := 20, sync := true, pc := .asleepBg }, { tid := 3, batch := 30, sync := false, pc := .asleepW }],
    readers := [{ tid := 11, pc := .releasing 0 }, { tid := 12 }],
    queue := [2, 3], lastSeq := 1, committed := [10], imm := true, bgScheduled := true, bg := .working,
    log := [(1, false, 0), (2, false, 0), (3, false, 0), (11, false, 0), (1, true, 1)], groups := [[10]] }

def s2 : St :=
  { writers := [{ tid := 1, batch := 10, sync := false, pc := .returned true },
      { tid := 2, batch := 20, sync := true, pc := .io }, { tid := 3, batch := 30, sync := false, pc := .asleepW }],
    readers := [{ tid := 11, pc := .releasing 0 }, { tid := 12, pc := .reading 1 }],
    queue := [2, 3], inflight := [2, 3], lastSeq := 1, committed := [10], imm := true, bgScheduled := true,
    bg := .posted, groups := [[10]],
    log := [(1, false, 0), (2, false, 0), (3, false, 0), (11, false, 0), (1, true, 1), (12, false, 1)] }

def s3 : St :=
  { writers := [{ tid := 1, batch := 10, sync := false, pc := .returned true },
      { tid := 2, batch := 20, sync := true, pc := .returned true },
      { tid := 3, batch := 30, sync := false, pc := .returned true, done := true }],
    readers := [{ tid := 11, pc := .returned 0 }, { tid := 12, pc := .returned 1 }],
    lastSeq := 3, committed := [10, 20, 30], imm := true, shuttingDown := true, closer := .returned,
    groups := [[10], [20, 30]],
    log := [(1, false, 0), (2, false, 0), (3, false, 0), (11, false, 0), (1, true, 1), (12, false, 1), (2, true, 3),
      (11, true, 3), (3, true, 3), (12, true, 3)] }

theorem run_s1 : run st0 labels1 = some s1 := by rfl
theorem run_s2 : run s1 labels2 = some s2 := by rfl
theorem run_s3 : run s2 labels3 = some s3 := by rfl

theorem st1_eq : st1 = s1 := by rw [st1, run_s1]; rfl
theorem st2_eq : st2 = s2 := by rw [st2, st1_eq, run_s2]; rfl
theorem st3_eq : st3 = s3 := by rw [st3, st2_eq, run_s3]; rfl

theorem run_all : run st0 labels = some st3 := st3_eq ▸ run_append (run_append run_s1 run_s2) run_s3

theorem reach1 : Reachable ws rs s1 := reachable_run Reachable.init run_s1
theorem reach2 : Reachable ws rs s2 := reachable_run reach1 run_s2
theorem reach3s : Reachable ws rs s3 := reachable_run reach2 run_s3
theorem reach3 : Reachable ws rs st3 := st3_eq ▸ reach3s

example : st1.queue = [2, 3] ∧ st1.imm = true ∧ st1.bg = .working ∧ st1.lastSeq = 1 ∧
    st1.writers.map (·.pc) = [.returned true, .asleepBg, .asleepW] := by rw [st1_eq]; exact ⟨rfl, rfl, rfl, rfl, rfl⟩
example : st2.queue = [2, 3] ∧ st2.inflight = [2, 3] ∧ st2.lastSeq = 1 ∧
    st2.writers.map (·.pc) = [.returned true, .io, .asleepW] ∧ st2.readers.map (·.pc) = [.releasing 0, .reading 1] := by
  rw [st2_eq]; exact ⟨rfl, rfl, rfl, rfl, rfl⟩
example : st3.committed = [10, 20, 30] ∧ st3.groups = [[10], [20, 30]] ∧ st3.lastSeq = 3 ∧ allDone st3 = true ∧
    st3.closer = .returned ∧ st3.writers.map (·.pc) = [.returned true, .returned true, .returned true] ∧
    st3.readers.map (·.pc) = [.returned 0, .returned 1] := by rw [st3_eq]; exact ⟨rfl, rfl, rfl, rfl, rfl, rfl, rfl⟩

/-! a second, sequential run: writer 1 returns before writer 2 is invoked; reader 11 returns before reader 12 is
    invoked -/

def ws' : List Writer := [{ tid := 1, batch := 10, sync := false }, { tid := 2, batch := 20, sync := false }]

def labels' : List Label :=
  [ .wEnter 1 (.begin false 1), .wCommit 1 false, .rCapture 11, .rRead 11, .rRelease 11 false,
    .wEnter 2 (.begin false 1), .wCommit 2 false, .rCapture 12 ]

def st0' : St := initSt ws' rs
def st' : St := (run st0' labels').getD st0'

theorem wf' : WF ws' rs := by unfold WF; decide

def s' : St :=
  { writers := [{ tid := 1, batch := 10, sync := false, pc := .returned true },
      { tid := 2, batch := 20, sync := false, pc := .returned true }],
    readers := [{ tid := 11, pc := .returned 1 }, { tid := 12, pc := .reading 2 }],
    lastSeq := 2, committed := [10, 20], groups := [[10], [20]],
    log := [(1, false, 0), (1, true, 1), (11, false, 1), (11, true, 1), (2, false, 1), (2, true, 2), (12, false, 2)] }

theorem run_s' : run st0' labels' = some s' := by rfl
theorem st'_eq : st' = s' := by rw [st', run_s']; rfl
theorem reach's : Reachable ws' rs s' := reachable_run Reachable.init run_s'
theorem reach' : Reachable ws' rs st' := st'_eq ▸ reach's

example : st'.log = [(1, false, 0), (1, true, 1), (11, false, 1), (11, true, 1), (2, false, 1), (2, true, 2),
    (12, false, 2)] ∧ st'.committed = [10, 20] := by rw [st'_eq]; exact ⟨rfl, rfl⟩

-- closing the old log file fails during the memtable switch: bg_error, imm set, nothing scheduled; the next writer fails too
example : (run st0 [.wEnter 1 .switchFail, .wEnter 2 .fail]).map
    (fun st => (st.bgError, st.imm, st.bgScheduled, st.queue, st.writers.map (·.pc))) =
    some (true, true, false, [], [.returned false, .returned false, .idle]) := rfl
-- creating the new log file fails: the write fails without a background error, the next writer proceeds
example : (run st0 [.wEnter 1 .fail, .wEnter 2 (.begin false 1), .wCommit 2 false]).map
    (fun st => (st.bgError, st.committed, st.writers.map (·.pc))) =
    some (false, [20], [.returned false, .returned true, .idle]) := rfl
-- `close` overtakes a running worker, which then records "deleting DB during compaction" and finishes
example : (run st0 [.wEnter 1 (.begin true 1), .wCommit 1 false, .bgStart, .close, .bgMid false false true, .closeWake,
      .bgFinish false, .closeWake]).map (fun st => (st.bgError, st.bgScheduled, st.closer)) =
    some (true, false, .returned) := rfl

end Lcdb.Conc.Demo
