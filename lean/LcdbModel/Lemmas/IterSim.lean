/-
  Running operation sequences through a simulation between two internal iterators:
  `InternalIter.SimOn` restricts the seek clause of `InternalIter.Sim` to the targets satisfying a
  predicate, and related states stay related along every operation sequence whose seeks satisfy it.
-/
import LcdbModel.Lemmas.IterSimDefs
import LcdbModel.Lemmas.IterOps
import LcdbModel.Lemmas.IkOrder
import LcdbModel.Lemmas.ListBasic
namespace Lcdb

structure InternalIter.SimOn {σ τ : Type} (P : Bytes → Nat → Prop) (I₁ : InternalIter σ) (I₂ : InternalIter τ)
    (R : σ → τ → Prop) : Prop where
  valid : ∀ a b, R a b → I₁.valid a = I₂.valid b
  entry : ∀ a b, R a b → I₁.entry a = I₂.entry b
  status : ∀ a b, R a b → I₁.status a = I₂.status b
  first : ∀ a b, R a b → ∃ a' b', I₁.first a = some a' ∧ I₂.first b = some b' ∧ R a' b'
  last : ∀ a b, R a b → ∃ a' b', I₁.last a = some a' ∧ I₂.last b = some b' ∧ R a' b'
  seek : ∀ k pk a b, P k pk → R a b → ∃ a' b', I₁.seek k pk a = some a' ∧ I₂.seek k pk b = some b' ∧ R a' b'
  next : ∀ a b, R a b → I₁.valid a = true →
    ∃ a' b', I₁.next a = some a' ∧ I₂.next b = some b' ∧ R a' b'
  prev : ∀ a b, R a b → I₁.valid a = true →
    ∃ a' b', I₁.prev a = some a' ∧ I₂.prev b = some b' ∧ R a' b'

theorem InternalIter.SimOn.apply {σ τ : Type} {P : Bytes → Nat → Prop} {I₁ : InternalIter σ} {I₂ : InternalIter τ}
    {R : σ → τ → Prop} (hsim : InternalIter.SimOn P I₁ I₂ R) (op : InternalOp) (hop : ∀ k pk, op = .seek k pk → P k pk)
    (a : σ) (b : τ) (h : R a b) : ∃ a' b', I₁.apply op a = some a' ∧ I₂.apply op b = some b' ∧ R a' b' := by
  -- `next` / `prev` are issued on a valid iterator only, and validity agrees on both sides
  have guarded : ∀ (f₁ : σ → Option σ) (f₂ : τ → Option τ),
      (I₁.valid a = true → ∃ a' b', f₁ a = some a' ∧ f₂ b = some b' ∧ R a' b') →
      ∃ a' b', (if I₁.valid a then f₁ a else some a) = some a' ∧ (if I₂.valid b then f₂ b else some b) = some b' ∧ R a' b' := by
    intro f₁ f₂ hf
    rw [← hsim.valid a b h]
    cases hva : I₁.valid a with
    | false => exact ⟨a, b, rfl, rfl, h⟩
    | true => exact hf hva
  cases op with
  | first => exact hsim.first a b h
  | last => exact hsim.last a b h
  | seek k pk => exact hsim.seek k pk a b (hop k pk rfl) h
  | next => exact guarded _ _ (hsim.next a b h)
  | prev => exact guarded _ _ (hsim.prev a b h)

theorem InternalIter.run_eq {σ : Type} (I : InternalIter σ) (ops : List InternalOp) (s : σ) :
    I.run ops s = Step.run I.apply ops s := by
  induction ops generalizing s with
  | nil => rfl
  | cons op ops ih =>
    simp only [InternalIter.run, Step.run, List.foldlM_cons]
    cases I.apply op s with
    | none => rfl
    | some s' => exact ih s'

theorem InternalIter.SimOn.run {σ τ : Type} {P : Bytes → Nat → Prop} {I₁ : InternalIter σ} {I₂ : InternalIter τ}
    {R : σ → τ → Prop} (hsim : InternalIter.SimOn P I₁ I₂ R) (ops : List InternalOp)
    (hops : ∀ op ∈ ops, ∀ k pk, op = .seek k pk → P k pk) (a : σ) (b : τ) (h : R a b) :
    ∃ a' b', I₁.run ops a = some a' ∧ I₂.run ops b = some b' ∧ R a' b' := by
  rw [InternalIter.run_eq, InternalIter.run_eq]
  exact Step.Sim.run hsim.apply ops hops a b h

theorem InternalIter.Sim.simOn {σ τ : Type} {I₁ : InternalIter σ} {I₂ : InternalIter τ} {R : σ → τ → Prop}
    (h : InternalIter.Sim I₁ I₂ R) : InternalIter.SimOn (fun _ _ => True) I₁ I₂ R :=
  ⟨h.valid, h.entry, h.status, h.first, h.last, fun k pk a b _ => h.seek k pk a b, h.next, h.prev⟩

theorem DbIter.run_eq_iterOps_run {σ : Type} (I : InternalIter σ) (c : Cmp) (s fuel : Nat) (ops : List IterOp)
    (st : DbIter σ) :
    DbIter.run I c s fuel ops st = (DbIter.ops I c s fuel).run (ops.map DbIter.toBlockOp) st := by
  induction ops generalizing st with
  | nil => rfl
  | cons op ops ih =>
    simp only [DbIter.run, List.map_cons, IterOps.run, DbIter.apply]
    cases (DbIter.ops I c s fuel).apply (DbIter.toBlockOp op) st with
    | none => rfl
    | some st' => exact ih st'

end Lcdb

/-
  Where a cursor over a run (`runIter`, Model/MergeIter.lean) stands, in terms of cuts.  A cut of a
  list is a number `n` of leading elements; a cursor moving forward at the cut stands on the first
  element after it (`toPos n len`), one moving in reverse on the last element before it
  (`predPos n`).  Written so, a position carries its own range.
-/
namespace Lcdb.RunCursor
open Lcdb Lcdb.Lsm

theorem sorted_lt_iff {c : Cmp} {r : Run} (hs : RunSorted c r) {i j : Nat} (hi : i < r.length)
    (hj : j < r.length) : entryLt c r[i] r[j] = true ↔ i < j := by
  have hp := List.pairwise_iff_getElem.mp hs
  constructor
  · intro h
    rcases Nat.lt_trichotomy i j with hij | hij | hij
    · exact hij
    · subst hij; rw [entryLt_irrefl] at h; cases h
    · have := hp j i hj hi hij
      rw [entryLt_asymm c this] at h; cases h
  · exact hp i j hi hj

theorem sorted_not_lt_iff {c : Cmp} {r : Run} (hs : RunSorted c r) {i j : Nat} (hi : i < r.length)
    (hj : j < r.length) : entryLt c r[i] r[j] = false ↔ j ≤ i := by
  rw [← Bool.not_eq_true, sorted_lt_iff hs hi hj]; omega

theorem runEntry_eq_some {r : Run} {p : Option Nat} {E : Entry} (h : runEntry r p = some E) :
    ∃ n, ∃ hn : n < r.length, p = some n ∧ r[n] = E := by
  cases p with
  | none => simp [runEntry] at h
  | some n =>
    simp only [runEntry, Option.bind_some] at h
    obtain ⟨hn, hE⟩ := List.getElem?_eq_some_iff.mp h
    exact ⟨n, hn, rfl, hE⟩

theorem runFirst_eq (r : Run) : runFirst r = toPos 0 r.length := by
  cases r <;> rfl

theorem runLast_eq (r : Run) : runLast r = predPos r.length := by
  cases r <;> simp [runLast, predPos]

theorem runSeekIdx_eq (c : Cmp) (k : Bytes) (pk : Nat) (r : Run) :
    runSeekIdx c r k pk = toPos (cutIdx (fun e => ikLt c e.ukey e.packed k pk) r) r.length := by
  rw [runSeekIdx]
  exact findIdx?_eq_toPos _ _ (fun _ => (Bool.not_not _).symm) _

theorem runNext_eq {r : Run} {i : Nat} (h : i < r.length) :
    runNext r (some i) = some (toPos (i + 1) r.length) := by
  simp only [runNext, h, if_true]; rfl

theorem runPrev_eq {r : Run} {i : Nat} (h : i < r.length) : runPrev r (some i) = some (predPos i) := by
  simp only [runPrev, h, if_true]
  cases i <;> rfl

theorem runIter_valid {c : Cmp} {r : Run} {a : Option Nat} (hv : (runIter c r).valid a = true) :
    ∃ i, a = some i ∧ i < r.length := by
  obtain ⟨e, he⟩ := Option.isSome_iff_exists.mp hv
  obtain ⟨i, hi, rfl, _⟩ := runEntry_eq_some he
  exact ⟨i, rfl, hi⟩

theorem runIter_self_sim (c : Cmp) (r : Run) :
    InternalIter.Sim (runIter c r) (runIter c r) (fun a b => a = b) where
  valid a b h := by rw [h]
  entry a b h := by rw [h]
  status a b h := by rw [h]
  first a b h := ⟨_, _, rfl, rfl, rfl⟩
  last a b h := ⟨_, _, rfl, rfl, rfl⟩
  seek k pk a b h := ⟨_, _, rfl, rfl, rfl⟩
  next a b h hv := by
    obtain ⟨i, rfl, hi⟩ := runIter_valid hv
    exact ⟨_, _, if_pos hi, h ▸ if_pos hi, rfl⟩
  prev a b h hv := by
    obtain ⟨i, rfl, hi⟩ := runIter_valid hv
    exact ⟨_, _, if_pos hi, h ▸ if_pos hi, rfl⟩

end Lcdb.RunCursor
