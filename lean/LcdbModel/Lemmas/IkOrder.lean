/-
  The internal-key order, "user key ascending by the comparator, then packed (sequence, kind)
  trailer descending": three-way as `ikCmp3` on decoded keys (`entryCmp` on entries), Bool-valued as
  `ikLt` (`entryLt` on entries).  `ikCmp3` on pairs is the lexicographic combination of the user
  comparator and the reversed order of `Nat` (`cmp3_ik3`), so its order laws are instances of those
  of `Lemmas/Cmp3`; `ikLt_iff_lt` and `not_ikLt_iff` carry them to the Bool form.
-/
import LcdbModel.Model.MergeIter
import LcdbModel.Lemmas.CmpBasic
namespace Lcdb.Lsm
open Lcdb.CmpBasic

theorem ikCmp3_eq_then (c : Cmp) (ak : Bytes) (ap : Nat) (bk : Bytes) (bp : Nat) :
    ikCmp3 c ak ap bk bp = (c.compare ak bk).then (compare bp ap) := by
  unfold ikCmp3
  cases c.compare ak bk with
  | eq => exact (ite_lt_gt_eq_then _ _ _).trans Ordering.then_eq
  | lt => rfl
  | gt => rfl

def ik3 (c : Cmp) (a b : Bytes × Nat) : Ordering := ikCmp3 c a.1 a.2 b.1 b.2

theorem cmp3_ik3 (c : Cmp) : Cmp3 (ik3 c) := by
  unfold ik3
  simp only [ikCmp3_eq_then]
  exact (cmp3_compare c).lex Cmp3.nat.flip

theorem ikCmp3_eq_iff (c : Cmp) (ak : Bytes) (ap : Nat) (bk : Bytes) (bp : Nat) :
    ikCmp3 c ak ap bk bp = .eq ↔ ak = bk ∧ ap = bp := by
  rw [ikCmp3_eq_then, Ordering.then_eq_eq, compare_eq_iff, Nat.compare_eq_eq, @eq_comm _ bp]

theorem ikLt_eq_cmp (c : Cmp) (ak : Bytes) (ap : Nat) (bk : Bytes) (bp : Nat) :
    ikLt c ak ap bk bp = (ikCmp3 c ak ap bk bp == .lt) := by
  rw [ikCmp3_eq_then, ikLt]
  cases c.compare ak bk with
  | eq => exact Bool.eq_iff_iff.mpr (by simp [Nat.compare_eq_lt])
  | lt => rfl
  | gt => rfl

theorem ikLt_iff_lt {c : Cmp} {ak : Bytes} {ap : Nat} {bk : Bytes} {bp : Nat} :
    ikLt c ak ap bk bp = true ↔ ik3 c (ak, ap) (bk, bp) = .lt := by
  rw [ikLt_eq_cmp, beq_iff_eq]; rfl

theorem not_ikLt_iff {c : Cmp} {ak : Bytes} {ap : Nat} {bk : Bytes} {bp : Nat} :
    ikLt c bk bp ak ap = false ↔ ik3 c (ak, ap) (bk, bp) ≠ .gt := by
  rw [← Bool.not_eq_true, ikLt_iff_lt, (cmp3_ik3 c).lt_iff_gt]

theorem ikLt_iff (c : Cmp) (ak : Bytes) (ap : Nat) (bk : Bytes) (bp : Nat) :
    ikLt c ak ap bk bp = true ↔ c.compare ak bk = .lt ∨ (ak = bk ∧ ap > bp) := by
  rw [ikLt_eq_cmp, beq_iff_eq, ikCmp3_eq_then, Ordering.then_eq_lt, compare_eq_iff, Nat.compare_eq_lt]

theorem ikLt_of_ult {c : Cmp} {ak : Bytes} {ap : Nat} {bk : Bytes} {bp : Nat}
    (h : c.compare ak bk = .lt) : ikLt c ak ap bk bp = true :=
  (ikLt_iff c ak ap bk bp).mpr (.inl h)

theorem ikLt_irrefl (c : Cmp) (k : Bytes) (p : Nat) : ikLt c k p k p = false :=
  not_ikLt_iff.mpr (by rw [(cmp3_ik3 c).refl]; decide)

theorem ikLt_trans (c : Cmp) {ak : Bytes} {ap : Nat} {bk : Bytes} {bp : Nat} {dk : Bytes} {dp : Nat}
    (h1 : ikLt c ak ap bk bp = true) (h2 : ikLt c bk bp dk dp = true) : ikLt c ak ap dk dp = true :=
  ikLt_iff_lt.mpr ((cmp3_ik3 c).lt_trans _ _ _ (ikLt_iff_lt.mp h1) (ikLt_iff_lt.mp h2))

theorem ikLt_trichotomy (c : Cmp) (ak : Bytes) (ap : Nat) (bk : Bytes) (bp : Nat) :
    ikLt c ak ap bk bp = true ∨ (ak = bk ∧ ap = bp) ∨ ikLt c bk bp ak ap = true := by
  cases h : ik3 c (ak, ap) (bk, bp) with
  | lt => exact .inl (ikLt_iff_lt.mpr h)
  | eq => exact .inr (.inl ((ikCmp3_eq_iff c ak ap bk bp).mp h))
  | gt => exact .inr (.inr (ikLt_iff_lt.mpr (((cmp3_ik3 c).gt_iff _ _).mp h)))

theorem ikLt_total {c : Cmp} {ak : Bytes} {ap : Nat} {bk : Bytes} {bp : Nat}
    (h1 : ikLt c ak ap bk bp = false) (h2 : ikLt c bk bp ak ap = false) : ak = bk ∧ ap = bp := by
  rcases ikLt_trichotomy c ak ap bk bp with h | h | h
  · rw [h] at h1; cases h1
  · exact h
  · rw [h] at h2; cases h2

theorem ikLt_asymm (c : Cmp) {ak : Bytes} {ap : Nat} {bk : Bytes} {bp : Nat}
    (h : ikLt c ak ap bk bp = true) : ikLt c bk bp ak ap = false :=
  not_ikLt_iff.mpr (by rw [ikLt_iff_lt.mp h]; decide)

theorem ikLt_of_not_lt_of_lt (c : Cmp) {ak : Bytes} {ap : Nat} {bk : Bytes} {bp : Nat} {dk : Bytes} {dp : Nat}
    (h1 : ikLt c bk bp ak ap = false) (h2 : ikLt c bk bp dk dp = true) : ikLt c ak ap dk dp = true :=
  ikLt_iff_lt.mpr ((cmp3_ik3 c).lt_of_ne_gt_of_lt (not_ikLt_iff.mp h1) (ikLt_iff_lt.mp h2))

theorem ikLt_of_lt_of_not_lt (c : Cmp) {ak : Bytes} {ap : Nat} {bk : Bytes} {bp : Nat} {dk : Bytes} {dp : Nat}
    (h1 : ikLt c ak ap bk bp = true) (h2 : ikLt c dk dp bk bp = false) : ikLt c ak ap dk dp = true :=
  ikLt_iff_lt.mpr ((cmp3_ik3 c).lt_of_lt_of_ne_gt (ikLt_iff_lt.mp h1) (not_ikLt_iff.mp h2))

theorem ne_gt_of_not_ikLt {c : Cmp} {ak : Bytes} {ap : Nat} {bk : Bytes} {bp : Nat}
    (h : ikLt c bk bp ak ap = false) : c.compare ak bk ≠ .gt := by
  intro hgt
  rw [ikLt_of_ult ((compare_gt_iff c ak bk).mp hgt)] at h
  cases h

theorem ikLt_ne_gt {c : Cmp} {ak : Bytes} {ap : Nat} {bk : Bytes} {bp : Nat}
    (h : ikLt c ak ap bk bp = true) : c.compare ak bk ≠ .gt :=
  ne_gt_of_not_ikLt (ikLt_asymm c h)

theorem entryLt_irrefl (c : Cmp) (a : Entry) : entryLt c a a = false := ikLt_irrefl c _ _

theorem entryLt_trans (c : Cmp) {a b d : Entry} (h1 : entryLt c a b = true) (h2 : entryLt c b d = true) :
    entryLt c a d = true := ikLt_trans c h1 h2

theorem packed_lt_of_entryLt {c : Cmp} {a b : Entry} (h : entryLt c a b = true) (hk : a.ukey = b.ukey) :
    b.packed < a.packed := by
  rcases (ikLt_iff c _ _ _ _).mp h with h | ⟨_, h⟩
  · rw [hk, compare_refl] at h; cases h
  · exact h

theorem entryLt_trichotomy (c : Cmp) (a b : Entry) :
    entryLt c a b = true ∨ (a.ukey = b.ukey ∧ a.packed = b.packed) ∨ entryLt c b a = true :=
  ikLt_trichotomy c _ _ _ _

theorem entryLt_asymm (c : Cmp) {a b : Entry} (h : entryLt c a b = true) : entryLt c b a = false :=
  ikLt_asymm c h

end Lcdb.Lsm

theorem Lcdb.Merge.cmp3_entryCmp (c : Cmp) : Cmp3 (entryCmp c) :=
  (Lsm.cmp3_ik3 c).comap fun e : Entry => (e.ukey, e.packed)

namespace Lcdb.Merge
open Lcdb.Lsm

theorem entryLt_eq_cmp (c : Cmp) (a b : Entry) : entryLt c a b = (entryCmp c a b == .lt) :=
  ikLt_eq_cmp c _ _ _ _

theorem entryLt_swap_eq_cmp (c : Cmp) (a b : Entry) : entryLt c b a = (entryCmp c a b == .gt) := by
  rw [entryLt_eq_cmp, (cmp3_entryCmp c).swap a b]
  cases entryCmp c a b <;> rfl

theorem entryCmp_eq_iff (c : Cmp) (a b : Entry) :
    entryCmp c a b = .eq ↔ entryLt c a b = false ∧ entryLt c b a = false := by
  rw [entryLt_eq_cmp, entryLt_swap_eq_cmp]
  cases entryCmp c a b <;> simp

theorem entryCmp_ne_symm (c : Cmp) {a b : Entry} (h : entryCmp c a b ≠ .eq) : entryCmp c b a ≠ .eq :=
  fun h' => h ((cmp3_entryCmp c).eq_symm h')

end Lcdb.Merge
