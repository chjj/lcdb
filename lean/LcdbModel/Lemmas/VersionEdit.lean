/-
  Lemmas about LcdbModel.Model.VersionEdit.  The relation `EditTakes bs e e'` (decoding `bs` followed by anything
  takes the accumulator from `e` to `e'`) composes over `++`.  `EditWF` are the edits that read back unchanged and
  `editMerge a b` is what the reader holds after the records of `b` on top of `a`; with one lemma per kind of
  record, `takes_editEncode`: an encoded well-formed edit takes the accumulator to its merge with the edit.
-/
import LcdbModel.Model.VersionEdit
import LcdbModel.Props.CodingProps
namespace Lcdb

theorem pairLt_iff (a b : Nat × Nat) :
    pairLt a b = true ↔ a.1 < b.1 ∨ (a.1 = b.1 ∧ a.2 < b.2) := by
  simp [pairLt]

theorem pairLt_irrefl (a : Nat × Nat) : ¬ pairLt a a = true := by
  rw [pairLt_iff]; omega

theorem pairLt_asymm {a b : Nat × Nat} (h : pairLt a b = true) : ¬ pairLt b a = true := by
  rw [pairLt_iff] at *; omega

theorem pairLt_trans {a b c : Nat × Nat} (h1 : pairLt a b = true) (h2 : pairLt b c = true) :
    pairLt a c = true := by
  rw [pairLt_iff] at *; omega

theorem pairLt_trichotomy (a b : Nat × Nat) : pairLt a b = true ∨ a = b ∨ pairLt b a = true := by
  rw [pairLt_iff, pairLt_iff, Prod.ext_iff]; omega

abbrev PairSorted (l : List (Nat × Nat)) : Prop := l.Pairwise (fun a b => pairLt a b = true)

theorem setInsert_cons_lt {x z : Nat × Nat} (zs : List (Nat × Nat)) (h : pairLt x z = true) :
    setInsert x (z :: zs) = x :: z :: zs := by
  rw [setInsert, if_pos h]

theorem setInsert_cons_self (x : Nat × Nat) (zs : List (Nat × Nat)) :
    setInsert x (x :: zs) = x :: zs := by
  rw [setInsert, if_neg (pairLt_irrefl x), if_pos (beq_self_eq_true x)]

theorem setInsert_cons_gt {x z : Nat × Nat} (zs : List (Nat × Nat)) (h : pairLt z x = true) :
    setInsert x (z :: zs) = z :: setInsert x zs := by
  rw [setInsert, if_neg (pairLt_asymm h), if_neg]
  exact fun he => pairLt_irrefl z (eq_of_beq he ▸ h)

theorem setInsert_append_of_lt (x : Nat × Nat) (l : List (Nat × Nat))
    (h : ∀ y ∈ l, pairLt y x = true) : setInsert x l = l ++ [x] := by
  induction l with
  | nil => rfl
  | cons z zs ih =>
    rw [setInsert_cons_gt zs (h z List.mem_cons_self),
      ih fun y hy => h y (List.mem_cons_of_mem _ hy), List.cons_append]

theorem foldl_setInsert_sorted (l acc : List (Nat × Nat)) (h : PairSorted (acc ++ l)) :
    l.foldl (fun s x => setInsert x s) acc = acc ++ l := by
  induction l generalizing acc with
  | nil => simp
  | cons x xs ih =>
    have hx : ∀ y ∈ acc, pairLt y x = true :=
      fun y hy => (List.pairwise_append.mp h).2.2 y hy x List.mem_cons_self
    rw [List.foldl_cons, setInsert_append_of_lt x acc hx, ih (acc ++ [x]) (by simpa using h)]
    simp

theorem levelRead_rest_lt (bs : Bytes) (v : Nat) (rest : Bytes)
    (h : levelRead bs = some (v, rest)) : rest.length < bs.length := by
  revert h
  fun_cases levelRead bs <;> intro h <;> cases h
  exact varint32Read_rest_lt _ _ _ ‹_›

theorem levelRead_enc (l : Nat) (rest : Bytes) (h : l < numLevels) :
    levelRead (varintEnc l ++ rest) = some (l, rest) := by
  unfold levelRead
  have : l < 2 ^ 32 := by unfold numLevels at h; omega
  rw [varint32_roundtrip l rest this]
  have : ¬ l ≥ numLevels := by omega
  simp [this]

theorem editDecodeGo_fuel_eq (f1 : Nat) : ∀ (f2 : Nat) (bs : Bytes) (e : Edit),
    bs.length < f1 → bs.length < f2 → editDecodeGo f1 bs e = editDecodeGo f2 bs e := by
  induction f1 with
  | zero => intro f2 bs e h1; omega
  | succ f1 ih =>
    intro f2 bs e h1 h2
    obtain ⟨f2, rfl⟩ : ∃ k, f2 = k + 1 := ⟨f2 - 1, by omega⟩
    cases bs with
    | nil => rfl
    | cons b bs =>
      rw [editDecodeGo, editDecodeGo]
      rcases hv : varint32Read (b :: bs) with _ | ⟨tag, r⟩
      · rfl
      have hr := varint32Read_rest_lt _ _ _ hv
      -- every branch recurses on a rest shorter than `r` (the `*_rest_lt` lemmas), where both fuels still exceed
      -- the length and `ih` applies; the eight `ite_congr` are the eight tags, in the order of `editDecodeGo`
      have h : ∀ r' e', r'.length < r.length → editDecodeGo f1 r' e' = editDecodeGo f2 r' e' :=
        fun r' e' hr' => ih f2 r' e' (by omega) (by omega)
      refine ite_congr rfl (fun _ => ?cmp) fun _ => ite_congr rfl (fun _ => ?log) fun _ =>
        ite_congr rfl (fun _ => ?prev) fun _ => ite_congr rfl (fun _ => ?next) fun _ =>
        ite_congr rfl (fun _ => ?last) fun _ => ite_congr rfl (fun _ => ?cp) fun _ =>
        ite_congr rfl (fun _ => ?del) fun _ => ite_congr rfl (fun _ => ?nf) fun _ => rfl
      case cmp =>
        cases hs : sliceRead r with
        | none => rfl
        | some p => exact h _ _ (sliceRead_rest_lt _ _ _ hs)
      case log | prev | next | last =>
        cases hs : varint64Read r with
        | none => rfl
        | some p => exact h _ _ (varint64Read_rest_lt _ _ _ hs)
      case cp =>
        rcases h1 : levelRead r with _ | ⟨l, r1⟩
        · rfl
        dsimp only
        rcases h2 : sliceRead r1 with _ | ⟨k', r2⟩
        · rfl
        have := levelRead_rest_lt _ _ _ h1
        have := sliceRead_rest_lt _ _ _ h2
        exact ite_congr rfl (fun _ => rfl) fun _ => h _ _ (by omega)
      case del =>
        rcases h1 : levelRead r with _ | ⟨l, r1⟩
        · rfl
        dsimp only
        rcases h2 : varint64Read r1 with _ | ⟨n, r2⟩
        · rfl
        have := levelRead_rest_lt _ _ _ h1
        have := varint64Read_rest_lt _ _ _ h2
        exact h _ _ (by omega)
      case nf =>
        rcases h1 : levelRead r with _ | ⟨l, r1⟩
        · rfl
        dsimp only
        rcases h2 : varint64Read r1 with _ | ⟨n, r2⟩
        · rfl
        dsimp only
        rcases h3 : varint64Read r2 with _ | ⟨sz, r3⟩
        · rfl
        dsimp only
        rcases h4 : sliceRead r3 with _ | ⟨s, r4⟩
        · rfl
        dsimp only
        rcases h5 : sliceRead r4 with _ | ⟨lg, r5⟩
        · rfl
        have := levelRead_rest_lt _ _ _ h1
        have := varint64Read_rest_lt _ _ _ h2
        have := varint64Read_rest_lt _ _ _ h3
        have := sliceRead_rest_lt _ _ _ h4
        have := sliceRead_rest_lt _ _ _ h5
        exact ite_congr rfl (fun _ => rfl) fun _ => h _ _ (by omega)

def editDecodeFrom (bs : Bytes) (e : Edit) : Option Edit := editDecodeGo (bs.length + 1) bs e

theorem editDecode_eq_from (bs : Bytes) : editDecode bs = editDecodeFrom bs {} := rfl

theorem editDecodeFrom_nil (e : Edit) : editDecodeFrom [] e = some e := by
  simp [editDecodeFrom, editDecodeGo]

def EditTakes (bs : Bytes) (e e' : Edit) : Prop :=
  ∀ rest, editDecodeFrom (bs ++ rest) e = editDecodeFrom rest e'

theorem EditTakes.nil (e : Edit) : EditTakes [] e e := fun _ => rfl

theorem EditTakes.append {s t : Bytes} {e e' e'' : Edit} (hs : EditTakes s e e')
    (ht : EditTakes t e' e'') : EditTakes (s ++ t) e e'' := fun rest => by
  rw [List.append_assoc, hs, ht]

theorem EditTakes.of_step {t : Nat} (ht : t < 128) {r : Bytes} {e e' : Edit}
    (hstep : ∀ fuel rest,
      editDecodeGo (fuel + 1) (UInt8.ofNat t :: (r ++ rest)) e = editDecodeGo fuel rest e') :
    EditTakes (varintEnc t ++ r) e e' := fun rest => by
  rw [varintEnc_lt t ht]
  exact (hstep _ rest).trans
    (editDecodeGo_fuel_eq _ _ _ _ (by simp only [List.length_append, List.length_cons]; omega) (by omega))

/-- the edits that `editDecode ∘ editEncode` gives back unchanged: every number fits its varint; levels and key
    lengths pass the tests of `ldb_edit_import` (`ldb_level_slurp`: level `< numLevels`; version_edit.c:452, 488:
    an internal key has at least its 8-byte trailer); the deleted files are in the order of the C red-black set -/
structure EditWF (e : Edit) : Prop where
  comparator : ∀ c, e.comparator = some c → c.length < 2 ^ 32
  logNumber : ∀ v, e.logNumber = some v → v < 2 ^ 64
  prevLogNumber : ∀ v, e.prevLogNumber = some v → v < 2 ^ 64
  nextFile : ∀ v, e.nextFile = some v → v < 2 ^ 64
  lastSeq : ∀ v, e.lastSeq = some v → v < 2 ^ 64
  compactPointers : ∀ p ∈ e.compactPointers, p.1 < numLevels ∧ 8 ≤ p.2.length ∧ p.2.length < 2 ^ 32
  deletedFiles : ∀ p ∈ e.deletedFiles, p.1 < numLevels ∧ p.2 < 2 ^ 64
  deletedSorted : e.deletedFiles.Pairwise (fun a b => pairLt a b = true)
  newFiles : ∀ f ∈ e.newFiles, f.level < numLevels ∧ f.number < 2 ^ 64 ∧ f.size < 2 ^ 64 ∧
    8 ≤ f.smallest.length ∧ f.smallest.length < 2 ^ 32 ∧
    8 ≤ f.largest.length ∧ f.largest.length < 2 ^ 32

/-- what the reader computes when the records of `b` are applied on top of `a` -/
def editMerge (a b : Edit) : Edit :=
  { comparator := b.comparator.or a.comparator
    logNumber := b.logNumber.or a.logNumber
    prevLogNumber := b.prevLogNumber.or a.prevLogNumber
    nextFile := b.nextFile.or a.nextFile
    lastSeq := b.lastSeq.or a.lastSeq
    compactPointers := a.compactPointers ++ b.compactPointers
    deletedFiles := b.deletedFiles.foldl (fun s x => setInsert x s) a.deletedFiles
    newFiles := a.newFiles ++ b.newFiles }

theorem takes_comparator (o : Option Bytes) (h : ∀ c, o = some c → c.length < 2 ^ 32) (e : Edit) :
    EditTakes (match (motive := Option Bytes → Bytes) o with
        | none => [] | some c => varintEnc tagComparator ++ sliceEnc c)
      e { e with comparator := o.or e.comparator } := by
  cases o with
  | none => exact .nil e
  | some c =>
    refine .of_step (by decide) fun fuel rest => ?_
    rw [editDecodeGo, varint32Read_small _ _ (by decide)]
    refine (if_pos (by decide)).trans ?_
    rw [sliceRead_sliceEnc c rest (h c rfl)]
    rfl

/-- `hstep` says that `tag` selects the branch of the reader that stores a varint64 through `set`. -/
theorem takes_scalar (tag : Nat) (get : Edit → Option Nat) (set : Edit → Option Nat → Edit)
    (hstep : ∀ fuel r e, editDecodeGo (fuel + 1) (UInt8.ofNat tag :: r) e =
      match varint64Read r with
      | none => none
      | some (v, r) => editDecodeGo fuel r (set e (some v)))
    (hget : ∀ e, set e (get e) = e) (ht : tag < 128)
    (o : Option Nat) (h : ∀ v, o = some v → v < 2 ^ 64) (e : Edit) :
    EditTakes (optField tag o) e (set e (o.or (get e))) := by
  cases o with
  | none => rw [Option.none_or, hget]; exact .nil e
  | some v =>
    refine .of_step ht fun fuel rest => ?_
    rw [hstep, varint64_roundtrip v rest (h v rfl)]
    rfl

theorem takes_compactPointer (p : Nat × Bytes)
    (h : p.1 < numLevels ∧ 8 ≤ p.2.length ∧ p.2.length < 2 ^ 32) (e : Edit) :
    EditTakes (varintEnc tagCompactPointer ++ varintEnc p.1 ++ sliceEnc p.2)
      e { e with compactPointers := e.compactPointers ++ [p] } := by
  rw [List.append_assoc]
  refine .of_step (by decide) fun fuel rest => ?_
  rw [editDecodeGo, varint32Read_small _ _ (by decide)]
  iterate 5 refine (if_neg (by decide)).trans ?_
  refine (if_pos (by decide)).trans ?_
  simp only [List.append_assoc, levelRead_enc _ _ h.1, sliceRead_sliceEnc _ _ h.2.2]
  exact if_neg (Nat.not_lt.2 h.2.1)

theorem takes_deletedFile (p : Nat × Nat) (h : p.1 < numLevels ∧ p.2 < 2 ^ 64) (e : Edit) :
    EditTakes (varintEnc tagDeletedFile ++ varintEnc p.1 ++ varintEnc p.2)
      e { e with deletedFiles := setInsert p e.deletedFiles } := by
  rw [List.append_assoc]
  refine .of_step (by decide) fun fuel rest => ?_
  rw [editDecodeGo, varint32Read_small _ _ (by decide)]
  iterate 6 refine (if_neg (by decide)).trans ?_
  refine (if_pos (by decide)).trans ?_
  simp only [List.append_assoc, levelRead_enc _ _ h.1, varint64_roundtrip _ _ h.2]

theorem takes_newFile (f : NewFile)
    (h : f.level < numLevels ∧ f.number < 2 ^ 64 ∧ f.size < 2 ^ 64 ∧
      8 ≤ f.smallest.length ∧ f.smallest.length < 2 ^ 32 ∧
      8 ≤ f.largest.length ∧ f.largest.length < 2 ^ 32) (e : Edit) :
    EditTakes (varintEnc tagNewFile ++ varintEnc f.level ++ varintEnc f.number ++
        varintEnc f.size ++ sliceEnc f.smallest ++ sliceEnc f.largest)
      e { e with newFiles := e.newFiles ++ [f] } := by
  obtain ⟨hl, hn, hsz, hs8, hs, hg8, hg⟩ := h
  iterate 4 rw [List.append_assoc]
  refine .of_step (by decide) fun fuel rest => ?_
  rw [editDecodeGo, varint32Read_small _ _ (by decide)]
  iterate 7 refine (if_neg (by decide)).trans ?_
  refine (if_pos (by decide)).trans ?_
  simp only [List.append_assoc, levelRead_enc _ _ hl, varint64_roundtrip _ _ hn,
    varint64_roundtrip _ _ hsz, sliceRead_sliceEnc _ _ hs, sliceRead_sliceEnc _ _ hg]
  exact if_neg (by simp only [Bool.or_eq_true, decide_eq_true_eq]; omega)

/-- `upd e l` is the edit after reading the records of `l` on top of `e`. -/
theorem takes_list {α : Type} (enc : α → Bytes) (upd : Edit → List α → Edit)
    (hnil : ∀ e, upd e [] = e) (hcons : ∀ e a l, upd (upd e [a]) l = upd e (a :: l))
    (l : List α) (h : ∀ a ∈ l, ∀ e, EditTakes (enc a) e (upd e [a])) (e : Edit) :
    EditTakes (l.map enc).flatten e (upd e l) := by
  induction l generalizing e with
  | nil => rw [hnil]; exact .nil e
  | cons a l ih =>
    rw [← hcons]
    exact (h a List.mem_cons_self e).append (ih (fun b hb => h b (List.mem_cons_of_mem _ hb)) _)

theorem editMerge_empty (e : Edit) (h : PairSorted e.deletedFiles) : editMerge {} e = e := by
  cases e
  simp only [editMerge, Option.or_none, List.nil_append, Edit.mk.injEq, true_and, and_true]
  simpa using foldl_setInsert_sorted _ [] (by simpa using h)

theorem takes_editEncode (b : Edit) (hb : EditWF b) (e : Edit) :
    EditTakes (editEncode b) e (editMerge e b) :=
  (takes_comparator b.comparator hb.comparator e).append
    (takes_scalar tagLogNumber (·.logNumber) (fun e o => { e with logNumber := o })
      (fun _ _ _ => rfl) (fun _ => rfl) (by decide) b.logNumber hb.logNumber _) |>.append
    (takes_scalar tagPrevLogNumber (·.prevLogNumber) (fun e o => { e with prevLogNumber := o })
      (fun _ _ _ => rfl) (fun _ => rfl) (by decide) b.prevLogNumber hb.prevLogNumber _) |>.append
    (takes_scalar tagNextFileNumber (·.nextFile) (fun e o => { e with nextFile := o })
      (fun _ _ _ => rfl) (fun _ => rfl) (by decide) b.nextFile hb.nextFile _) |>.append
    (takes_scalar tagLastSequence (·.lastSeq) (fun e o => { e with lastSeq := o })
      (fun _ _ _ => rfl) (fun _ => rfl) (by decide) b.lastSeq hb.lastSeq _) |>.append
    (takes_list _ (fun e l => { e with compactPointers := e.compactPointers ++ l })
      (fun _ => by simp) (fun _ _ _ => by simp) _
      (fun p hp => takes_compactPointer p (hb.compactPointers p hp)) _) |>.append
    (takes_list _ (fun e l => { e with deletedFiles := l.foldl (fun s x => setInsert x s) e.deletedFiles })
      (fun _ => rfl) (fun _ _ _ => rfl) _
      (fun p hp => takes_deletedFile p (hb.deletedFiles p hp)) _) |>.append
    (takes_list _ (fun e l => { e with newFiles := e.newFiles ++ l })
      (fun _ => by simp) (fun _ _ _ => by simp) _
      (fun f hf => takes_newFile f (hb.newFiles f hf)) _)

end Lcdb
