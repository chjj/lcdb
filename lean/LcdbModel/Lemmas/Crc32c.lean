/-
  Lemmas about Model/Crc32c.lean: the LFSR step `crcBit` (hence `crcBit8`) is xor-linear and injective, the
  table-driven byte step `crcByteTab` equals the bitwise `crcByteSpec`.
-/
import LcdbModel.Model.Crc32c
namespace Lcdb

theorem w32_xor_xor_cancel (a b : W32) : (a ^^^ b) ^^^ b = a := by
  rw [BitVec.xor_assoc, BitVec.xor_self, BitVec.xor_zero]

theorem w32_rot_rot (c : W32) (a b : Nat) (hab : a + b = 32) :
    (((c >>> a) ||| (c <<< b)) >>> b) ||| (((c >>> a) ||| (c <<< b)) <<< a) = c := by
  apply BitVec.eq_of_getLsbD_eq
  intro i hi
  simp only [BitVec.getLsbD_or, BitVec.getLsbD_ushiftRight, BitVec.getLsbD_shiftLeft]
  by_cases h : i < a
  · have e1 : b + i - b = i := by omega
    have e2 : ¬ b + i < b := by omega
    have e3 : b + i < 32 := by omega
    have e4 : a + (b + i) ≥ 32 := by omega
    simp [h, hi, e1, e2, e3, BitVec.getLsbD_of_ge _ _ e4]
  · have e1 : a + (i - a) = i := by omega
    have e4 : a + (b + i) ≥ 32 := by omega
    have e5 : b + i ≥ 32 := by omega
    have e6 : i - a < b := by omega
    simp [h, hi, e1, e6, BitVec.getLsbD_of_ge _ _ e4, Nat.not_lt.mpr e5]

theorem getLsbD_0xff (i : Nat) : (0xff#32 : W32).getLsbD i = decide (i < 8) := by
  have : (0xff#32 : W32) = BitVec.setWidth 32 (BitVec.allOnes 8) := by decide
  rw [this, BitVec.getLsbD_setWidth, BitVec.getLsbD_allOnes]
  by_cases h : i < 8
  · have : i < 32 := by omega
    simp [h, this]
  · simp [h]

theorem w32_split_low_byte (l : W32) : l = (l &&& 0xff#32) ^^^ ((l >>> 8) <<< 8) := by
  apply BitVec.eq_of_getLsbD_eq
  intro i hi
  simp only [BitVec.getLsbD_xor, BitVec.getLsbD_and, getLsbD_0xff, BitVec.getLsbD_shiftLeft,
    BitVec.getLsbD_ushiftRight]
  by_cases h : i < 8
  · simp [h]
  · have e : 8 + (i - 8) = i := by omega
    simp [h, hi, e]

theorem w32_shl8_low_zero (x : W32) (i : Nat) (h : i < 8) : (x <<< 8).getLsbD i = false := by
  simp [BitVec.getLsbD_shiftLeft, h]

theorem w32_shr8_shl8_shr8 (l : W32) : ((l >>> 8) <<< 8) >>> 8 = l >>> 8 := by
  apply BitVec.eq_of_getLsbD_eq
  intro i hi
  simp only [BitVec.getLsbD_ushiftRight, BitVec.getLsbD_shiftLeft]
  by_cases h : 8 + i < 32
  · simp [h]
  · have : 32 ≤ 8 + i := by omega
    simp [h, BitVec.getLsbD_of_ge _ _ this]

theorem zeroExtend32_inj {x y : UInt8}
    (h : x.toBitVec.zeroExtend 32 = y.toBitVec.zeroExtend 32) : x = y := by
  have h' := congrArg (BitVec.setWidth 8) h
  simp only [BitVec.zeroExtend] at h'
  rw [BitVec.setWidth_setWidth_of_le _ (by omega), BitVec.setWidth_setWidth_of_le _ (by omega),
    BitVec.setWidth_eq, BitVec.setWidth_eq] at h'
  exact UInt8.toBitVec_inj.mp h'

theorem crcPoly_msb : crcPoly.getLsbD 31 = true := by decide

theorem crcBit_of_lsb_false (l : W32) (h : l.getLsbD 0 = false) : crcBit l = l >>> 1 := by
  have h' : ¬ (l.getLsbD 0 = true) := by rw [h]; exact Bool.false_ne_true
  rw [crcBit, if_neg h']

theorem crcBit_of_lsb_true (l : W32) (h : l.getLsbD 0 = true) :
    crcBit l = (l >>> 1) ^^^ crcPoly := by
  rw [crcBit, if_pos h]

theorem crcBit_xor (a b : W32) : crcBit (a ^^^ b) = crcBit a ^^^ crcBit b := by
  unfold crcBit
  rw [BitVec.getLsbD_xor, BitVec.ushiftRight_xor_distrib]
  cases a.getLsbD 0 <;> cases b.getLsbD 0 <;> simp only [Bool.xor_false, Bool.xor_true, Bool.not_true,
    Bool.not_false, Bool.false_eq_true, if_true, if_false]
  · rw [BitVec.xor_assoc]
  · rw [BitVec.xor_assoc, BitVec.xor_assoc, BitVec.xor_comm (b >>> 1)]
  · -- both low bits set: the polynomial cancels
    rw [BitVec.xor_assoc, BitVec.xor_comm (b >>> 1), ← BitVec.xor_assoc crcPoly, BitVec.xor_self,
      BitVec.zero_xor]

theorem crcBit_zero : crcBit 0 = 0 := by decide

theorem crcBit_msb (l : W32) : (crcBit l).getLsbD 31 = l.getLsbD 0 := by
  have hs : (l >>> 1).getLsbD 31 = false := by
    rw [BitVec.getLsbD_ushiftRight]; exact BitVec.getLsbD_of_ge _ _ (by omega)
  cases h : l.getLsbD 0
  · rw [crcBit_of_lsb_false l h, hs]
  · rw [crcBit_of_lsb_true l h, BitVec.getLsbD_xor, hs, crcPoly_msb]; rfl

theorem crcBit_injective : Function.Injective crcBit := by
  intro a b h
  have h0 : a.getLsbD 0 = b.getLsbD 0 := by
    rw [← crcBit_msb a, ← crcBit_msb b, h]
  have hs : a >>> 1 = b >>> 1 := by
    cases ha : a.getLsbD 0
    · have hb : b.getLsbD 0 = false := by rw [← h0, ha]
      rw [crcBit_of_lsb_false a ha, crcBit_of_lsb_false b hb] at h; exact h
    · have hb : b.getLsbD 0 = true := by rw [← h0, ha]
      rw [crcBit_of_lsb_true a ha, crcBit_of_lsb_true b hb] at h
      exact (BitVec.xor_left_inj crcPoly).mp h
  apply BitVec.eq_of_getLsbD_eq
  intro i _
  cases i with
  | zero => exact h0
  | succ j =>
    have := congrArg (fun x => BitVec.getLsbD x j) hs
    simp only [BitVec.getLsbD_ushiftRight] at this
    rw [Nat.add_comm j 1]; exact this

theorem crcBit8_xor (a b : W32) : crcBit8 (a ^^^ b) = crcBit8 a ^^^ crcBit8 b := by
  simp only [crcBit8, crcBit_xor]

theorem crcBit8_injective : Function.Injective crcBit8 := fun _ _ h =>
  crcBit_injective (crcBit_injective (crcBit_injective (crcBit_injective (crcBit_injective
    (crcBit_injective (crcBit_injective (crcBit_injective h)))))))

theorem crcBit_shr (h : W32) (k : Nat) (hz : h.getLsbD k = false) :
    crcBit (h >>> k) = h >>> (k + 1) := by
  rw [crcBit_of_lsb_false, BitVec.shiftRight_add]
  rw [BitVec.getLsbD_ushiftRight]; exact hz

theorem crcBit8_of_low_zero (h : W32) (hz : ∀ i, i < 8 → h.getLsbD i = false) :
    crcBit8 h = h >>> 8 := by
  unfold crcBit8
  have e0 : crcBit h = h >>> 1 := by
    have := crcBit_shr h 0 (hz 0 (by omega))
    rwa [BitVec.ushiftRight_zero] at this
  rw [e0, crcBit_shr h 1 (hz 1 (by omega)), crcBit_shr h 2 (hz 2 (by omega)),
    crcBit_shr h 3 (hz 3 (by omega)), crcBit_shr h 4 (hz 4 (by omega)),
    crcBit_shr h 5 (hz 5 (by omega)), crcBit_shr h 6 (hz 6 (by omega)),
    crcBit_shr h 7 (hz 7 (by omega))]

theorem crcTable_length : crcTable.length = 256 := by
  simp [crcTable]

theorem crcTableGet_eq (i : Nat) (h : i < 256) : crcTableGet i = crcBit8 (BitVec.ofNat 32 i) := by
  simp [crcTableGet, crcTable, List.getD_eq_getElem?_getD, h]

theorem crcTab_index_lt (l : W32) (b : UInt8) :
    ((l &&& 0xff#32) ^^^ (b.toBitVec.zeroExtend 32)).toNat < 256 := by
  rw [BitVec.toNat_xor, BitVec.toNat_and]
  apply Nat.xor_lt_two_pow (n := 8)
  · have : l.toNat &&& (0xff#32 : W32).toNat ≤ (0xff#32 : W32).toNat := Nat.and_le_right
    have e : (0xff#32 : W32).toNat = 255 := by decide
    omega
  · show (BitVec.setWidth 32 b.toBitVec).toNat < 2 ^ 8
    rw [BitVec.toNat_setWidth]
    have := b.toBitVec.isLt
    have : b.toBitVec.toNat % 2 ^ 32 ≤ b.toBitVec.toNat := Nat.mod_le _ _
    omega

theorem crcByteTab_eq_spec (l : W32) (b : UInt8) : crcByteTab l b = crcByteSpec l b := by
  unfold crcByteTab crcByteSpec
  rw [crcTableGet_eq _ (crcTab_index_lt l b), BitVec.ofNat_toNat, BitVec.setWidth_eq]
  have hsplit : l ^^^ (b.toBitVec.zeroExtend 32)
      = ((l &&& 0xff#32) ^^^ (b.toBitVec.zeroExtend 32)) ^^^ ((l >>> 8) <<< 8) := by
    rw [BitVec.xor_assoc, BitVec.xor_comm (b.toBitVec.zeroExtend 32), ← BitVec.xor_assoc,
      ← w32_split_low_byte]
  rw [hsplit, crcBit8_xor _ ((l >>> 8) <<< 8), crcBit8_of_low_zero _ (w32_shl8_low_zero _), w32_shr8_shl8_shr8]

theorem crcByteSpec_zero (l : W32) : crcByteSpec l 0 = crcBit8 l := by
  have h : (0 : UInt8).toBitVec.zeroExtend 32 = 0#32 := by decide
  rw [crcByteSpec, h, BitVec.xor_zero]

theorem crcFeed_nil (l : W32) : crcFeed l [] = l := rfl
theorem crcFeed_cons (l : W32) (b : UInt8) (bs : Bytes) :
    crcFeed l (b :: bs) = crcFeed (crcByteSpec l b) bs := rfl
theorem crcFeed_append (l : W32) (a b : Bytes) :
    crcFeed l (a ++ b) = crcFeed (crcFeed l a) b := by
  simp [crcFeed, List.foldl_append]

end Lcdb
