/-
  Lemmas about LcdbModel.Model.FileName.  `parseFileName name` is rewritten to `parseChars name.toList`, a copy of the
  model that only looks at `List Char`; `decodeIntGo` is characterised through
  `List.takeWhile isDigit` / `List.dropWhile isDigit`; the grammar `OwnedChars` is then
  shown to be equivalent to `parseChars … = some …`.  The writer's side: `fileNumStr n` is the number as
  `ldb_encode_int` prints it into a file name, and its characters are a digit string of value `n`.
-/
import LcdbModel.Model.FileName
namespace Lcdb

theorem isDigit_eq (c : Char) : isDigit c = c.isDigit := by
  simp [isDigit, Char.isDigit, Char.le_def]

theorem isDigit_iff (c : Char) : isDigit c = true ↔ 48 ≤ c.toNat ∧ c.toNat ≤ 57 := by
  simp only [isDigit, Bool.and_eq_true, decide_eq_true_eq, Char.le_def, UInt32.le_iff_toNat_le]
  exact Iff.rfl

def digitsNat (ds : List Char) : Nat := ds.foldl (fun x c => x * 10 + (c.toNat - 48)) 0

def digitsVal (ds : List Char) : Option Nat :=
  if ds ≠ [] ∧ ds.all isDigit = true ∧ digitsNat ds < 2 ^ 64 then some (digitsNat ds) else none

theorem digitsVal_eq_some_iff {ds : List Char} {n : Nat} :
    digitsVal ds = some n ↔
      ds ≠ [] ∧ (∀ c ∈ ds, isDigit c = true) ∧ digitsNat ds = n ∧ n < 2 ^ 64 := by
  rw [digitsVal, Option.ite_none_right_eq_some, Option.some.injEq, List.all_eq_true]
  constructor
  · rintro ⟨⟨h1, h2, h3⟩, rfl⟩; exact ⟨h1, h2, rfl, h3⟩
  · rintro ⟨h1, h2, rfl, h3⟩; exact ⟨⟨h1, h2, h3⟩, rfl⟩

theorem digitsNat_eq_ofDigitChars (ds : List Char) : digitsNat ds = Nat.ofDigitChars 10 ds 0 := by
  unfold digitsNat Nat.ofDigitChars
  congr 1
  funext x c
  rw [Nat.mul_comm]
  rfl

/-- accumulator form of `digitsNat` (the loop state of `ldb_decode_int`) -/
def accDigits (x : Nat) (ds : List Char) : Nat := ds.foldl (fun x c => x * 10 + (c.toNat - 48)) x

theorem accDigits_zero (ds : List Char) : accDigits 0 ds = digitsNat ds := rfl

@[simp] theorem accDigits_nil (x : Nat) : accDigits x [] = x := rfl

@[simp] theorem accDigits_cons (x : Nat) (c : Char) (cs : List Char) :
    accDigits x (c :: cs) = accDigits (x * 10 + (c.toNat - 48)) cs := by
  unfold accDigits
  exact List.foldl_cons ..

theorem le_accDigits (x : Nat) (ds : List Char) : x ≤ accDigits x ds :=
  List.foldlRecOn ds _ (motive := (x ≤ ·)) (Nat.le_refl x) fun _ h _ _ => Nat.le_trans h (by omega)

/-- The overflow test of `ldb_decode_int` is exact. -/
theorem overflow_iff (x d : Nat) (hd : d ≤ 9) :
    (decide (x > (2 ^ 64 - 1) / 10) || (x == (2 ^ 64 - 1) / 10 && decide (d > (2 ^ 64 - 1) % 10))) = true
      ↔ 2 ^ 64 ≤ x * 10 + d := by
  simp only [Bool.or_eq_true, decide_eq_true_eq, Bool.and_eq_true, beq_iff_eq]
  omega

theorem decodeIntGo_spec (cs : List Char) (x : Nat) (any : Bool) (hx : x < 2 ^ 64) :
    decodeIntGo cs x any =
      if (any = true ∨ cs.takeWhile isDigit ≠ []) ∧ accDigits x (cs.takeWhile isDigit) < 2 ^ 64
      then some (accDigits x (cs.takeWhile isDigit), cs.dropWhile isDigit) else none := by
  induction cs generalizing x any with
  | nil => simp [decodeIntGo, hx]
  | cons c cs ih =>
    rw [decodeIntGo]
    by_cases hc : isDigit c = true
    · rw [if_pos hc, List.takeWhile_cons_of_pos hc, List.dropWhile_cons_of_pos hc, accDigits_cons]
      have hd : c.toNat - 48 ≤ 9 := by have := (isDigit_iff c).1 hc; omega
      by_cases hov : 2 ^ 64 ≤ x * 10 + (c.toNat - 48)
      · rw [if_pos ((overflow_iff _ _ hd).2 hov), if_neg]
        exact fun h => Nat.not_le.2 h.2 (Nat.le_trans hov (le_accDigits _ _))
      · rw [if_neg (mt (overflow_iff _ _ hd).1 hov), ih _ _ (Nat.lt_of_not_le hov)]
        simp
    · simp [hc, hx]

theorem decodeInt_eq_some_iff {s suf : List Char} {x : Nat} :
    decodeInt s = some (x, suf) ↔
      ∃ ds, s = ds ++ suf ∧ digitsVal ds = some x ∧ ∀ c ∈ suf.head?, isDigit c = false := by
  rw [decodeInt, decodeIntGo_spec _ _ _ (by decide), Option.ite_none_right_eq_some]
  simp only [Bool.false_eq_true, false_or, accDigits_zero, Option.some.injEq, Prod.mk.injEq]
  constructor
  · rintro ⟨⟨hne, hlt⟩, rfl, rfl⟩
    refine ⟨_, List.takeWhile_append_dropWhile.symm,
      digitsVal_eq_some_iff.2 ⟨hne, List.all_eq_true.1 List.all_takeWhile, rfl, hlt⟩, fun c hc => ?_⟩
    have := List.head?_dropWhile_not isDigit s
    rwa [Option.mem_def.1 hc] at this
  · rintro ⟨ds, rfl, hv, hsuf⟩
    obtain ⟨hne, hall, rfl, hlt⟩ := digitsVal_eq_some_iff.1 hv
    have hsuf' : suf.takeWhile isDigit = [] ∧ suf.dropWhile isDigit = suf := by
      cases suf with
      | nil => exact ⟨rfl, rfl⟩
      | cons c cs => simp [hsuf c rfl]
    rw [List.takeWhile_append_of_pos hall, List.dropWhile_append_of_pos hall, hsuf'.1, hsuf'.2,
      List.append_nil]
    exact ⟨⟨hne, hlt⟩, rfl, rfl⟩

theorem decodeInt_eq_some_nil_iff {s : List Char} {x : Nat} :
    decodeInt s = some (x, []) ↔ digitsVal s = some x := by
  rw [decodeInt_eq_some_iff]
  constructor
  · rintro ⟨ds, rfl, hv, -⟩; simpa using hv
  · intro hv; exact ⟨s, by simp, hv, by simp⟩

theorem stripPrefix_eq_some_iff {p s rest : List Char} :
    stripPrefix p s = some rest ↔ s = p ++ rest := by
  rw [stripPrefix, Option.ite_none_right_eq_some, List.isPrefixOf_iff_prefix, Option.some.injEq]
  constructor
  · rintro ⟨⟨r, rfl⟩, rfl⟩; simp
  · rintro rfl; exact ⟨List.prefix_append _ _, by simp⟩

theorem stripPrefix_eq_none_iff {p s : List Char} :
    stripPrefix p s = none ↔ ¬ p <+: s := by
  unfold stripPrefix
  split <;> simp_all

/-- `parseFileName` restated on the character list. -/
def parseChars (s : List Char) : Option (FileType × Nat) :=
  if s = "CURRENT".toList then some (.current, 0)
  else if s = "LOCK".toList then some (.lock, 0)
  else if s = "LOG".toList ∨ s = "LOG.old".toList then some (.info, 0)
  else match stripPrefix "MANIFEST-".toList s with
    | some rest =>
      match decodeInt rest with
      | some (x, []) => some (.desc, x)
      | _ => none
    | none =>
      match decodeInt s with
      | some (x, suffix) =>
        if suffix == ".log".toList then some (.log, x)
        else if suffix == ".sst".toList || suffix == ".ldb".toList then some (.table, x)
        else if suffix == ".dbtmp".toList then some (.temp, x)
        else none
      | none => none

theorem parseFileName_eq_parseChars (name : String) :
    parseFileName name = parseChars name.toList := by
  simp only [parseFileName, parseChars, beq_iff_eq, Bool.or_eq_true, String.toList_inj]
  congr

/-- The file names owned by lcdb, over `List Char`. -/
inductive OwnedChars : List Char → FileType → Nat → Prop
  | current : OwnedChars "CURRENT".toList .current 0
  | lock : OwnedChars "LOCK".toList .lock 0
  | info : OwnedChars "LOG".toList .info 0
  | infoOld : OwnedChars "LOG.old".toList .info 0
  | desc (ds : List Char) (n : Nat) :
      digitsVal ds = some n → OwnedChars ("MANIFEST-".toList ++ ds) .desc n
  | log (ds : List Char) (n : Nat) :
      digitsVal ds = some n → OwnedChars (ds ++ ".log".toList) .log n
  | sst (ds : List Char) (n : Nat) :
      digitsVal ds = some n → OwnedChars (ds ++ ".sst".toList) .table n
  | ldb (ds : List Char) (n : Nat) :
      digitsVal ds = some n → OwnedChars (ds ++ ".ldb".toList) .table n
  | temp (ds : List Char) (n : Nat) :
      digitsVal ds = some n → OwnedChars (ds ++ ".dbtmp".toList) .temp n

def OwnedName (s : String) (ty : FileType) (n : Nat) : Prop := OwnedChars s.toList ty n

theorem parseChars_sound {s : List Char} {ty : FileType} {n : Nat}
    (h : parseChars s = some (ty, n)) : OwnedChars s ty n := by
  revert h
  fun_cases parseChars s <;> intro h <;> cases h
  case case1 h1 => exact h1 ▸ .current
  case case2 _ h2 => exact h2 ▸ .lock
  case case3 _ _ h3 => exact h3.elim (· ▸ .info) (· ▸ .infoOld)
  case case4 _ _ _ rest hp hd =>
    exact stripPrefix_eq_some_iff.1 hp ▸ .desc _ _ (decodeInt_eq_some_nil_iff.1 hd)
  -- what is left are the three accepting suffix tests `hs` after `hd : decodeInt s = some (n, suffix)`
  all_goals
    rename_i hs hd
    obtain ⟨ds, rfl, hv, -⟩ := decodeInt_eq_some_iff.1 hd
  · exact eq_of_beq hs ▸ .log _ _ hv
  · exact (Bool.or_eq_true_iff.1 hs).elim (eq_of_beq · ▸ .sst _ _ hv) (eq_of_beq · ▸ .ldb _ _ hv)
  · exact eq_of_beq hs ▸ .temp _ _ hv

theorem not_prefix_of_digit_head {lit t : List Char} {d : Char}
    (hl : (lit.head?.any fun c => !isDigit c) = true) (hd : isDigit d = true) : ¬ lit <+: d :: t := by
  rintro ⟨r, hr⟩
  cases lit with
  | nil => cases hl
  | cons c l =>
    cases List.cons.inj hr |>.1
    simp [hd] at hl

theorem parseChars_of_digits_append {ds suf : List Char} {n : Nat}
    (hv : digitsVal ds = some n) (hsuf : ∀ c ∈ suf.head?, isDigit c = false) :
    parseChars (ds ++ suf) =
      if suf == ".log".toList then some (.log, n)
      else if suf == ".sst".toList || suf == ".ldb".toList then some (.table, n)
      else if suf == ".dbtmp".toList then some (.temp, n)
      else none := by
  have hd : decodeInt (ds ++ suf) = some (n, suf) := decodeInt_eq_some_iff.2 ⟨ds, rfl, hv, hsuf⟩
  obtain ⟨hne, hall, -, -⟩ := digitsVal_eq_some_iff.1 hv
  cases ds with
  | nil => exact absurd rfl hne
  | cons d ds =>
    have hdig : isDigit d = true := hall d List.mem_cons_self
    have ne {lit : List Char} (hl : (lit.head?.any fun c => !isDigit c) = true) :
        d :: ds ++ suf ≠ lit :=
      fun e => not_prefix_of_digit_head hl hdig ⟨[], (List.append_nil _).trans e.symm⟩
    have hp : stripPrefix "MANIFEST-".toList (d :: ds ++ suf) = none :=
      stripPrefix_eq_none_iff.2 (not_prefix_of_digit_head (by decide +kernel) hdig)
    unfold parseChars
    -- `lit` is, in the order of the tests in `parseChars`: "CURRENT", "LOCK", "LOG", "LOG.old"
    rw [if_neg (ne (by decide +kernel)), if_neg (ne (by decide +kernel)),
      if_neg (not_or.2 ⟨ne (by decide +kernel), ne (by decide +kernel)⟩), hp]
    simp only [hd]

theorem toList_ne {a b : String} (h : a ≠ b) : a.toList ≠ b.toList :=
  fun e => h (String.toList_inj.1 e)

theorem parseChars_complete {s : List Char} {ty : FileType} {n : Nat}
    (h : OwnedChars s ty n) : parseChars s = some (ty, n) := by
  cases h with
  | current => exact if_pos rfl
  | lock => exact (if_neg (toList_ne (by simp))).trans (if_pos rfl)
  | info =>
    exact (if_neg (toList_ne (by simp))).trans <| (if_neg (toList_ne (by simp))).trans <|
      if_pos (.inl rfl)
  | infoOld =>
    exact (if_neg (toList_ne (by simp))).trans <| (if_neg (toList_ne (by simp))).trans <|
      if_pos (.inr rfl)
  | desc ds n hv =>
    have hp : stripPrefix "MANIFEST-".toList ("MANIFEST-".toList ++ ds) = some ds :=
      stripPrefix_eq_some_iff.2 rfl
    have ne {lit : List Char} (hl : stripPrefix "MANIFEST-".toList lit = none) :
        "MANIFEST-".toList ++ ds ≠ lit := fun e => by rw [← e, hp] at hl; cases hl
    unfold parseChars
    rw [if_neg (ne (by decide +kernel)), if_neg (ne (by decide +kernel)),
      if_neg (not_or.2 ⟨ne (by decide +kernel), ne (by decide +kernel)⟩), hp]
    simp only [decodeInt_eq_some_nil_iff.2 hv]
  | log ds n hv =>
    rw [parseChars_of_digits_append hv (by decide +kernel), if_pos (beq_self_eq_true _)]
  | sst ds n hv =>
    rw [parseChars_of_digits_append hv (by decide +kernel),
      if_neg fun h => toList_ne (by simp) (eq_of_beq h),
      if_pos (Bool.or_eq_true_iff.2 (.inl (beq_self_eq_true _)))]
  | ldb ds n hv =>
    rw [parseChars_of_digits_append hv (by decide +kernel),
      if_neg fun h => toList_ne (by simp) (eq_of_beq h),
      if_pos (Bool.or_eq_true_iff.2 (.inr (beq_self_eq_true _)))]
  | temp ds n hv =>
    rw [parseChars_of_digits_append hv (by decide +kernel),
      if_neg fun h => toList_ne (by simp) (eq_of_beq h),
      if_neg fun h => (Bool.or_eq_true_iff.1 h).elim
        (fun h => toList_ne (by simp) (eq_of_beq h)) fun h => toList_ne (by simp) (eq_of_beq h),
      if_pos (beq_self_eq_true _)]

theorem parseChars_eq_some_iff {s : List Char} {ty : FileType} {n : Nat} :
    parseChars s = some (ty, n) ↔ OwnedChars s ty n :=
  ⟨parseChars_sound, parseChars_complete⟩

theorem OwnedChars.slash_not_mem {s : List Char} {ty : FileType} {n : Nat}
    (h : OwnedChars s ty n) : '/' ∉ s := by
  have key : ∀ {ds : List Char} {n : Nat}, digitsVal ds = some n → '/' ∉ ds :=
    fun hv hm => absurd ((digitsVal_eq_some_iff.1 hv).2.1 _ hm) (by decide)
  cases h with
  | current | lock | info | infoOld => decide +kernel
  | desc ds n hv =>
    exact fun hm => (List.mem_append.1 hm).elim (by decide +kernel) (key hv)
  | log ds n hv | sst ds n hv | ldb ds n hv | temp ds n hv =>
    exact fun hm => (List.mem_append.1 hm).elim (key hv) (by decide +kernel)

/-- The characters `ldb_encode_int(id, n, 6)` writes (util/strutil.c, called by `make_filename` and
    `ldb_desc_filename` in filename.c): decimal digits, left-padded with `'0'` to width 6, i.e.
    `printf("%06llu", n)`. -/
def fileNumChars (n : Nat) : List Char :=
  List.replicate (6 - (Nat.toDigits 10 n).length) '0' ++ Nat.toDigits 10 n

def fileNumStr (n : Nat) : String := String.ofList (fileNumChars n)

theorem fileNumStr_toList (n : Nat) : (fileNumStr n).toList = fileNumChars n :=
  String.toList_ofList

theorem fileNumChars_length_ge (n : Nat) : 6 ≤ (fileNumChars n).length := by
  simp only [fileNumChars, List.length_append, List.length_replicate]; omega

theorem fileNumStr_eq_repr (n : Nat) :
    fileNumStr n = String.ofList (List.replicate (6 - n.repr.length) '0') ++ n.repr := by
  rw [← String.toList_inj, fileNumStr_toList, String.toList_append, String.toList_ofList,
    ← String.length_toList, Nat.toList_repr, fileNumChars]

theorem digitsVal_fileNumChars {n : Nat} (hn : n < 2 ^ 64) :
    digitsVal (fileNumChars n) = some n := by
  rw [digitsVal_eq_some_iff]
  refine ⟨?_, ?_, ?_, hn⟩
  · simp [fileNumChars, Nat.toDigits_ne_nil]
  · intro c hc
    rcases List.mem_append.1 hc with hc | hc
    · rw [(List.mem_replicate.1 hc).2]; decide
    · rw [isDigit_eq]; exact Nat.isDigit_of_mem_toDigits (by decide) (by decide) hc
  · rw [digitsNat_eq_ofDigitChars, fileNumChars, Nat.ofDigitChars_append,
      Nat.ofDigitChars_replicate_zero, Nat.mul_zero, Nat.ofDigitChars_ten_toDigits]

end Lcdb
