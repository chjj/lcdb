/-
  The specification side of a lookup: `newestOf`, `newestVisible` (the newest entry of a user key at
  or below a sequence number) and `view` (what it answers), over plain lists of entries.
  `pick` makes `newestOf` a fold, which gives `newestVisible` of a concatenation and its invariance
  under reordering files whose runs share no (user key, sequence).  Where the entries of each user key
  stand in descending sequence order it is the first visible entry (`newestVisible_eq_find`).
-/
import LcdbModel.Model.Lsm
import LcdbModel.Lemmas.CmpBasic
import LcdbModel.Lemmas.ListBasic
namespace Lcdb.Lsm
open Lcdb.CmpBasic

theorem newestOf_cons_of_none {e : Entry} {es : List Entry} (h : newestOf es = none) :
    newestOf (e :: es) = some e := by
  simp only [newestOf, h]

theorem newestOf_cons_of_some {e m : Entry} {es : List Entry} (h : newestOf es = some m) :
    newestOf (e :: es) = some (if e.seq ≥ m.seq then e else m) := by
  simp only [newestOf, h]
  split <;> rfl

theorem newestOf_eq_none {l : List Entry} : newestOf l = none ↔ l = [] := by
  cases l with
  | nil => exact ⟨fun _ => rfl, fun _ => rfl⟩
  | cons e es =>
    cases h : newestOf es with
    | none => rw [newestOf_cons_of_none h]; exact ⟨nofun, nofun⟩
    | some m => rw [newestOf_cons_of_some h]; exact ⟨nofun, nofun⟩

theorem newestOf_spec {l : List Entry} {m : Entry} (h : newestOf l = some m) :
    m ∈ l ∧ ∀ x ∈ l, x.seq ≤ m.seq := by
  induction l generalizing m with
  | nil => cases h
  | cons e es ih =>
    cases h' : newestOf es with
    | none =>
      rw [newestOf_cons_of_none h'] at h
      cases h
      rw [newestOf_eq_none.mp h']
      exact ⟨List.mem_cons_self, fun x hx => List.mem_singleton.mp hx ▸ Nat.le_refl _⟩
    | some m' =>
      obtain ⟨hm, hmax⟩ := ih h'
      rw [newestOf_cons_of_some h'] at h
      cases h
      split
      · rename_i hge
        exact ⟨List.mem_cons_self, fun x hx => (List.mem_cons.mp hx).elim (· ▸ Nat.le_refl _)
          fun hx => Nat.le_trans (hmax x hx) hge⟩
      · exact ⟨List.mem_cons_of_mem _ hm, fun x hx => (List.mem_cons.mp hx).elim (fun e => e ▸ by omega)
          (hmax x)⟩

theorem newestOf_eq_head? {l : List Entry} (h : l.Pairwise fun a b => b.seq ≤ a.seq) :
    newestOf l = l.head? := by
  cases l with
  | nil => rfl
  | cons e es =>
    cases h' : newestOf es with
    | none => exact newestOf_cons_of_none h'
    | some m =>
      rw [newestOf_cons_of_some h', if_pos (List.rel_of_pairwise_cons h (newestOf_spec h').1)]
      rfl

def pick : Option Entry → Option Entry → Option Entry
  | none, y => y
  | some x, none => some x
  | some x, some y => if x.seq ≥ y.seq then some x else some y

theorem pick_assoc (a b d : Option Entry) : pick (pick a b) d = pick a (pick b d) := by
  cases a with
  | none => rfl
  | some x =>
    cases b with
    | none => rfl
    | some y =>
      cases d with
      | none =>
        show pick (if x.seq ≥ y.seq then some x else some y) none
          = if x.seq ≥ y.seq then some x else some y
        split <;> rfl
      | some z =>
        show pick (if x.seq ≥ y.seq then some x else some y) (some z)
          = pick (some x) (if y.seq ≥ z.seq then some y else some z)
        by_cases h1 : x.seq ≥ y.seq <;> by_cases h2 : y.seq ≥ z.seq <;>
          simp only [h1, h2, pick, ↓reduceIte]
        · rw [if_pos (Nat.le_trans h2 h1)]
        · rw [if_neg (by omega)]

theorem pick_comm (nx ny : Option Entry)
    (h : ∀ a, nx = some a → ∀ b, ny = some b → a.seq ≠ b.seq) : pick nx ny = pick ny nx := by
  cases nx with
  | none => cases ny <;> rfl
  | some a =>
    cases ny with
    | none => rfl
    | some b =>
      have hab := h a rfl b rfl
      show (if a.seq ≥ b.seq then some a else some b) = if b.seq ≥ a.seq then some b else some a
      by_cases h1 : a.seq ≥ b.seq
      · rw [if_pos h1, if_neg (by omega)]
      · rw [if_neg h1, if_pos (by omega)]

theorem pick_left_comm (nx ny z : Option Entry)
    (h : ∀ a, nx = some a → ∀ b, ny = some b → a.seq ≠ b.seq) :
    pick ny (pick nx z) = pick nx (pick ny z) := by
  rw [← pick_assoc, pick_comm ny nx (fun b hb a ha => (h a ha b hb).symm), pick_assoc]

theorem newestOf_cons (e : Entry) (es : List Entry) :
    newestOf (e :: es) = pick (some e) (newestOf es) := by
  simp only [newestOf]
  cases newestOf es <;> rfl

theorem newestOf_append (a b : List Entry) : newestOf (a ++ b) = pick (newestOf a) (newestOf b) := by
  induction a with
  | nil => rfl
  | cons e a ih => rw [List.cons_append, newestOf_cons, ih, ← pick_assoc, ← newestOf_cons]

theorem visibleEntries_cons (c : Cmp) (e : Entry) (r : List Entry) (k : Bytes) (s : Nat) :
    visibleEntries c (e :: r) k s =
      if c.compare e.ukey k = .eq ∧ e.seq ≤ s then e :: visibleEntries c r k s
      else visibleEntries c r k s := by
  simp only [visibleEntries, List.filter_cons, Bool.and_eq_true, beq_iff_eq, decide_eq_true_eq]

theorem mem_visibleEntries {c : Cmp} {es : List Entry} {k : Bytes} {s : Nat} {x : Entry} :
    x ∈ visibleEntries c es k s ↔ x ∈ es ∧ x.ukey = k ∧ x.seq ≤ s := by
  simp only [visibleEntries, List.mem_filter, Bool.and_eq_true, beq_iff_eq, decide_eq_true_eq,
    compare_eq_iff]

theorem newestVisible_append (c : Cmp) (a b : List Entry) (k : Bytes) (s : Nat) :
    newestVisible c (a ++ b) k s = pick (newestVisible c a k s) (newestVisible c b k s) := by
  simp only [newestVisible, visibleEntries, List.filter_append, newestOf_append]

theorem _root_.Lcdb.newestVisible_spec {c : Cmp} {es : List Entry} {k : Bytes} {s : Nat} {m : Entry}
    (h : newestVisible c es k s = some m) :
    m ∈ es ∧ m.ukey = k ∧ m.seq ≤ s ∧ ∀ e ∈ es, e.ukey = k → e.seq ≤ s → e.seq ≤ m.seq := by
  obtain ⟨h1, h2, h3⟩ := mem_visibleEntries.mp (newestOf_spec h).1
  exact ⟨h1, h2, h3, fun e he hk hs => (newestOf_spec h).2 e (mem_visibleEntries.mpr ⟨he, hk, hs⟩)⟩

/-- where entries of one user key stand in descending sequence order, the newest visible one is the
    first visible one -/
theorem newestVisible_eq_find {c : Cmp} {es : List Entry} (k : Bytes) (s : Nat)
    (h : es.Pairwise fun a b => a.ukey = b.ukey → b.seq ≤ a.seq) :
    newestVisible c es k s = es.find? (fun e => c.compare e.ukey k == .eq && decide (e.seq ≤ s)) := by
  rw [← List.head?_filter]
  exact newestOf_eq_head? ((h.filter _).imp_of_mem fun ha hb hab =>
    hab ((mem_visibleEntries.mp ha).2.1.trans (mem_visibleEntries.mp hb).2.1.symm))

def SeqDisj (c : Cmp) (a b : Run) : Prop :=
  ∀ x ∈ a, ∀ y ∈ b, c.compare x.ukey y.ukey = .eq → x.seq ≠ y.seq

theorem SeqDisj.symm {c : Cmp} {a b : Run} (h : SeqDisj c a b) : SeqDisj c b a :=
  fun x hx y hy hxy => Ne.symm (h y hy x hx ((cmp3_compare c).eq_symm hxy))

theorem NewerThan.seqDisj {c : Cmp} {a b : Run} (h : NewerThan c a b) : SeqDisj c a b :=
  fun x hx y hy hxy => by have := h x hx y hy hxy; omega

theorem newestVisible_flatMap_eq_foldr (c : Cmp) (fs : List FileMeta) (k : Bytes) (s : Nat) :
    newestVisible c (fs.flatMap (·.run)) k s
      = fs.foldr (fun f acc => pick (newestVisible c f.run k s) acc) none := by
  induction fs with
  | nil => rfl
  | cons f fs ih => rw [List.flatMap_cons, newestVisible_append, ih, List.foldr_cons]

/-- holds even when a single run has a value and a deletion with the same sequence number: the order
    inside each run is kept -/
theorem newestVisible_flatMap_perm (c : Cmp) {fs fs' : List FileMeta} (k : Bytes) (s : Nat)
    (hp : fs.Perm fs') (hd : fs.Pairwise (fun f g => SeqDisj c f.run g.run)) :
    newestVisible c (fs.flatMap (·.run)) k s = newestVisible c (fs'.flatMap (·.run)) k s := by
  rw [newestVisible_flatMap_eq_foldr, newestVisible_flatMap_eq_foldr]
  apply List.Perm.foldr_eq' hp
  intro x hx y hy z
  by_cases hxy : x = y
  · subst hxy; rfl
  · have hD := pairwise_symm_mem hd SeqDisj.symm hx hy hxy
    apply pick_left_comm
    intro a ha b hb
    obtain ⟨ha1, ha2, _⟩ := newestVisible_spec ha
    obtain ⟨hb1, hb2, _⟩ := newestVisible_spec hb
    exact hD a ha1 b hb1 (by rw [ha2, hb2]; exact compare_refl c k)

end Lcdb.Lsm

namespace Lcdb

theorem newestVisible_eq_none_iff {c : Cmp} {es : List Entry} {k : Bytes} {s : Nat} :
    newestVisible c es k s = none ↔ ∀ e ∈ es, e.ukey = k → ¬ e.seq ≤ s := by
  unfold newestVisible
  rw [Lsm.newestOf_eq_none, List.eq_nil_iff_forall_not_mem]
  simp only [Lsm.mem_visibleEntries, not_and]

theorem newestVisible_eq_some_of_strict {c : Cmp} {es : List Entry} {k : Bytes} {s : Nat} {m : Entry}
    (hm : m ∈ es) (hk : m.ukey = k) (hs : m.seq ≤ s)
    (h : ∀ e ∈ es, e.ukey = k → e.seq ≤ s → e = m ∨ e.seq < m.seq) :
    newestVisible c es k s = some m := by
  have hmv : m ∈ visibleEntries c es k s := Lsm.mem_visibleEntries.mpr ⟨hm, hk, hs⟩
  cases hn : newestVisible c es k s with
  | none => rw [Lsm.newestOf_eq_none.mp hn] at hmv; cases hmv
  | some m' =>
    obtain ⟨h1, h2, h3, _⟩ := newestVisible_spec hn
    rcases h m' h1 h2 h3 with rfl | hlt
    · rfl
    · have := (Lsm.newestOf_spec hn).2 m hmv
      omega

def KeyNoTies (es : List Entry) : Prop :=
  ∀ x ∈ es, ∀ y ∈ es, x.ukey = y.ukey → x.seq = y.seq → x = y

instance (es : List Entry) : Decidable (KeyNoTies es) := by unfold KeyNoTies; infer_instance

theorem KeyNoTies.of_subset {es es' : List Entry} (h : KeyNoTies es) (hsub : ∀ e ∈ es', e ∈ es) :
    KeyNoTies es' :=
  fun x hx y hy => h x (hsub x hx) y (hsub y hy)

theorem KeyNoTies.eq_or_lt {es : List Entry} (hes : KeyNoTies es) {e m : Entry} (he : e ∈ es)
    (hm : m ∈ es) (hk : e.ukey = m.ukey) (hle : e.seq ≤ m.seq) : e = m ∨ e.seq < m.seq := by
  by_cases heq : e.seq = m.seq
  · exact .inl (hes e he m hm hk heq)
  · exact .inr (by omega)

theorem newestVisible_eq_some_of {c : Cmp} {es : List Entry} {k : Bytes} {s : Nat} {m : Entry}
    (hes : KeyNoTies es) (hm : m ∈ es) (hk : m.ukey = k) (hs : m.seq ≤ s)
    (h : ∀ e ∈ es, e.ukey = k → e.seq ≤ s → e.seq ≤ m.seq) :
    newestVisible c es k s = some m :=
  newestVisible_eq_some_of_strict hm hk hs
    (fun e he hke hse => hes.eq_or_lt he hm (hke.trans hk.symm) (h e he hke hse))

theorem newestVisible_congr {c : Cmp} {es es' : List Entry} {k : Bytes} {s : Nat}
    (hes : KeyNoTies es) (h : ∀ e, e.ukey = k → e.seq ≤ s → (e ∈ es' ↔ e ∈ es)) :
    newestVisible c es' k s = newestVisible c es k s := by
  cases hn : newestVisible c es k s with
  | none =>
    rw [newestVisible_eq_none_iff] at hn ⊢
    intro e he hk hs
    exact hn e ((h e hk hs).mp he) hk hs
  | some m =>
    obtain ⟨h1, h2, h3, h4⟩ := newestVisible_spec hn
    exact newestVisible_eq_some_of_strict ((h m h2 h3).mpr h1) h2 h3 (fun e he hk hs =>
      hes.eq_or_lt ((h e hk hs).mp he) h1 (hk.trans h2.symm) (h4 e ((h e hk hs).mp he) hk hs))

theorem view_eq_some {c : Cmp} {es : List Entry} {k : Bytes} {s : Nat} {v : String} :
    view c es k s = some v ↔ ∃ e, newestVisible c es k s = some e ∧ e.kind = 1 ∧ e.val = v := by
  unfold view
  cases newestVisible c es k s with
  | none => exact ⟨nofun, nofun⟩
  | some e => simp only [beq_iff_eq, Option.ite_none_right_eq_some, Option.some.injEq, exists_eq_left']

theorem view_congr {c : Cmp} {es es' : List Entry} {k : Bytes} {s : Nat}
    (hes : KeyNoTies es) (h : ∀ e, e.ukey = k → e.seq ≤ s → (e ∈ es' ↔ e ∈ es)) :
    view c es' k s = view c es k s := by
  unfold view
  rw [newestVisible_congr hes h]

theorem visibleEntries_eq_of_bound {c : Cmp} {es : List Entry} {k : Bytes} {q q' : Nat}
    (hq : q' ≤ q) (hb : ∀ x ∈ es, x.ukey = k → x.seq ≤ q → x.seq ≤ q') :
    visibleEntries c es k q = visibleEntries c es k q' := by
  unfold visibleEntries
  apply List.filter_congr
  intro x hx
  cases hk : c.compare x.ukey k == .eq with
  | false => rfl
  | true =>
    have := hb x hx ((CmpBasic.compare_eq_iff c _ _).mp (eq_of_beq hk))
    rw [Bool.true_and, Bool.true_and, decide_eq_decide]
    exact ⟨this, fun h => Nat.le_trans h hq⟩

theorem view_seq_mono {c : Cmp} {es : List Entry} {k : Bytes} {n q : Nat}
    (hb : ∀ x ∈ es, x.seq ≤ n) (hq : n ≤ q) : view c es k q = view c es k n := by
  unfold view newestVisible
  rw [visibleEntries_eq_of_bound hq (fun x hx _ _ => hb x hx)]

/-- `es'` is `es` with the single entry `e` added at some position -/
structure Inserted (e : Entry) (es es' : List Entry) : Prop where
  mem : e ∈ es'
  sub : ∀ x ∈ es', x = e ∨ x ∈ es
  filt : ∀ p : Entry → Bool, p e = false → es'.filter p = es.filter p

theorem inserted_append (e : Entry) (H : List Entry) : Inserted e H (H ++ [e]) where
  mem := by simp
  sub := fun x hx => by simpa [or_comm] using hx
  filt := by
    intro p hp
    simp [List.filter_append, hp]

theorem Inserted.bound {e : Entry} {es es' : List Entry} {n : Nat} (hI : Inserted e es es')
    (hb : ∀ x ∈ es, x.seq ≤ n) (he : e.seq ≤ n + 1) : ∀ x ∈ es', x.seq ≤ n + 1 :=
  fun x hx => (hI.sub x hx).elim (fun h => h ▸ he) (fun h => Nat.le_succ_of_le (hb x h))

def entryAnswer (e : Entry) : Option String := if e.kind == 1 then some e.val else none

theorem view_inserted {c : Cmp} {e : Entry} {es es' : List Entry} {n : Nat}
    (hI : Inserted e es es') (hb : ∀ x ∈ es, x.seq ≤ n) (he : e.seq = n + 1) (k : Bytes) :
    view c es' k (n + 1) =
      if c.compare e.ukey k = .eq then entryAnswer e else view c es k n := by
  split
  · rename_i hk
    have hk' := (CmpBasic.compare_eq_iff c _ _).mp hk
    have : newestVisible c es' k (n + 1) = some e := by
      apply newestVisible_eq_some_of_strict hI.mem hk' (by omega)
      intro x hx _ _
      rcases hI.sub x hx with h | h
      · exact .inl h
      · have := hb x h; exact .inr (by omega)
    unfold view entryAnswer
    rw [this]
  · rename_i hk
    have : visibleEntries c es' k (n + 1) = visibleEntries c es k (n + 1) := hI.filt _ (by rw [beq_false_of_ne hk]; rfl)
    rw [← view_seq_mono hb (Nat.le_succ n)]
    unfold view newestVisible
    rw [this]

end Lcdb
