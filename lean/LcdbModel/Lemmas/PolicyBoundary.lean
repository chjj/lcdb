/-
  get_range / find_largest_key / find_smallest_boundary_file / add_boundary_inputs
  (version_set.c:1801-1953): termination of the `while (search)` loop with the stated fuel, and the closure it
  establishes.
-/
import LcdbModel.Lemmas.PolicyDefs
namespace Lcdb.Policy
open Lcdb.CmpBasic Lcdb.Lsm

/-- A fold that keeps the extreme key returns the key of a member that none exceeds: `find_largest_key` with `ikl`, the smallest
    key of `get_range` with the flipped order.  `ht` is transitivity of "not below". -/
theorem extFold_spec {lt : IKey → IKey → Bool} (hr : ∀ a, lt a a = false)
    (ht : ∀ {a b d}, lt b a = false → lt d b = false → lt d a = false)
    (ha : ∀ {a b}, lt a b = true → lt b a = false) (key : FileMeta → IKey) (f : FileMeta) (fs : List FileMeta) (m : IKey)
    (hm : fs.foldl (fun a g => if lt a (key g) then key g else a) (key f) = m) :
    (∃ g ∈ f :: fs, key g = m) ∧ ∀ g ∈ f :: fs, lt m (key g) = false := by
  induction fs generalizing f with
  | nil => cases hm; exact ⟨⟨f, List.mem_cons_self, rfl⟩, fun g hg => by rw [List.mem_singleton.mp hg]; exact hr _⟩
  | cons x fs ih =>
    rw [List.foldl_cons] at hm
    by_cases hc : lt (key f) (key x) = true
    · rw [if_pos hc] at hm
      obtain ⟨⟨g, hg, h⟩, h2⟩ := ih x hm
      exact ⟨⟨g, List.mem_cons_of_mem _ hg, h⟩, List.forall_mem_cons.mpr ⟨ht (ha hc) (h2 x List.mem_cons_self), h2⟩⟩
    · rw [if_neg hc] at hm
      obtain ⟨⟨g, hg, h⟩, h2⟩ := ih f hm
      obtain ⟨h2f, h2fs⟩ := List.forall_mem_cons.mp h2
      refine ⟨⟨g, ?_, h⟩, List.forall_mem_cons.mpr ⟨h2f, List.forall_mem_cons.mpr ⟨ht (Bool.eq_false_iff.mpr hc) h2f, h2fs⟩⟩⟩
      rcases List.mem_cons.mp hg with rfl | hg
      · exact List.mem_cons_self
      · exact List.mem_cons_of_mem _ (List.mem_cons_of_mem _ hg)

def IsMaxLargest (c : Cmp) (fs : List FileMeta) (l : IKey) : Prop :=
  (∃ f ∈ fs, largest f = l) ∧ ∀ f ∈ fs, ikl c l (largest f) = false

theorem IsMaxLargest.unique {c : Cmp} {fs : List FileMeta} {l l' : IKey} (h : IsMaxLargest c fs l)
    (h' : IsMaxLargest c fs l') : l = l' := by
  obtain ⟨⟨f, hf, rfl⟩, hu⟩ := h
  obtain ⟨⟨f', hf', rfl⟩, hu'⟩ := h'
  exact ikle_antisymm (hu f' hf') (hu' f hf)

theorem findLargestKey_isMax {c : Cmp} {fs : List FileMeta} {l : IKey} (h : findLargestKey c fs = some l) :
    IsMaxLargest c fs l := by
  cases fs with
  | nil => cases h
  | cons f fs =>
    exact extFold_spec (lt := ikl c) (fun a => ikLt_irrefl c a.1 a.2) ikle_trans
      (fun h => ikLt_asymm c h) largest f fs l (Option.some.inj h)

theorem findLargestKey_eq_none {c : Cmp} {fs : List FileMeta} : findLargestKey c fs = none ↔ fs = [] := by
  cases fs <;> simp [findLargestKey]

theorem getRange_eq_none {c : Cmp} {fs : List FileMeta} : getRange c fs = none ↔ fs = [] := by
  cases fs <;> simp [getRange]

theorem getRange_some_of_ne {c : Cmp} {fs : List FileMeta} (h : fs ≠ []) : ∃ r, getRange c fs = some r :=
  Option.ne_none_iff_exists'.mp (mt getRange_eq_none.mp h)

theorem getRange_spec {c : Cmp} {fs : List FileMeta} {r : IKey × IKey} (h : getRange c fs = some r) :
    (∀ f ∈ fs, ikl c (smallest f) r.1 = false) ∧ IsMaxLargest c fs r.2 := by
  cases fs with
  | nil => cases h
  | cons f fs =>
    simp only [getRange, Option.some.injEq] at h
    subst h
    exact ⟨(extFold_spec (lt := fun a b => ikl c b a) (fun a => ikLt_irrefl c a.1 a.2) (fun h1 h2 => ikle_trans h2 h1)
      (fun h => ikLt_asymm c h) smallest f fs _ rfl).2, findLargestKey_isMax (fs := f :: fs) rfl⟩

theorem getRange_largest_eq {c : Cmp} {fs : List FileMeta} {r : IKey × IKey} (h : getRange c fs = some r) :
    findLargestKey c fs = some r.2 := by
  cases fs with
  | nil => cases h
  | cons f fs => cases h; rfl

/-- the test of find_smallest_boundary_file (version_set.c:1887): `f` starts after the largest key `l`, on `l`'s
    user key -/
def isCand (c : Cmp) (l : IKey) (f : FileMeta) : Bool :=
  ikl c l (smallest f) && (c.compare f.sk l.1 == .eq)

theorem isCand_iff {c : Cmp} {l : IKey} {f : FileMeta} :
    isCand c l f = true ↔ ikl c l (smallest f) = true ∧ f.sk = l.1 := by
  rw [isCand, Bool.and_eq_true, beq_iff_eq, compare_eq_iff]

theorem boundaryStep_eq (c : Cmp) (l : IKey) (res : Option FileMeta) (f : FileMeta) :
    boundaryStep c l res f =
      if isCand c l f then
        (match res with
         | none => some f
         | some r => if ikl c (smallest f) (smallest r) then some f else some r)
      else res := by
  unfold boundaryStep isCand
  cases h1 : ikl c l (smallest f) <;> cases h2 : (c.compare f.sk l.1 == .eq) <;> simp <;> (cases res <;> rfl)

/-- what the scan of `find_smallest_boundary_file` holds after the files `seen`: a candidate none of them undercuts, if there is one -/
def Best (c : Cmp) (l : IKey) (seen : List FileMeta) : Option FileMeta → Prop
  | none => ∀ f ∈ seen, isCand c l f = false
  | some r => r ∈ seen ∧ isCand c l r = true ∧
      ∀ f ∈ seen, isCand c l f = true → ikl c (smallest f) (smallest r) = false

theorem Best.step {c : Cmp} {l : IKey} {seen : List FileMeta} {o : Option FileMeta} (h : Best c l seen o)
    (f : FileMeta) : Best c l (f :: seen) (boundaryStep c l o f) := by
  rw [boundaryStep_eq]
  cases hc : isCand c l f with
  | false =>
    rw [if_neg (by simp)]
    cases o with
    | none => exact List.forall_mem_cons.mpr ⟨hc, h⟩
    | some r =>
      exact ⟨List.mem_cons_of_mem _ h.1, h.2.1, List.forall_mem_cons.mpr ⟨fun hfc => (by rw [hc] at hfc; cases hfc), h.2.2⟩⟩
  | true =>
    rw [if_pos rfl]
    cases o with
    | none =>
      exact ⟨List.mem_cons_self, hc,
        List.forall_mem_cons.mpr ⟨fun _ => ikLt_irrefl c _ _, fun g hg hgc => by rw [h g hg] at hgc; cases hgc⟩⟩
    | some r =>
      dsimp only
      by_cases hlt : ikl c (smallest f) (smallest r) = true
      · rw [if_pos hlt]
        exact ⟨List.mem_cons_self, hc, List.forall_mem_cons.mpr
          ⟨fun _ => ikLt_irrefl c _ _, fun g hg hgc => ikle_trans (ikLt_asymm c hlt) (h.2.2 g hg hgc)⟩⟩
      · rw [if_neg hlt]
        exact ⟨List.mem_cons_of_mem _ h.1, h.2.1, List.forall_mem_cons.mpr ⟨fun _ => Bool.eq_false_iff.mpr hlt, h.2.2⟩⟩

/-- Stated for `files.reverse`, so that the induction adds the file the fold visits last; the users read members only. -/
theorem findSmallestBoundaryFile_best (c : Cmp) (files : List FileMeta) (l : IKey) :
    Best c l files.reverse (findSmallestBoundaryFile c files l) := by
  rw [findSmallestBoundaryFile, List.foldl_eq_foldr_reverse]
  induction files.reverse with
  | nil => exact fun f hf => nomatch hf
  | cons f fs ih => exact ih.step f

theorem findSmallestBoundaryFile_none {c : Cmp} {files : List FileMeta} {l : IKey}
    (h : findSmallestBoundaryFile c files l = none) : ∀ f ∈ files, isCand c l f = false := by
  have := findSmallestBoundaryFile_best c files l
  rw [h] at this
  exact fun f hf => this f (List.mem_reverse.mpr hf)

theorem findSmallestBoundaryFile_some {c : Cmp} {files : List FileMeta} {l : IKey} {r : FileMeta}
    (h : findSmallestBoundaryFile c files l = some r) :
    r ∈ files ∧ isCand c l r = true ∧ ∀ f ∈ files, isCand c l f = true → ikl c (smallest f) (smallest r) = false := by
  have := findSmallestBoundaryFile_best c files l
  rw [h] at this
  exact ⟨List.mem_reverse.mp this.1, this.2.1, fun f hf => this.2.2 f (List.mem_reverse.mpr hf)⟩

theorem cand_largest_gt {c : Cmp} {lf : List FileMeta} (hb : BoundsOk c lf) {l : IKey} {f : FileMeta}
    (hf : f ∈ lf) (hc : isCand c l f = true) : ikl c l (largest f) = true :=
  ikLt_of_lt_of_not_lt c (isCand_iff.mp hc).1 (hb f hf)

/-- add_boundary_inputs, as a rule with an invariant `P`.  The fuel `levelFiles.length + 1` suffices because the
    number of level files whose largest key is after the search key strictly decreases. -/
theorem addBoundaryInputs_rule {c : Cmp} {lf inputs : List FileMeta} (hb : BoundsOk c lf)
    (P : List FileMeta → Prop) (h0 : P inputs)
    (hstep : ∀ l acc b, P acc → IsMaxLargest c acc l → b ∈ lf → isCand c l b = true →
      (∀ f ∈ lf, isCand c l f = true → ikl c (smallest f) (smallest b) = false) → P (acc ++ [b])) :
    ∃ r, addBoundaryInputs c lf inputs = some r ∧ P r ∧
      ∀ l, findLargestKey c r = some l → ∀ g ∈ lf, isCand c l g = false := by
  have loop : ∀ fuel l acc, P acc → IsMaxLargest c acc l → lf.countP (fun g => ikl c l (largest g)) < fuel →
      ∃ r l', addBoundaryLoop c lf fuel l acc = some r ∧ P r ∧ IsMaxLargest c r l' ∧
        ∀ g ∈ lf, isCand c l' g = false := by
    intro fuel
    induction fuel with
    | zero => exact fun _ _ _ _ hf => absurd hf (Nat.not_lt_zero _)
    | succ n ih =>
      intro l acc hP hmax hf
      simp only [addBoundaryLoop]
      cases hk : findSmallestBoundaryFile c lf l with
      | none => exact ⟨acc, l, rfl, hP, hmax, findSmallestBoundaryFile_none hk⟩
      | some b =>
        obtain ⟨hbm, hbc, hmin⟩ := findSmallestBoundaryFile_some hk
        have hlt : ikl c l (largest b) = true := cand_largest_gt hb hbm hbc
        have hmax' : IsMaxLargest c (acc ++ [b]) (largest b) :=
          ⟨⟨b, List.mem_append_right _ List.mem_cons_self, rfl⟩, List.forall_mem_append.mpr
            ⟨fun f hf => ikle_trans (hmax.2 f hf) (ikLt_asymm c hlt), List.forall_mem_singleton.mpr (ikLt_irrefl c _ _)⟩⟩
        exact ih _ _ (hstep l acc b hP hmax hbm hbc hmin) hmax'
          (Nat.lt_of_lt_of_le (countP_lt_of_imp (fun g => ikl c l (largest g))
            (fun g => ikl c (largest b) (largest g)) lf (fun g _ hg => ikLt_trans c hlt hg) hbm hlt (ikLt_irrefl c _ _))
            (Nat.le_of_lt_succ hf))
  unfold addBoundaryInputs
  cases hk : findLargestKey c inputs with
  | none => exact ⟨inputs, rfl, h0, fun l hl => by rw [hk] at hl; cases hl⟩
  | some l =>
    obtain ⟨r, l', hr, hP, hmax, hnone⟩ :=
      loop _ l inputs h0 (findLargestKey_isMax hk) (Nat.lt_succ_of_le List.countP_le_length)
    exact ⟨r, hr, hP, fun l'' hl'' => by rw [(findLargestKey_isMax hl'').unique hmax]; exact hnone⟩

theorem addBoundaryInputs_total {c : Cmp} {lf : List FileMeta} (inputs : List FileMeta) (hb : BoundsOk c lf) :
    ∃ r, addBoundaryInputs c lf inputs = some r :=
  (addBoundaryInputs_rule hb (fun _ => True) trivial (fun _ _ _ _ _ _ _ _ => trivial)).imp fun _ h => h.1

theorem addBoundaryInputs_closed {c : Cmp} {lf inputs r : List FileMeta} (hb : BoundsOk c lf)
    (h : addBoundaryInputs c lf inputs = some r) :
    ∃ added, r = inputs ++ added ∧ (∀ f ∈ added, f ∈ lf) ∧
      (inputs = [] → added = []) ∧
      ∀ l', findLargestKey c r = some l' → ∀ g ∈ lf, isCand c l' g = false := by
  obtain ⟨r', hr', ⟨added, hadd, hmem, hnil⟩, hcl⟩ := addBoundaryInputs_rule hb
    (fun acc => ∃ added, acc = inputs ++ added ∧ (∀ f ∈ added, f ∈ lf) ∧ (inputs = [] → added = []))
    ⟨[], (List.append_nil _).symm, fun _ hf => absurd hf List.not_mem_nil, fun _ => rfl⟩
    (by
      -- a round is only entered with inputs so far that have a largest key, so the given inputs were not empty
      rintro l _ b ⟨added, rfl, hmem, hnil⟩ ⟨⟨f, hf, _⟩, _⟩ hbm _ _
      refine ⟨added ++ [b], (List.append_assoc ..), List.forall_mem_append.mpr ⟨hmem, List.forall_mem_singleton.mpr hbm⟩,
        fun he => ?_⟩
      rw [he, hnil he] at hf
      cases hf)
  cases h.symm.trans hr'
  exact ⟨added, hadd, hmem, hnil, hcl⟩

end Lcdb.Policy
