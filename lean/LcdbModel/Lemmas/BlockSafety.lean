/-
  The block iterator on ARBITRARY bytes.  No sequence of iterator operations ever returns `none`
  (fault: out-of-bounds read, violated assert, or fuel exhaustion), a corrupt status stays, and the
  iterator moves monotonically: a valid iterator's entry ends strictly after it starts
  (`BlockIter.Mono`), `next` moves `current` strictly forward, `prev` strictly backward (these
  bound the skip loops of the two-level iterator, Lemmas/TwoIter).  parse_next_key is described
  once (`BlockIter.Parsed`); everything else, here and in Lemmas/BlockIter.lean, reads that.
-/
import LcdbModel.Lemmas.IterOps
import LcdbModel.Lemmas.BlockWf
import LcdbModel.Props.CodingProps
namespace Lcdb

/-- static bounds: the restart array and the count lie inside the buffer -/
def BlockIter.Base (it : BlockIter) : Prop :=
  it.restarts + 4 * it.numRestarts + 4 ≤ it.data.length ∧ 0 < it.numRestarts

def BlockIter.Inv (c : BlockCmp) (it : BlockIter) : Prop :=
  it.Base ∧
  (it.valid = true → it.restartIndex < it.numRestarts ∧ it.value.isSome ∧ (c.internal = true → 8 ≤ it.key.length)) ∧
  (∀ o n, it.value = some (o, n) → o + n ≤ it.restarts)

def TIter.Inv (c : BlockCmp) : TIter → Prop
  | .empty _ => True
  | .block it => it.Inv c

def BlockIter.Mono (it : BlockIter) : Prop :=
  it.valid = true → ∃ e, it.nextEntryOffset = some e ∧ it.current < e

theorem BlockIter.mono_of_invalid {it : BlockIter} (h : it.valid = false) : it.Mono := by
  intro hv; rw [h] at hv; cases hv

def BlockIter.Same (a b : BlockIter) : Prop :=
  b.data = a.data ∧ b.restarts = a.restarts ∧ b.numRestarts = a.numRestarts ∧
  (a.status = .corrupt → b.status = .corrupt)

theorem BlockIter.Same.refl (a : BlockIter) : a.Same a := ⟨rfl, rfl, rfl, id⟩

theorem BlockIter.Same.trans {a b d : BlockIter} (h1 : a.Same b) (h2 : b.Same d) : a.Same d := by
  obtain ⟨a1, a2, a3, a4⟩ := h1
  obtain ⟨b1, b2, b3, b4⟩ := h2
  exact ⟨b1.trans a1, b2.trans a2, b3.trans a3, fun h => b4 (a4 h)⟩

theorem BlockIter.Same.base {a b : BlockIter} (h : a.Same b) (hb : a.Base) : b.Base := by
  obtain ⟨a1, a2, a3, _⟩ := h
  unfold BlockIter.Base at *
  rw [a1, a2, a3]; exact hb

theorem BlockIter.valid_markInvalid (it : BlockIter) : it.markInvalid.valid = false :=
  decide_eq_false (Nat.lt_irrefl _)

theorem BlockIter.valid_corruption (it : BlockIter) : it.corruption.valid = false :=
  decide_eq_false (Nat.lt_irrefl _)

theorem BlockIter.inv_of_invalid (c : BlockCmp) {it : BlockIter} (hb : it.Base) (hv : it.valid = false)
    (hval : ∀ o n, it.value = some (o, n) → o + n ≤ it.restarts) : it.Inv c :=
  ⟨hb, fun h => (Bool.false_ne_true (hv.symm.trans h)).elim, hval⟩

theorem BlockIter.corruption_ok (c : BlockCmp) (it : BlockIter) (hb : it.Base) :
    it.Same it.corruption ∧ it.corruption.Inv c ∧ it.corruption.valid = false :=
  ⟨⟨rfl, rfl, rfl, fun _ => rfl⟩, BlockIter.inv_of_invalid c hb it.valid_corruption nofun,
    it.valid_corruption⟩

theorem BlockIter.markInvalid_ok (c : BlockCmp) (it : BlockIter) (hb : it.Base)
    (hval : ∀ o n, it.value = some (o, n) → o + n ≤ it.restarts) :
    it.Same it.markInvalid ∧ it.markInvalid.Inv c :=
  ⟨⟨rfl, rfl, rfl, id⟩, BlockIter.inv_of_invalid c hb it.valid_markInvalid hval⟩

/-- precondition of parse_next_key; `e` is the end of the value slice, where the next entry starts -/
def BlockIter.Pre (it : BlockIter) (e : Nat) : Prop :=
  it.Base ∧ it.restartIndex < it.numRestarts ∧ it.nextEntryOffset = some e ∧ e ≤ it.restarts

theorem BlockIter.pre_of_inv {c : BlockCmp} {it : BlockIter} (h : it.Inv c) (hv : it.valid = true) :
    ∃ e, it.Pre e := by
  obtain ⟨hb, h2, h3⟩ := h
  obtain ⟨hri, hs, _⟩ := h2 hv
  cases hval : it.value with
  | none => rw [hval] at hs; cases hs
  | some v =>
    obtain ⟨o, n⟩ := v
    exact ⟨o + n, hb, hri, by simp [BlockIter.nextEntryOffset, hval], h3 o n hval⟩

theorem BlockIter.getRestartPoint_eq (it : BlockIter) (hb : it.Base) {idx : Nat}
    (h : idx < it.numRestarts) :
    it.getRestartPoint idx = some (min (restartAt it.data it.restarts idx) it.restarts) := by
  have h1 := hb.1
  have h2 : ¬ it.data.length < it.restarts + idx * 4 + 4 := by omega
  simp only [BlockIter.getRestartPoint, readFixed32At, if_pos h, if_neg h2, restartAt]
  congr 1
  split <;> omega

theorem BlockCmp.compare_eq (c : BlockCmp) {x y : Bytes} (hx : c.internal = true → 8 ≤ x.length)
    (hy : c.internal = true → 8 ≤ y.length) : c.compare x y = some (c.cmp x y) := by
  unfold BlockCmp.compare
  cases hc : c.internal with
  | false => rfl
  | true =>
    have h1 := hx hc
    have h2 := hy hc
    rw [if_neg (by simp only [Bool.true_and, Bool.or_eq_true, decide_eq_true_eq]; omega)]

/-- Each varint read consumes at least one byte, so the header takes at least three; the last test
    of either path of decode_entry is that key delta and value fit into what remains. -/
theorem decodeEntryWin_ok (hdr : Bytes) (xn : Nat) (hl : hdr.length ≤ xn) (s ns vl h : Nat)
    (hd : decodeEntryWin hdr xn = some (s, ns, vl, h)) : 3 ≤ h ∧ h + ns + vl ≤ xn := by
  unfold decodeEntryWin at hd
  split at hd
  · rename_i b0 b1 b2 tl
    simp only [List.length_cons] at hl
    split at hd
    · split at hd
      · cases hd
      · simp only [Option.some.injEq, Prod.mk.injEq] at hd
        omega
    · split at hd
      · cases hd
      · rename_i s' r1 e1
        split at hd
        · cases hd
        · rename_i ns' r2 e2
          split at hd
          · cases hd
          · rename_i vl' r3 e3
            have l1 := varint32Read_rest_lt _ _ _ e1
            have l2 := varint32Read_rest_lt _ _ _ e2
            have l3 := varint32Read_rest_lt _ _ _ e3
            simp only [List.length_cons] at l1
            simp only [List.length_cons] at hd
            split at hd
            · cases hd
            · simp only [Option.some.injEq, Prod.mk.injEq] at hd
              omega
  · cases hd

theorem decodeEntry_not_fault (data : Bytes) (p limit : Nat) (hl : limit ≤ data.length) :
    decodeEntry data p limit ≠ .fault := by
  unfold decodeEntry
  have : ¬ data.length < limit := by omega
  simp only [if_neg this]
  split
  · intro h; cases h
  · split
    · intro h; cases h
    · split <;> (intro h; cases h)

theorem decodeEntry_ok (data : Bytes) (p limit : Nat)
    (s ns vl kp : Nat) (hd : decodeEntry data p limit = .ok s ns vl kp) :
    p + 3 ≤ kp ∧ kp + ns + vl ≤ limit := by
  unfold decodeEntry at hd
  by_cases h1 : limit < p
  · rw [if_pos h1] at hd; cases hd
  by_cases h2 : limit - p < 3
  · rw [if_neg h1, if_pos h2] at hd; cases hd
  by_cases h3 : data.length < limit
  · rw [if_neg h1, if_neg h2, if_pos h3] at hd; cases hd
  rw [if_neg h1, if_neg h2, if_neg h3] at hd
  cases e : decodeEntryWin ((data.drop p).take (min (limit - p) 15)) (limit - p) with
  | none => rw [e] at hd; cases hd
  | some q =>
    obtain ⟨s', ns', vl', h'⟩ := q
    rw [e] at hd
    cases hd
    have := decodeEntryWin_ok _ _ (by simp only [List.length_take, List.length_drop]; omega)
      _ _ _ _ e
    omega

theorem BlockIter.bumpRestart_inv (it : BlockIter) (r : Nat → Nat)
    (hget : ∀ j, j < it.numRestarts → it.getRestartPoint j = some (r j)) :
    ∀ fuel ri, 1 ≤ fuel → it.numRestarts ≤ fuel + ri →
      ∃ ri', it.bumpRestart fuel ri = some ri' ∧ (ri < it.numRestarts → ri' < it.numRestarts) ∧
        (ri' = ri ∨ r ri' < it.current) ∧
        (ri' + 1 < it.numRestarts → it.current ≤ r (ri' + 1)) := by
  intro fuel
  induction fuel with
  | zero => intro ri h; omega
  | succ fuel ih =>
    intro ri _ hn
    rw [BlockIter.bumpRestart]
    by_cases h1 : ri + 1 < it.numRestarts
    · rw [if_pos h1, hget _ h1]
      dsimp only
      by_cases h2 : r (ri + 1) < it.current
      · obtain ⟨ri', he, hlt, hor, hup⟩ := ih (ri + 1) (by omega) (by omega)
        rw [if_pos h2]
        exact ⟨ri', he, fun _ => hlt h1, .inr (hor.elim (fun h => h ▸ h2) id), hup⟩
      · rw [if_neg h2]
        exact ⟨ri, rfl, id, .inl rfl, fun _ => Nat.le_of_not_lt h2⟩
    · rw [if_neg h1]
      exact ⟨ri, rfl, id, .inl rfl, fun h => absurd h h1⟩

/-- What parse_next_key does at offset `e`, where the previous value ends; `ri` is where the
    loop over the restart array leaves the restart index. -/
inductive BlockIter.Parsed (c : BlockCmp) (it : BlockIter) (e : Nat) : Bool → BlockIter → Prop
  | done : it.restarts ≤ e → Parsed c it e false it.markInvalid
  | bad : e < it.restarts →
      (∀ sh ns vl kp, decodeEntry it.data e it.restarts = .ok sh ns vl kp →
        it.key.length < sh ∨ (c.internal = true ∧ sh + ns < 8)) →
      Parsed c it e false it.corruption
  | entry {sh ns vl kp ri : Nat} : e < it.restarts →
      decodeEntry it.data e it.restarts = .ok sh ns vl kp → sh ≤ it.key.length →
      (c.internal = true → 8 ≤ sh + ns) → ri < it.numRestarts →
      (ri = it.restartIndex ∨ restartAt it.data it.restarts ri < e) →
      (ri + 1 < it.numRestarts → e ≤ restartAt it.data it.restarts (ri + 1)) →
      Parsed c it e true { it with current := e, key := it.key.take sh ++ sliceAt it.data kp ns,
                                   value := some (kp + ns, vl), restartIndex := ri }

theorem BlockIter.parseNextKey_spec (c : BlockCmp) (it : BlockIter) {e : Nat} (hp : it.Pre e) :
    ∃ b it', it.parseNextKey c = some (b, it') ∧ it.Parsed c e b it' := by
  obtain ⟨hb, hri, hneo, hle⟩ := hp
  have hlim : it.restarts ≤ it.data.length := by have := hb.1; omega
  unfold BlockIter.parseNextKey
  rw [hneo]
  dsimp only
  by_cases hcur : e ≥ it.restarts
  · rw [if_pos hcur]; exact ⟨_, _, rfl, .done hcur⟩
  have hlt := Nat.lt_of_not_le hcur
  rw [if_neg hcur]
  cases hd : decodeEntry it.data e it.restarts with
  | fault => exact absurd hd (decodeEntry_not_fault _ _ _ hlim)
  | bad => exact ⟨_, _, rfl, .bad hlt fun _ _ _ _ h => nomatch hd.symm.trans h⟩
  | ok sh ns vl kp =>
    dsimp only
    by_cases hsh : it.key.length < sh
    · rw [if_pos hsh]
      exact ⟨_, _, rfl, .bad hlt fun _ _ _ _ h => by cases hd.symm.trans h; exact .inl hsh⟩
    by_cases hint : (c.internal && decide (sh + ns < 8)) = true
    · rw [if_neg hsh, if_pos hint]
      rw [Bool.and_eq_true, decide_eq_true_eq] at hint
      exact ⟨_, _, rfl, .bad hlt fun _ _ _ _ h => by cases hd.symm.trans h; exact .inr hint⟩
    rw [if_neg hsh, if_neg hint]
    -- below `restarts` the clamp of get_restart_point does not show
    obtain ⟨ri, hbump, hltn, hor, hup⟩ := BlockIter.bumpRestart_inv
      { it with current := e, key := it.key.take sh ++ (it.data.drop kp).take ns,
                value := some (kp + ns, vl) } _
      (fun _ hj => BlockIter.getRestartPoint_eq _ hb hj) (it.numRestarts + 1) it.restartIndex
      (Nat.succ_pos _) (by dsimp only; omega)
    dsimp only at hbump hltn hor hup
    rw [hbump]
    refine ⟨_, _, rfl, .entry hlt hd (Nat.le_of_not_lt hsh) (fun hc => ?_)
      (hltn hri) (hor.imp_right fun h => by omega) (fun h => by have := hup h; omega)⟩
    rw [hc, Bool.true_and, decide_eq_true_eq] at hint
    omega

theorem BlockIter.Parsed.ok {c : BlockCmp} {it it' : BlockIter} {e : Nat} {b : Bool}
    (hp : it.Pre e) (h : it.Parsed c e b it') :
    it.Same it' ∧ it'.Inv c ∧ it'.Mono ∧ it'.valid = b ∧
      (b = true → it'.current = e ∧ ∃ e', it'.Pre e' ∧ e < e') := by
  obtain ⟨hb, hri, hneo, hle⟩ := hp
  cases h with
  | done _ =>
    have hval : ∀ o n, it.value = some (o, n) → o + n ≤ it.restarts := by
      intro o n hv
      simp only [BlockIter.nextEntryOffset, hv, Option.map_some, Option.some.injEq] at hneo
      omega
    exact ⟨(it.markInvalid_ok c hb hval).1, (it.markInvalid_ok c hb hval).2,
      BlockIter.mono_of_invalid it.valid_markInvalid, it.valid_markInvalid, nofun⟩
  | bad _ _ =>
    exact ⟨(it.corruption_ok c hb).1, (it.corruption_ok c hb).2.1,
      BlockIter.mono_of_invalid it.valid_corruption, it.valid_corruption, nofun⟩
  | @entry sh ns vl kp ri hlt hd hsh hint hri' _ _ =>
    obtain ⟨hkp, hend⟩ := decodeEntry_ok _ _ _ _ _ _ _ hd
    have hlen := hb.1
    refine ⟨⟨rfl, rfl, rfl, id⟩, ⟨hb, fun _ => ⟨hri', rfl, fun hc => ?_⟩, ?_⟩,
      fun _ => ⟨_, rfl, by show e < kp + ns + vl; omega⟩, decide_eq_true hlt,
      fun _ => ⟨rfl, kp + ns + vl, ⟨hb, hri', rfl, by show kp + ns + vl ≤ it.restarts; omega⟩,
        by omega⟩⟩
    · have := hint hc
      simp only [List.length_append, List.length_take, sliceAt, List.length_drop]
      omega
    · intro o n hv
      simp only [Option.some.injEq, Prod.mk.injEq] at hv
      show o + n ≤ it.restarts
      omega

theorem BlockIter.parseNextKey_ok (c : BlockCmp) (it : BlockIter) (e : Nat) (h : it.Pre e) :
    ∃ b it', it.parseNextKey c = some (b, it') ∧ it.Same it' ∧ it'.Inv c ∧ it'.Mono ∧
      it'.valid = b ∧ (b = true → it'.current = e ∧ ∃ e', it'.Pre e' ∧ e < e') := by
  obtain ⟨b, it', h1, h2⟩ := it.parseNextKey_spec c h
  exact ⟨b, it', h1, h2.ok h⟩

theorem BlockIter.seekToRestartPoint_ok (it : BlockIter) (hb : it.Base) (idx : Nat)
    (h : idx < it.numRestarts) :
    ∃ it1, it.seekToRestartPoint idx = some it1 ∧ it.Same it1 ∧
      it1.Pre (min (restartAt it.data it.restarts idx) it.restarts) := by
  have hle := Nat.min_le_right (restartAt it.data it.restarts idx) it.restarts
  rw [BlockIter.seekToRestartPoint, it.getRestartPoint_eq hb h]
  generalize min (restartAt it.data it.restarts idx) it.restarts = off at hle ⊢
  exact ⟨_, rfl, ⟨rfl, rfl, rfl, id⟩, hb, h, rfl, hle⟩

/-- the common shape of the forward loops of `prev`/`last` (`skipUntil`) and of `seek`
    (`seekLinear`); `cont = none` is a fault -/
def BlockIter.scan (c : BlockCmp) (cont : BlockIter → Option Bool) : Nat → BlockIter → Option BlockIter
  | 0, _ => none
  | fuel + 1, it =>
    match it.parseNextKey c with
    | none => none
    | some (false, it') => some it'
    | some (true, it') =>
      match cont it' with
      | none => none
      | some true => BlockIter.scan c cont fuel it'
      | some false => some it'

theorem BlockIter.skipUntil_eq_scan (c : BlockCmp) (bound : Nat) : ∀ fuel (it : BlockIter),
    BlockIter.skipUntil c bound fuel it
      = BlockIter.scan c (fun it' => it'.nextEntryOffset.map (fun neo => decide (neo < bound))) fuel it := by
  intro fuel
  induction fuel with
  | zero => intro it; rfl
  | succ fuel ih =>
    intro it
    rw [BlockIter.skipUntil, BlockIter.scan]
    cases it.parseNextKey c with
    | none => rfl
    | some r =>
      obtain ⟨b, it'⟩ := r
      cases b with
      | false => rfl
      | true =>
        dsimp only
        cases it'.nextEntryOffset with
        | none => rfl
        | some neo =>
          dsimp only [Option.map_some]
          by_cases h : neo < bound
          · rw [if_pos h, decide_eq_true h]; exact ih it'
          · rw [if_neg h, decide_eq_false h]

theorem BlockIter.seekLinear_eq_scan (c : BlockCmp) (target : Bytes) : ∀ fuel (it : BlockIter),
    BlockIter.seekLinear c target fuel it
      = BlockIter.scan c (fun it' => (c.compare it'.key target).map (· == .lt)) fuel it := by
  intro fuel
  induction fuel with
  | zero => intro it; rfl
  | succ fuel ih =>
    intro it
    rw [BlockIter.seekLinear, BlockIter.scan]
    cases it.parseNextKey c with
    | none => rfl
    | some r =>
      obtain ⟨b, it'⟩ := r
      cases b with
      | false => rfl
      | true =>
        dsimp only
        cases c.compare it'.key target with
        | none => rfl
        | some o => cases o <;> first | exact ih it' | rfl

/-- `B` is a property of the offsets at which the loop goes on (`skipUntil`: below the bound) -/
theorem BlockIter.scan_ok (c : BlockCmp) (cont : BlockIter → Option Bool) (B : Nat → Prop)
    (hcont : ∀ it : BlockIter, it.Inv c → it.valid = true →
      ∃ b, cont it = some b ∧ (b = true → ∀ e, it.nextEntryOffset = some e → B e)) :
    ∀ fuel (it : BlockIter) e, it.Pre e → it.restarts < e + fuel →
      ∃ it', BlockIter.scan c cont fuel it = some it' ∧ it.Same it' ∧ it'.Inv c ∧ it'.Mono ∧
        (B e → it'.valid = true → B it'.current) := by
  intro fuel
  induction fuel with
  | zero => intro it e hp h; have := hp.2.2.2; omega
  | succ fuel ih =>
    intro it e hp hf
    obtain ⟨b, it', hpk, hs, hinv, hm, hv, hnext⟩ := it.parseNextKey_ok c e hp
    rw [BlockIter.scan, hpk]
    cases b with
    | false => exact ⟨it', rfl, hs, hinv, hm, fun _ h => nomatch hv.symm.trans h⟩
    | true =>
      obtain ⟨hcur, e', hp', hlt⟩ := hnext rfl
      obtain ⟨b', hb', hB'⟩ := hcont it' hinv hv
      dsimp only
      rw [hb']
      cases b' with
      | false => exact ⟨it', rfl, hs, hinv, hm, fun hB _ => hcur ▸ hB⟩
      | true =>
        have h1 := hs.2.1
        have h2 := hp'.2.2.2
        obtain ⟨it'', g1, g2, g3, g4, g5⟩ := ih it' e' hp' (by omega)
        exact ⟨it'', g1, hs.trans g2, g3, g4, fun _ => g5 (hB' rfl e' hp'.2.2.1)⟩

theorem BlockIter.skipUntil_ok (c : BlockCmp) (bound : Nat) (fuel : Nat) (it : BlockIter) (e : Nat)
    (hp : it.Pre e) (hf : it.restarts < e + fuel) :
    ∃ it', BlockIter.skipUntil c bound fuel it = some it' ∧ it.Same it' ∧ it'.Inv c ∧ it'.Mono ∧
      (e < bound → it'.valid = true → it'.current < bound) := by
  rw [BlockIter.skipUntil_eq_scan]
  refine BlockIter.scan_ok c _ (· < bound) (fun it' hinv hv => ?_) fuel it e hp hf
  obtain ⟨e', hp'⟩ := BlockIter.pre_of_inv hinv hv
  refine ⟨_, by rw [hp'.2.2.1]; rfl, fun h e'' he'' => ?_⟩
  cases hp'.2.2.1.symm.trans he''
  exact of_decide_eq_true h

theorem BlockIter.seekLinear_ok (c : BlockCmp) (target : Bytes)
    (ht : c.internal = true → 8 ≤ target.length) (fuel : Nat) (it : BlockIter) (e : Nat)
    (hp : it.Pre e) (hf : it.restarts < e + fuel) :
    ∃ it', BlockIter.seekLinear c target fuel it = some it' ∧ it.Same it' ∧ it'.Inv c ∧ it'.Mono := by
  rw [BlockIter.seekLinear_eq_scan]
  refine (BlockIter.scan_ok c _ (fun _ => True) (fun it' hinv hv => ?_) fuel it e hp hf).imp
    fun _ g => ⟨g.1, g.2.1, g.2.2.1, g.2.2.2.1⟩
  have ho := c.compare_eq (hinv.2.1 hv).2.2 ht
  exact ⟨_, by rw [ho]; rfl, fun _ _ _ => trivial⟩

theorem BlockIter.prevScan_inv (it : BlockIter) (r : Nat → Nat)
    (hget : ∀ j, j < it.numRestarts → it.getRestartPoint j = some (r j)) (orig : Nat) :
    ∀ fuel ri, ri + 1 ≤ fuel → ri < it.numRestarts →
      (it.prevScan orig fuel ri = some none ∧ orig ≤ r 0) ∨
      ∃ j, it.prevScan orig fuel ri = some (some j) ∧ j < it.numRestarts ∧ r j < orig := by
  intro fuel
  induction fuel with
  | zero => intro ri h; omega
  | succ fuel ih =>
    intro ri hf hri
    rw [BlockIter.prevScan, hget ri hri]
    dsimp only
    by_cases h1 : r ri ≥ orig
    · rw [if_pos h1]
      by_cases h0 : ri = 0
      · rw [if_pos h0]; exact .inl ⟨rfl, h0 ▸ h1⟩
      · rw [if_neg h0]; exact ih (ri - 1) (by omega) (by omega)
    · rw [if_neg h1]
      exact .inr ⟨ri, rfl, hri, Nat.lt_of_not_le h1⟩

/-- one probe of the binary search; `none` = fault, `some none` = corruption -/
def BlockIter.probe (c : BlockCmp) (target : Bytes) (it : BlockIter) (mid : Nat) :
    Option (Option Ordering) :=
  match it.getRestartPoint mid with
  | none => none
  | some ro =>
    match decodeEntry it.data ro it.restarts with
    | .fault => none
    | .bad => some none
    | .ok shared nonShared _ kp =>
      if shared ≠ 0 then some none
      else if c.internal && nonShared < 8 then some none
      else (c.compare ((it.data.drop kp).take nonShared) target).map some

theorem BlockIter.seekBin_succ (c : BlockCmp) (target : Bytes) (it : BlockIter)
    (fuel left right : Nat) :
    BlockIter.seekBin c target it (fuel + 1) left right =
      if left < right then
        match it.probe c target ((left + right + 1) / 2) with
        | none => none
        | some none => some none
        | some (some .lt) => BlockIter.seekBin c target it fuel ((left + right + 1) / 2) right
        | some (some _) => BlockIter.seekBin c target it fuel left ((left + right + 1) / 2 - 1)
      else some (some left) := by
  rw [BlockIter.seekBin, BlockIter.probe]
  by_cases hlr : left < right
  · rw [if_pos hlr, if_pos hlr]
    dsimp only
    cases it.getRestartPoint ((left + right + 1) / 2) with
    | none => rfl
    | some ro =>
      dsimp only
      cases decodeEntry it.data ro it.restarts with
      | fault => rfl
      | bad => rfl
      | ok sh ns vl kp =>
        dsimp only
        by_cases h1 : sh ≠ 0
        · rw [if_pos h1, if_pos h1]
        · rw [if_neg h1, if_neg h1]
          by_cases h2 : (c.internal && decide (ns < 8)) = true
          · rw [if_pos h2, if_pos h2]
          · rw [if_neg h2, if_neg h2]
            cases c.compare (List.take ns (List.drop kp it.data)) target with
            | none => rfl
            | some o => cases o <;> rfl
  · rw [if_neg hlr, if_neg hlr]

theorem BlockIter.seekBin_inv (c : BlockCmp) (target : Bytes) (it : BlockIter) (n : Nat)
    (P : Nat → Prop) (Q : Prop)
    (hprobe : ∀ mid, 0 < mid → mid < n →
      ∃ r, it.probe c target mid = some r ∧ (r = none → Q) ∧ (r = some .lt → P mid)) :
    ∀ fuel left right, 1 ≤ fuel → right < left + fuel → left < n → right < n → P left →
      (Q ∧ BlockIter.seekBin c target it fuel left right = some none) ∨
      ∃ l, BlockIter.seekBin c target it fuel left right = some (some l) ∧ l < n ∧ P l := by
  intro fuel
  induction fuel with
  | zero => intro l r h; omega
  | succ fuel ih =>
    intro left right _ hf hl hr hP
    rw [BlockIter.seekBin_succ]
    by_cases hlr : left < right
    · rw [if_pos hlr]
      have hm1 : left < (left + right + 1) / 2 := by omega
      have hm2 : (left + right + 1) / 2 ≤ right := by omega
      generalize (left + right + 1) / 2 = mid at hm1 hm2
      have hmn : mid < n := by omega
      have hf1 : 1 ≤ fuel := by omega
      have hfr : right < mid + fuel := by omega
      have hfl : mid - 1 < left + fuel := by omega
      obtain ⟨r, hr', hq, hp⟩ := hprobe mid (by omega) hmn
      rw [hr']
      match r, hq, hp with
      | none, hq, _ => exact .inl ⟨hq rfl, rfl⟩
      | some .lt, _, hp => exact ih mid right hf1 hfr hmn hr (hp rfl)
      | some .eq, _, _ => exact ih left (mid - 1) hf1 hfl hl (by omega) hP
      | some .gt, _, _ => exact ih left (mid - 1) hf1 hfl hl (by omega) hP
    · rw [if_neg hlr]; exact .inr ⟨left, rfl, hl, hP⟩

theorem BlockIter.probe_ok (c : BlockCmp) (target : Bytes) (it : BlockIter) (hb : it.Base)
    (ht : c.internal = true → 8 ≤ target.length) (mid : Nat) (h : mid < it.numRestarts) :
    ∃ r, it.probe c target mid = some r := by
  have hlim : it.restarts ≤ it.data.length := by have := hb.1; omega
  unfold BlockIter.probe
  rw [it.getRestartPoint_eq hb h]
  generalize min (restartAt it.data it.restarts mid) it.restarts = ro
  dsimp only
  cases hd : decodeEntry it.data ro it.restarts with
  | fault => exact absurd hd (decodeEntry_not_fault _ _ _ hlim)
  | bad => exact ⟨_, rfl⟩
  | ok sh ns vl kp =>
    obtain ⟨_, hend⟩ := decodeEntry_ok _ _ _ _ _ _ _ hd
    dsimp only
    split
    · exact ⟨_, rfl⟩
    · split
      · exact ⟨_, rfl⟩
      · rename_i hint
        have hk : c.internal = true → 8 ≤ ((it.data.drop kp).take ns).length := by
          intro hc
          simp only [hc, Bool.true_and, decide_eq_true_eq] at hint
          simp only [List.length_take, List.length_drop]
          omega
        exact ⟨_, by rw [c.compare_eq hk ht]; rfl⟩

theorem BlockIter.first_ok (c : BlockCmp) (it : BlockIter) (h : it.Inv c) :
    ∃ it', it.first c = some it' ∧ it.Same it' ∧ it'.Inv c ∧ it'.Mono := by
  obtain ⟨it1, h1, hs1, hp1⟩ := it.seekToRestartPoint_ok h.1 0 h.1.2
  obtain ⟨b, it', hpk, hs, hinv, hm, _⟩ := it1.parseNextKey_ok c _ hp1
  unfold BlockIter.first
  simp only [h1, hpk, Option.map_some]
  exact ⟨it', rfl, hs1.trans hs, hinv, hm⟩

theorem BlockIter.next_ok (c : BlockCmp) (it : BlockIter) (h : it.Inv c) (hv : it.valid = true) :
    ∃ it', it.next c = some it' ∧ it.Same it' ∧ it'.Inv c ∧ it'.Mono ∧
      (it.Mono → it'.valid = true → it.current < it'.current) := by
  obtain ⟨e, hp⟩ := BlockIter.pre_of_inv h hv
  obtain ⟨b, it', hpk, hs, hinv, hm, hb, hcur⟩ := it.parseNextKey_ok c e hp
  refine ⟨it', by rw [BlockIter.next, hpk]; rfl, hs, hinv, hm, fun hmono hv' => ?_⟩
  obtain ⟨e', he', hlt⟩ := hmono hv
  cases he'.symm.trans hp.2.2.1
  rw [(hcur (hb.symm.trans hv')).1]
  exact hlt

theorem BlockIter.last_ok (c : BlockCmp) (it : BlockIter) (h : it.Inv c) :
    ∃ it', it.last c = some it' ∧ it.Same it' ∧ it'.Inv c ∧ it'.Mono := by
  have hb := h.1
  obtain ⟨it1, h1, hs1, hp1⟩ := it.seekToRestartPoint_ok hb (it.numRestarts - 1)
    (by have := hb.2; omega)
  have hr := hs1.2.1
  obtain ⟨it', g1, g2, g3, g4, _⟩ := BlockIter.skipUntil_ok c it.restarts (it.restarts + 1) it1 _ hp1
    (by omega)
  unfold BlockIter.last
  simp only [h1]
  exact ⟨it', g1, hs1.trans g2, g3, g4⟩

theorem BlockIter.prev_ok (c : BlockCmp) (it : BlockIter) (h : it.Inv c) (hv : it.valid = true) :
    ∃ it', it.prev c = some it' ∧ it.Same it' ∧ it'.Inv c ∧ it'.Mono ∧
      (it'.valid = true → it'.current < it.current) := by
  have hb := h.1
  have hri := (h.2.1 hv).1
  unfold BlockIter.prev
  rcases it.prevScan_inv _ (fun _ hj => it.getRestartPoint_eq hb hj) it.current
      (it.restartIndex + 1) it.restartIndex (Nat.le_refl _) hri with ⟨hps, _⟩ | ⟨j, hps, hj, hlt⟩
  · simp only [hps]
    exact ⟨_, rfl, (it.markInvalid_ok c hb h.2.2).1, (it.markInvalid_ok c hb h.2.2).2,
      BlockIter.mono_of_invalid it.valid_markInvalid,
      fun hv' => nomatch it.valid_markInvalid.symm.trans hv'⟩
  · -- the walk starts at a restart point below the current entry and stays below it
    obtain ⟨it1, h1, hs1, hp1⟩ := it.seekToRestartPoint_ok hb j hj
    have hrs := hs1.2.1
    obtain ⟨it', g1, g2, g3, g4, g5⟩ := BlockIter.skipUntil_ok c it.current (it.restarts + 1) it1 _
      hp1 (by omega)
    simp only [hps, h1]
    exact ⟨it', g1, hs1.trans g2, g3, g4, g5 hlt⟩

/-- `seek` from the binary search on; `ckc = .lt`: the current entry was found below the target -/
def BlockIter.seekFrom (c : BlockCmp) (t : Bytes) (it : BlockIter) (left right : Nat)
    (ckc : Ordering) : Option BlockIter :=
  match it.seekBin c t (right - left + 1) left right with
  | none => none
  | some none => some it.corruption
  | some (some l) =>
    match (if (l == it.restartIndex && ckc == .lt) = true then some it
      else it.seekToRestartPoint l) with
    | none => none
    | some it1 => BlockIter.seekLinear c t (it.restarts + 1) it1

theorem BlockIter.seekFrom_ok (c : BlockCmp) (t : Bytes) (it : BlockIter) (hinv : it.Inv c)
    (ht : c.internal = true → 8 ≤ t.length) {left right : Nat} (hl : left < it.numRestarts)
    (hr : right < it.numRestarts) (ckc : Ordering) (hck : ckc = .lt → it.valid = true) :
    ∃ it', it.seekFrom c t left right ckc = some it' ∧ it.Same it' ∧ it'.Inv c ∧ it'.Mono := by
  have hb := hinv.1
  unfold BlockIter.seekFrom
  rcases BlockIter.seekBin_inv c t it it.numRestarts (fun _ => True) True
      (fun mid _ hm => (it.probe_ok c t hb ht mid hm).imp fun _ h => ⟨h, fun _ => trivial,
        fun _ => trivial⟩)
      (right - left + 1) left right (Nat.succ_pos _) (by omega) hl hr trivial with
    ⟨_, hbin⟩ | ⟨l, hbin, hl', _⟩
  · rw [hbin]
    exact ⟨_, rfl, (it.corruption_ok c hb).1, (it.corruption_ok c hb).2.1,
      BlockIter.mono_of_invalid it.valid_corruption⟩
  · have hstart : ∃ it1 e, (if (l == it.restartIndex && ckc == .lt) = true then some it
        else it.seekToRestartPoint l) = some it1 ∧ it.Same it1 ∧ it1.Pre e := by
      by_cases hskip : (l == it.restartIndex && ckc == .lt) = true
      · obtain ⟨e, hp⟩ :=
          BlockIter.pre_of_inv hinv (hck (eq_of_beq ((Bool.and_eq_true _ _).mp hskip).2))
        exact ⟨it, e, if_pos hskip, BlockIter.Same.refl it, hp⟩
      · rw [if_neg hskip]
        obtain ⟨it1, h1, h2, h3⟩ := it.seekToRestartPoint_ok hb l hl'
        exact ⟨it1, _, h1, h2, h3⟩
    obtain ⟨it1, e, h1, hs1, hp⟩ := hstart
    rw [hbin]
    dsimp only
    rw [h1]
    have hrs := hs1.2.1
    obtain ⟨it', g1, g2, g3, g4⟩ := BlockIter.seekLinear_ok c t ht (it.restarts + 1) it1 e hp
      (by omega)
    exact ⟨it', g1, hs1.trans g2, g3, g4⟩

theorem BlockIter.seek_ok (c : BlockCmp) (t : Bytes) (it : BlockIter) (hinv : it.Inv c) :
    ∃ it', it.seek c t = some it' ∧ it.Same it' ∧ it'.Inv c ∧ (it.Mono → it'.Mono) ∧
      ((c.internal && decide (t.length < 8)) = true → it'.valid = false) := by
  have hb := hinv.1
  unfold BlockIter.seek
  by_cases hshort : (c.internal && decide (t.length < 8)) = true
  · obtain ⟨hc1, hc2, hc3⟩ := BlockIter.corruption_ok c it hb
    rw [if_pos hshort]
    exact ⟨_, rfl, hc1, hc2, fun _ => BlockIter.mono_of_invalid hc3, fun _ => hc3⟩
  have ht : c.internal = true → 8 ≤ t.length := by
    intro hc
    simp only [hc, Bool.true_and, decide_eq_true_eq] at hshort
    omega
  have hn := hb.2
  have fin : ∀ {r : Option BlockIter}, (∃ it', r = some it' ∧ it.Same it' ∧ it'.Inv c ∧ it'.Mono) →
      ∃ it', r = some it' ∧ it.Same it' ∧ it'.Inv c ∧ (it.Mono → it'.Mono) ∧
        ((c.internal && decide (t.length < 8)) = true → it'.valid = false) :=
    fun ⟨it', h1, h2, h3, h4⟩ => ⟨it', h1, h2, h3, fun _ => h4, fun hh => absurd hh hshort⟩
  rw [if_neg hshort]
  dsimp only
  by_cases hv : it.valid = true
  · -- the comparison of the current key with the target chooses the half to search
    have hri := (hinv.2.1 hv).1
    rw [if_pos hv, c.compare_eq (hinv.2.1 hv).2.2 ht]
    cases c.cmp it.key t with
    | lt => exact fin (it.seekFrom_ok c t hinv ht hri (by omega) .lt (fun _ => hv))
    | eq => exact ⟨it, rfl, BlockIter.Same.refl it, hinv, id, fun hh => absurd hh hshort⟩
    | gt => exact fin (it.seekFrom_ok c t hinv ht hn hri .gt nofun)
  · rw [if_neg hv]
    exact fin (it.seekFrom_ok c t hinv ht hn (by omega) .eq nofun)

def TIter.Good (c : BlockCmp) (t t' : TIter) : Prop :=
  t'.Inv c ∧ (t.status = .corrupt → t'.status = .corrupt)

theorem TIter.Good.refl {c : BlockCmp} {t : TIter} (h : t.Inv c) : TIter.Good c t t := ⟨h, id⟩

theorem TIter.Good.trans {c : BlockCmp} {a b d : TIter} (h1 : TIter.Good c a b)
    (h2 : TIter.Good c b d) : TIter.Good c a d := ⟨h2.1, fun h => h2.2 (h1.2 h)⟩

def TIter.Mono : TIter → Prop
  | .empty _ => True
  | .block it => it.Mono

def TIter.restarts : TIter → Nat
  | .empty _ => 0
  | .block it => it.restarts

def TIter.pos : TIter → Nat
  | .empty _ => 0
  | .block it => it.current

theorem TIter.pos_lt_restarts (t : TIter) (hv : t.valid = true) : t.pos < t.restarts := by
  cases t with
  | empty s => cases hv
  | block it => exact of_decide_eq_true hv

def TIter.Step (c : BlockCmp) (t t' : TIter) : Prop :=
  TIter.Good c t t' ∧ t'.restarts = t.restarts ∧ (t.Mono → t'.Mono)

theorem TIter.Step.refl {c : BlockCmp} {t : TIter} (h : t.Inv c) : TIter.Step c t t :=
  ⟨TIter.Good.refl h, rfl, id⟩

theorem TIter.Step.trans {c : BlockCmp} {a b d : TIter} (h1 : TIter.Step c a b)
    (h2 : TIter.Step c b d) : TIter.Step c a d :=
  ⟨h1.1.trans h2.1, h2.2.1.trans h1.2.1, fun h => h2.2.2 (h1.2.2 h)⟩

theorem TIter.lift_step (c : BlockCmp) (f : BlockIter → Option BlockIter) (t : TIter)
    (hf : ∀ it, t = .block it → ∃ it', f it = some it' ∧ it.Same it' ∧ it'.Inv c ∧ it'.Mono) :
    ∃ t', TIter.lift f t = some t' ∧ TIter.Step c t t' := by
  cases t with
  | empty s => exact ⟨.empty s, rfl, ⟨trivial, id⟩, rfl, id⟩
  | block it =>
    obtain ⟨it', h1, h2, h3, h4⟩ := hf it rfl
    exact ⟨.block it', by rw [TIter.lift, h1]; rfl, ⟨h3, h2.2.2.2⟩, h2.2.1, fun _ => h4⟩

theorem TIter.first_step (c : BlockCmp) (t : TIter) (h : t.Inv c) :
    ∃ t', TIter.first c t = some t' ∧ TIter.Step c t t' :=
  TIter.lift_step c _ t fun it hit => by subst hit; exact BlockIter.first_ok c it h

theorem TIter.last_step (c : BlockCmp) (t : TIter) (h : t.Inv c) :
    ∃ t', TIter.last c t = some t' ∧ TIter.Step c t t' :=
  TIter.lift_step c _ t fun it hit => by subst hit; exact BlockIter.last_ok c it h

theorem TIter.next_step (c : BlockCmp) (t : TIter) (h : t.Inv c) (hv : t.valid = true) :
    ∃ t', TIter.next c t = some t' ∧ TIter.Step c t t' ∧
      (t.Mono → t'.valid = true → t.pos < t'.pos) := by
  cases t with
  | empty s => cases hv
  | block it =>
    obtain ⟨it', h1, h2, h3, h4, h5⟩ := BlockIter.next_ok c it h hv
    exact ⟨.block it', by rw [TIter.next, TIter.lift, h1]; rfl,
      ⟨⟨h3, h2.2.2.2⟩, h2.2.1, fun _ => h4⟩, h5⟩

theorem TIter.prev_step (c : BlockCmp) (t : TIter) (h : t.Inv c) (hv : t.valid = true) :
    ∃ t', TIter.prev c t = some t' ∧ TIter.Step c t t' ∧
      (t'.valid = true → t'.pos < t.pos) := by
  cases t with
  | empty s => cases hv
  | block it =>
    obtain ⟨it', h1, h2, h3, h4, h5⟩ := BlockIter.prev_ok c it h hv
    exact ⟨.block it', by rw [TIter.prev, TIter.lift, h1]; rfl,
      ⟨⟨h3, h2.2.2.2⟩, h2.2.1, fun _ => h4⟩, h5⟩

theorem TIter.seek_step (c : BlockCmp) (tg : Bytes) (t : TIter) (h : t.Inv c) :
    ∃ t', TIter.seek c tg t = some t' ∧ TIter.Step c t t' ∧
      (t'.valid = true → c.internal = true → 8 ≤ tg.length) := by
  cases t with
  | empty s => exact ⟨.empty s, rfl, ⟨⟨trivial, id⟩, rfl, id⟩, fun hv => nomatch hv⟩
  | block it =>
    obtain ⟨it', h1, h2, h3, h4, h5⟩ := BlockIter.seek_ok c tg it h
    refine ⟨.block it', by rw [TIter.seek, TIter.lift, h1]; rfl, ⟨⟨h3, h2.2.2.2⟩, h2.2.1, h4⟩,
      fun hv hc => Nat.le_of_not_lt fun hlt => ?_⟩
    exact Bool.noConfusion ((h5 (by rw [hc, decide_eq_true hlt]; rfl)).symm.trans hv)

theorem TIter.next_current_lt (c : BlockCmp) (ti ti' : TIter) (h : ti.Inv c) (hm : ti.Mono)
    (hv : ti.valid = true) (hn : ti.next c = some ti') : ti'.valid = true → ti.pos < ti'.pos := by
  obtain ⟨t', h1, _, h3⟩ := TIter.next_step c ti h hv
  rw [hn] at h1
  cases h1
  exact h3 hm

theorem TIter.prev_current_lt (c : BlockCmp) (ti ti' : TIter) (h : ti.Inv c)
    (hv : ti.valid = true) (hn : ti.prev c = some ti') : ti'.valid = true → ti'.pos < ti.pos := by
  obtain ⟨t', h1, _, h3⟩ := TIter.prev_step c ti h hv
  rw [hn] at h1
  cases h1
  exact h3

theorem TIter.key_len (c : BlockCmp) (t : TIter) (h : t.Inv c) (hv : t.valid = true) :
    c.internal = true → 8 ≤ t.key.length := by
  cases t with
  | empty s => cases hv
  | block it => exact (h.2.1 hv).2.2

theorem blockIter_apply_step (c : BlockCmp) (op : BlockOp) (it : TIter) (h : it.Inv c) :
    ∃ it', (blockIterOps c).apply op it = some it' ∧ TIter.Step c it it' := by
  have prims : (blockIterOps c).Prims (TIter.Inv c) (fun t r => ∃ t', r = some t' ∧ TIter.Step c t t') :=
    { first := TIter.first_step c
      last := TIter.last_step c
      next := fun t ht hv => (TIter.next_step c t ht hv).imp fun _ h => ⟨h.1, h.2.1⟩
      prev := fun t ht hv => (TIter.prev_step c t ht hv).imp fun _ h => ⟨h.1, h.2.1⟩
      seek := fun tg t ht => (TIter.seek_step c tg t ht).imp fun _ h => ⟨h.1, h.2.1⟩ }
  refine prims.apply_total (fun _ => TIter.Step.refl) (fun _ _ _ => TIter.Step.trans)
    (fun _ _ g => g.1.1) ?_ op h
  -- the comparison after a seek that ended valid: both keys are long enough
  intro tg t t1 ht hseek hv
  obtain ⟨_, e, g, hlen⟩ := TIter.seek_step c tg t ht
  cases e.symm.trans hseek
  exact ⟨_, c.compare_eq (TIter.key_len c t1 g.1.1 hv) (hlen hv)⟩

theorem blockIter_apply_mono (c : BlockCmp) (op : BlockOp) (it it' : TIter) (h : it.Inv c)
    (hm : it.Mono) (ha : (blockIterOps c).apply op it = some it') : it'.Mono := by
  obtain ⟨_, h1, h2⟩ := blockIter_apply_step c op it h
  cases h1.symm.trans ha
  exact h2.2.2 hm

theorem blockInit_eq_some {data : Bytes} {ro : Nat} (h : blockInit data = some ro) :
    ro + 4 * blockNumRestarts data + 4 = data.length := by
  unfold blockInit at h
  by_cases h1 : data.length < 4
  · rw [if_pos h1] at h; cases h
  rw [if_neg h1] at h
  dsimp only at h
  by_cases h2 : blockNumRestarts data > (data.length - 4) / 4
  · rw [if_pos h2] at h; cases h
  rw [if_neg h2] at h
  cases h
  generalize blockNumRestarts data = n at *
  omega

theorem blockIterCreate_inv (c : BlockCmp) (data : Bytes) : (blockIterCreate data).Inv c := by
  unfold blockIterCreate
  cases hro : blockInit data with
  | none => trivial
  | some ro =>
    dsimp only
    by_cases hn : blockNumRestarts data = 0
    · rw [if_pos hn]; trivial
    · rw [if_neg hn]
      exact ⟨⟨Nat.le_of_eq (blockInit_eq_some hro), Nat.pos_of_ne_zero hn⟩,
        fun hv => absurd (of_decide_eq_true hv) (Nat.lt_irrefl ro), nofun⟩

theorem blockIterCreate_mono (data : Bytes) :
    (blockIterCreate data).Mono ∧ (blockIterCreate data).restarts ≤ data.length := by
  unfold blockIterCreate
  cases hro : blockInit data with
  | none => exact ⟨trivial, Nat.zero_le _⟩
  | some ro =>
    dsimp only
    by_cases hn : blockNumRestarts data = 0
    · rw [if_pos hn]; exact ⟨trivial, Nat.zero_le _⟩
    · rw [if_neg hn]
      exact ⟨BlockIter.mono_of_invalid (decide_eq_false (Nat.lt_irrefl ro)),
        by have := blockInit_eq_some hro; show ro ≤ _; omega⟩

theorem blockIter_total (c : BlockCmp) (op : BlockOp) (it : TIter) (h : it.Inv c) :
    ∃ it', (blockIterOps c).apply op it = some it' ∧ it'.Inv c :=
  (blockIter_apply_step c op it h).imp fun _ g => ⟨g.1, g.2.1.1⟩

theorem status_sticky (c : BlockCmp) (op : BlockOp) (it it' : TIter) (h : it.Inv c)
    (hs : it.status = .corrupt) (ha : (blockIterOps c).apply op it = some it') :
    it'.status = .corrupt := by
  obtain ⟨it'', h1, h2⟩ := blockIter_apply_step c op it h
  rw [h1] at ha
  cases ha
  exact h2.1.2 hs

theorem blockIter_run_good (c : BlockCmp) (ops : List BlockOp) (it : TIter) (h : it.Inv c) :
    ∃ it', (blockIterOps c).run ops it = some it' ∧ TIter.Good c it it' := by
  rw [IterOps.run_eq]
  refine Step.run_keeps (P := TIter.Good c it) (fun op s g => ?_) ops (TIter.Good.refl h)
  obtain ⟨s', e, g', _⟩ := blockIter_apply_step c op s g.1
  exact ⟨s', e, g.trans g'⟩

theorem block_no_fault (c : BlockCmp) (data : Bytes) (ops : List BlockOp) :
    ∃ it, (blockIterOps c).run ops (blockIterCreate data) = some it ∧ it.Inv c := by
  obtain ⟨it, h1, h2⟩ := blockIter_run_good c ops _ (blockIterCreate_inv c data)
  exact ⟨it, h1, h2.1⟩

theorem status_sticky_run (c : BlockCmp) (ops : List BlockOp) (it it' : TIter) (h : it.Inv c)
    (hs : it.status = .corrupt) (ha : (blockIterOps c).run ops it = some it') :
    it'.status = .corrupt := by
  obtain ⟨it'', h1, h2⟩ := blockIter_run_good c ops it h
  rw [h1] at ha
  cases ha
  exact h2.2 hs

end Lcdb
