/-
  Lemmas about the LSM model (`LcdbModel.Model.Lsm`), on top of the internal-key order of
  `Lemmas/IkOrder`.  Every stage of the point lookup is reduced to a simpler search: a sorted run to
  `newestVisible` (`Lemmas/Newest`) of its entries, which there is the first visible entry of the key
  (`newestVisible_sorted`); a sorted level to the run that concatenates its files; the level-0
  candidates to all level-0 files newest first; the first hit along a recency-ordered list of runs to
  `newestVisible` of their concatenation.  Together: `getEntry_eq_newestVisible`, the point lookup
  finds the newest visible entry of the state.
-/
import LcdbModel.Lemmas.IkOrder
import LcdbModel.Lemmas.Newest
namespace Lcdb.Lsm
open Lcdb.CmpBasic

theorem seq_le_of_entryLt {c : Cmp} {a b : Entry} (h : entryLt c a b = true) (hk : a.ukey = b.ukey)
    (hka : a.kind ≤ 1) : b.seq ≤ a.seq := by
  -- `packed = seq * 256 + kind` orders by `seq` only when the kind fits its byte
  have := packed_lt_of_entryLt h hk
  unfold Entry.packed at this; omega

theorem packed_inj {a b : Entry} (ha : a.kind < 256) (hb : b.kind < 256) (h : a.packed = b.packed) :
    a.seq = b.seq ∧ a.kind = b.kind := by
  simp only [Entry.packed] at h; omega

theorem ikLt_seek_iff (c : Cmp) {e : Entry} (k : Bytes) (s : Nat) (hk : e.kind ≤ 1) :
    ikLt c e.ukey e.packed k (seekPacked s) = true ↔
      c.compare e.ukey k = .lt ∨ (e.ukey = k ∧ e.seq > s) := by
  have : e.packed > seekPacked s ↔ e.seq > s := by
    simp only [Entry.packed, seekPacked, valtypeSeek]; omega
  rw [ikLt_iff, this]

theorem runGet_cons (c : Cmp) (e : Entry) (r : Run) (k : Bytes) (s : Nat) :
    runGet c (e :: r) k s =
      if ikLt c e.ukey e.packed k (seekPacked s) = true then runGet c r k s
      else if c.compare e.ukey k = .eq then some e else none := by
  simp only [runGet, runSeek, List.find?_cons]
  cases h : ikLt c e.ukey e.packed k (seekPacked s) <;> simp

theorem runGet_some {c : Cmp} {r : Run} {k : Bytes} {s : Nat} {e : Entry}
    (h : runGet c r k s = some e) : e ∈ r ∧ e.ukey = k := by
  simp only [runGet, runSeek] at h
  split at h
  · rename_i e' he'
    split at h
    · rename_i heq
      simp at h; subst h
      exact ⟨List.mem_of_find?_eq_some he', (compare_eq_iff c _ _).mp (by simpa using heq)⟩
    · cases h
  · cases h

theorem seqDesc_of_sorted {c : Cmp} {r : Run} (hs : RunSorted c r) (hk : ∀ e ∈ r, e.kind ≤ 1) :
    r.Pairwise fun a b => a.ukey = b.ukey → b.seq ≤ a.seq :=
  hs.imp_of_mem fun ha _ hlt hab => seq_le_of_entryLt hlt hab (hk _ ha)

theorem newestVisible_sorted (c : Cmp) (r : Run) (hs : RunSorted c r) (hk : ∀ e ∈ r, e.kind ≤ 1)
    (k : Bytes) (s : Nat) :
    newestVisible c r k s = r.find? (fun e => c.compare e.ukey k == .eq && decide (e.seq ≤ s)) :=
  newestVisible_eq_find k s (seqDesc_of_sorted hs hk)

theorem runGet_eq_find (c : Cmp) (r : Run) (k : Bytes) (s : Nat) (hs : RunSorted c r)
    (hk : ∀ e ∈ r, e.kind ≤ 1) :
    runGet c r k s = r.find? (fun e => c.compare e.ukey k == .eq && decide (e.seq ≤ s)) := by
  induction r with
  | nil => rfl
  | cons e r ih =>
    have hs' := List.pairwise_cons.mp hs
    have hb := ikLt_seek_iff c k s (hk e List.mem_cons_self)
    rw [runGet_cons, List.find?_cons]
    cases hc : c.compare e.ukey k with
    | lt => rw [if_pos (hb.mpr (.inl hc))]; exact ih hs'.2 fun x hx => hk x (List.mem_cons_of_mem _ hx)
    | gt =>
      -- every later entry sorts after `e`, so its user key is not `k` either
      rw [if_neg (fun h => (hb.mp h).elim (fun h => by rw [hc] at h; cases h)
          (fun h => by rw [h.1, compare_refl] at hc; cases hc)), if_neg nofun]
      refine (List.find?_eq_none.mpr fun x hx hp => ?_).symm
      have hxk := (compare_eq_iff c _ _).mp (beq_iff_eq.mp (Bool.and_eq_true_iff.mp hp).1)
      have hlt := hs'.1 x hx
      rw [entryLt, ikLt_iff, hxk, hc] at hlt
      rcases hlt with h | ⟨h, _⟩
      · cases h
      · rw [h, compare_refl] at hc; cases hc
    | eq =>
      have hek := (compare_eq_iff c _ _).mp hc
      by_cases hse : e.seq ≤ s
      · rw [if_neg (fun h => (hb.mp h).elim (fun h => by rw [hc] at h; cases h)
            (fun h => Nat.not_lt.mpr hse h.2)), if_pos rfl, decide_eq_true hse]
        rfl
      · rw [if_pos (hb.mpr (.inr ⟨hek, by omega⟩)), decide_eq_false hse]
        exact ih hs'.2 fun x hx => hk x (List.mem_cons_of_mem _ hx)

/-- on a value/deletion tie in the sequence number both sides return the first of the two -/
theorem runGet_eq_newest (c : Cmp) (r : Run) (k : Bytes) (s : Nat) (hs : RunSorted c r)
    (hk : ∀ e ∈ r, e.kind ≤ 1) : runGet c r k s = newestVisible c r k s :=
  (runGet_eq_find c r k s hs hk).trans (newestVisible_sorted c r hs hk k s).symm

theorem fileOk_ends {c : Cmp} {f : FileMeta} (hf : FileOk c f) :
    ∃ a l, f.run.head? = some a ∧ f.run.getLast? = some l ∧
      (a.ukey = f.sk ∧ a.packed = f.sp) ∧ (l.ukey = f.lk ∧ l.packed = f.lp) := by
  obtain ⟨_, hne, hfirst, hlast⟩ := hf
  cases hh : f.run.head? with
  | none => exact absurd (List.head?_eq_none_iff.mp hh) hne
  | some a =>
    cases hl : f.run.getLast? with
    | none => exact absurd (List.getLast?_eq_none_iff.mp hl) hne
    | some l => exact ⟨a, l, rfl, rfl, hfirst a (hh ▸ rfl), hlast l (hl ▸ rfl)⟩

theorem fileOk_le_largest {c : Cmp} {f : FileMeta} (hf : FileOk c f) {e : Entry} (he : e ∈ f.run) :
    ikLt c f.lk f.lp e.ukey e.packed = false := by
  obtain ⟨_, l, _, hl, _, h1, h2⟩ := fileOk_ends hf
  rw [← h1, ← h2]
  rcases pairwise_getLast hf.1 hl e he with rfl | h
  · exact ikLt_irrefl c _ _
  · exact ikLt_asymm c h

theorem fileOk_smallest_le {c : Cmp} {f : FileMeta} (hf : FileOk c f) {e : Entry} (he : e ∈ f.run) :
    ikLt c e.ukey e.packed f.sk f.sp = false := by
  obtain ⟨a, _, ha, _, ⟨h1, h2⟩, _⟩ := fileOk_ends hf
  rw [← h1, ← h2]
  rcases pairwise_head hf.1 ha e he with rfl | h
  · exact ikLt_irrefl c _ _
  · exact ikLt_asymm c h

theorem fileOk_largest_mem {c : Cmp} {f : FileMeta} (hf : FileOk c f) :
    ∃ l ∈ f.run, l.ukey = f.lk ∧ l.packed = f.lp := by
  obtain ⟨_, l, _, hl, _, h⟩ := fileOk_ends hf
  exact ⟨l, List.mem_of_getLast? hl, h⟩

theorem fileOk_smallest_mem {c : Cmp} {f : FileMeta} (hf : FileOk c f) :
    ∃ l ∈ f.run, l.ukey = f.sk ∧ l.packed = f.sp := by
  obtain ⟨a, _, ha, _, h, _⟩ := fileOk_ends hf
  exact ⟨a, List.mem_of_head? ha, h⟩

theorem fileOk_boundsOk {c : Cmp} {f : FileMeta} (hf : FileOk c f) : ikLt c f.lk f.lp f.sk f.sp = false := by
  obtain ⟨e, he, hk, hp⟩ := fileOk_smallest_mem hf
  rw [← hk, ← hp]
  exact fileOk_le_largest hf he

theorem _root_.Lcdb.FileOk.key_range {c : Cmp} {f : FileMeta} (h : FileOk c f) :
    ∀ x ∈ f.run, c.compare f.sk x.ukey ≠ .gt ∧ c.compare x.ukey f.lk ≠ .gt :=
  fun _ hx => ⟨ne_gt_of_not_ikLt (fileOk_smallest_le h hx), ne_gt_of_not_ikLt (fileOk_le_largest h hx)⟩

theorem _root_.Lcdb.FileOk.sk_le_lk {c : Cmp} {f : FileMeta} (h : FileOk c f) : c.compare f.sk f.lk ≠ .gt :=
  ne_gt_of_not_ikLt (fileOk_boundsOk h)

theorem userRangesOverlap_false_iff {c : Cmp} {f g : FileMeta} :
    userRangesOverlap c f g = false ↔ c.compare f.lk g.sk = .lt ∨ c.compare g.lk f.sk = .lt := by
  simp only [userRangesOverlap, Bool.not_eq_eq_eq_not, Bool.not_false, Bool.or_eq_true, beq_iff_eq]

theorem no_shared_key_of_apart {c : Cmp} {f g : FileMeta} (hf : FileOk c f) (hg : FileOk c g)
    (h : c.compare f.lk g.sk = .lt ∨ c.compare g.lk f.sk = .lt) :
    ∀ x ∈ f.run, ∀ y ∈ g.run, c.compare x.ukey y.ukey ≠ .eq := by
  intro x hx y hy heq
  obtain ⟨h1, h2⟩ := hf.key_range x hx
  obtain ⟨h3, h4⟩ := hg.key_range y hy
  rw [(compare_eq_iff c _ _).mp heq] at h1 h2
  rcases h with h | h
  · -- g.sk ≤ y ≤ f.lk < g.sk
    exact (cmp3_compare c).lt_irrefl _ ((cmp3_compare c).lt_of_ne_gt_of_lt ((cmp3_compare c).ne_gt_trans h3 h2) h)
  · -- f.sk ≤ y ≤ g.lk < f.sk
    exact (cmp3_compare c).lt_irrefl _ ((cmp3_compare c).lt_of_ne_gt_of_lt ((cmp3_compare c).ne_gt_trans h1 h4) h)

theorem newerThan_of_apart {c : Cmp} {f g : FileMeta} (hf : FileOk c f) (hg : FileOk c g)
    (h : userRangesOverlap c f g = false) : NewerThan c g.run f.run :=
  fun x hx y hy hxy => absurd hxy (no_shared_key_of_apart hg hf (userRangesOverlap_false_iff.mp h).symm x hx y hy)

theorem contains_of_mem_run {c : Cmp} {f : FileMeta} (hf : FileOk c f) {e : Entry} (he : e ∈ f.run) :
    fileContainsUser c f e.ukey = true := by
  obtain ⟨h1, h2⟩ := hf.key_range e he
  have h1' : c.compare e.ukey f.sk ≠ .lt := fun h => h1 ((compare_gt_iff c _ _).mpr h)
  simp [fileContainsUser, h1', h2]

theorem runGet_none_of_not_contains {c : Cmp} {f : FileMeta} (hf : FileOk c f) {k : Bytes} (s : Nat)
    (h : fileContainsUser c f k = false) : runGet c f.run k s = none := by
  cases hg : runGet c f.run k s with
  | none => rfl
  | some e =>
    obtain ⟨he, rfl⟩ := runGet_some hg
    rw [contains_of_mem_run hf he] at h; cases h

theorem runSeek_isSome {c : Cmp} {f : FileMeta} (hf : FileOk c f) (k : Bytes) (p : Nat) :
    (runSeek c f.run k p).isSome = !ikLt c f.lk f.lp k p := by
  rw [runSeek, Bool.eq_iff_iff, List.find?_isSome]
  constructor
  · rintro ⟨e, he, h⟩
    rw [Bool.not_eq_true'] at h ⊢
    exact Bool.eq_false_iff.mpr fun hl =>
      Bool.eq_false_iff.mp h (ikLt_of_not_lt_of_lt c (fileOk_le_largest hf he) hl)
  · intro h
    obtain ⟨l, hl, h1, h2⟩ := fileOk_largest_mem hf
    exact ⟨l, hl, by rw [h1, h2]; exact h⟩

/-- One `find_file` probe plus the smallest-user-key guard equals a lookup in the concatenation of
    the level's runs, also for a user key whose versions straddle two files.  A seek in the
    concatenation lands in the first file whose largest key is not before the target, which is the
    file the probe finds; the guard rejects only a key below every key of that file.
    Only `FileOk` is used; `LevelSorted` is what makes the concatenation itself a sorted run
    (`levelRun_sorted`). -/
theorem levelGet_eq_lookup_concat (c : Cmp) (files : List FileMeta) (k : Bytes) (s : Nat)
    (_hsorted : LevelSorted c files) (hok : ∀ f ∈ files, FileOk c f) :
    ((levelFile c files k (seekPacked s)).bind fun f => runGet c f.run k s)
      = runGet c (files.flatMap (·.run)) k s := by
  have hseek : runSeek c (files.flatMap (·.run)) k (seekPacked s) =
      (files.find? fun f => !ikLt c f.lk f.lp k (seekPacked s)).bind fun f =>
        runSeek c f.run k (seekPacked s) :=
    List.find?_flatMap.trans (findSome?_eq_find?_bind fun f hf => runSeek_isSome (hok f hf) k _)
  rw [levelFile, runGet, hseek]
  cases hfind : files.find? fun f => !ikLt c f.lk f.lp k (seekPacked s) with
  | none => rfl
  | some f =>
    show (if c.compare k f.sk == .lt then none else some f).bind (fun f => runGet c f.run k s)
      = runGet c f.run k s
    split
    · rename_i h
      refine (runGet_none_of_not_contains (hok f (List.mem_of_find?_eq_some hfind)) s ?_).symm
      rw [fileContainsUser, beq_iff_eq.mp h]; rfl
    · rfl

theorem levelRun_sorted (c : Cmp) (files : List FileMeta) (hsorted : LevelSorted c files)
    (hok : ∀ f ∈ files, FileOk c f) : RunSorted c (files.flatMap (·.run)) :=
  List.pairwise_flatMap.mpr ⟨fun f hf => (hok f hf).1, hsorted.imp_of_mem fun hf hg hfg _ hx _ hy =>
    ikLt_of_lt_of_not_lt c (ikLt_of_not_lt_of_lt c (fileOk_le_largest (hok _ hf) hx) hfg)
      (fileOk_smallest_le (hok _ hg) hy)⟩

theorem firstHit_eq_newest (c : Cmp) (rs : List Run) (k : Bytes) (s : Nat)
    (hrec : rs.Pairwise (NewerThan c)) (hs : ∀ r ∈ rs, RunSorted c r)
    (hk : ∀ r ∈ rs, ∀ e ∈ r, e.kind ≤ 1) :
    rs.findSome? (fun r => runGet c r k s) = newestVisible c rs.flatten k s := by
  -- along the runs, too, the entries of one user key descend in sequence
  rw [newestVisible_eq_find k s (List.pairwise_flatten.mpr
      ⟨fun r hr => seqDesc_of_sorted (hs r hr) (hk r hr),
        hrec.imp fun h x hx y hy hxy => Nat.le_of_lt (h x hx y hy ((compare_eq_iff c _ _).mpr hxy))⟩),
    List.find?_flatten]
  exact findSome?_congr' fun r hr => runGet_eq_find c r k s (hs r hr) (hk r hr)

theorem numGe_trans (a b d : FileMeta) : decide (a.num ≥ b.num) = true → decide (b.num ≥ d.num) = true →
    decide (a.num ≥ d.num) = true := by
  simp only [decide_eq_true_eq]; omega

theorem numGe_total (a b : FileMeta) : (decide (a.num ≥ b.num) || decide (b.num ≥ a.num)) = true := by
  simp only [Bool.or_eq_true, decide_eq_true_eq]; omega

/-- a file whose user-key range does not contain `k` has no entry for `k`, and `mergeSort` is stable so
    filtering commutes with sorting -/
theorem l0_search_eq (c : Cmp) (files : List FileMeta) (k : Bytes) (s : Nat)
    (hok : ∀ f ∈ files, FileOk c f) :
    (l0Candidates c files k).findSome? (fun f => runGet c f.run k s)
      = (files.mergeSort (fun a b => decide (a.num ≥ b.num))).findSome? (fun f => runGet c f.run k s) := by
  unfold l0Candidates
  rw [← filter_mergeSort _ numGe_trans numGe_total]
  apply findSome?_filter_of_none
  intro f hf hp
  exact runGet_none_of_not_contains (hok f (List.mem_mergeSort.mp hf)) s hp

theorem drop_one_levels {st : DbState} (h : st.levels.length = 7) :
    st.levels.drop 1 = (List.range 6).map (fun i => st.level (i + 1)) := by
  unfold DbState.level
  match hl : st.levels, h with
  | [a, b, c, d, e, f, g], _ => rfl

theorem level_eq_nil_of_ge {st : DbState} {l : Nat} (h : st.levels.length ≤ l) : st.level l = [] := by
  unfold DbState.level
  rw [List.getD_eq_getElem?_getD, List.getElem?_eq_none h]; rfl

theorem _root_.Lcdb.level_eq_getElem {st : DbState} {l : Nat} (h : l < st.levels.length) :
    st.level l = st.levels[l] := by
  simp [DbState.level, List.getD_eq_getElem?_getD, List.getElem?_eq_getElem h]

theorem _root_.Lcdb.lt_length_of_mem_level {st : DbState} {l : Nat} {f : FileMeta} (h : f ∈ st.level l) :
    l < st.levels.length := by
  apply Classical.byContradiction
  intro hn
  rw [level_eq_nil_of_ge (by omega)] at h
  cases h

theorem _root_.Lcdb.mem_allFiles {st : DbState} {f : FileMeta} : f ∈ allFiles st ↔ ∃ l, f ∈ st.level l := by
  constructor
  · intro h
    obtain ⟨L, hL, hf⟩ := List.mem_flatten.mp h
    obtain ⟨i, hi, rfl⟩ := List.mem_iff_getElem.mp hL
    exact ⟨i, by rw [level_eq_getElem hi]; exact hf⟩
  · rintro ⟨l, hf⟩
    have hl := lt_length_of_mem_level hf
    exact List.mem_flatten.mpr ⟨_, List.getElem_mem hl, level_eq_getElem hl ▸ hf⟩

theorem mem_allFiles_of_mem_level {st : DbState} {l : Nat} {f : FileMeta} (h : f ∈ st.level l) :
    f ∈ allFiles st := mem_allFiles.mpr ⟨l, h⟩

theorem fileOk_of_inv {c : Cmp} {st : DbState} (hinv : Inv c st) (l : Nat) : ∀ f ∈ st.level l, FileOk c f :=
  fun f hf => hinv.filesOk f (mem_allFiles_of_mem_level hf)

theorem kinds_of_inv {c : Cmp} {st : DbState} (hinv : Inv c st) (l : Nat) :
    ∀ f ∈ st.level l, ∀ e ∈ f.run, e.kind ≤ 1 := by
  intro f hf e he
  apply hinv.kinds
  unfold allEntries
  exact List.mem_append_right _ (List.mem_flatMap.mpr ⟨f, mem_allFiles_of_mem_level hf, he⟩)

theorem getEntry_eq_findSome_sourceRuns (c : Cmp) (st : DbState) (k : Bytes) (s : Nat)
    (hn : st.levels.length = 7) (hok : ∀ f ∈ allFiles st, FileOk c f)
    (hls : ∀ l, 1 ≤ l → LevelSorted c (st.level l)) :
    getEntry c st k s = (sourceRuns st).findSome? (fun r => runGet c r k s) := by
  unfold getEntry searchOrder sourceRuns
  simp only [List.findSome?_append]
  congr 1
  · congr 1
    rw [List.findSome?_map, List.findSome?_map]
    exact l0_search_eq c (st.level 0) k s (fun f hf => hok f (mem_allFiles_of_mem_level hf))
  · rw [drop_one_levels hn, List.findSome?_map, List.findSome?_map, findSome?_filterMap]
    show (List.range 6).findSome? _ = _
    simp only [Function.comp_def]
    apply findSome?_congr'
    intro i _
    rw [Option.bind_map]
    exact levelGet_eq_lookup_concat c (st.level (i + 1)) k s (hls (i + 1) (by omega))
      (fun f hf => hok f (mem_allFiles_of_mem_level hf))

theorem sourceRuns_flatten (st : DbState) :
    (sourceRuns st).flatten = st.mem ++ st.imm.getD []
      ++ ((st.level 0).mergeSort (fun a b => decide (a.num ≥ b.num))).flatMap (·.run)
      ++ (st.levels.drop 1).flatten.flatMap (·.run) := by
  unfold sourceRuns
  simp only [List.flatten_append, flatten_map_flatMap]
  congr 1
  congr 1
  cases st.imm <;> simp

theorem allFiles_eq (st : DbState) : allFiles st = st.level 0 ++ (st.levels.drop 1).flatten := by
  unfold allFiles DbState.level
  cases st.levels <;> rfl

theorem allEntries_eq (st : DbState) :
    allEntries st = st.mem ++ st.imm.getD [] ++ (st.level 0).flatMap (·.run)
      ++ (st.levels.drop 1).flatten.flatMap (·.run) := by
  unfold allEntries
  rw [allFiles_eq, List.flatMap_append, List.append_assoc, List.append_assoc, List.append_assoc]

theorem sourceRuns_flatten_perm (st : DbState) :
    (sourceRuns st).flatten.Perm (allEntries st) := by
  rw [sourceRuns_flatten, allEntries_eq]
  exact List.Perm.append_right _ (List.Perm.append_left _
    (List.Perm.flatMap_right _ (List.mergeSort_perm _ _)))

theorem mem_sourceRuns_flatten_iff {st : DbState} {e : Entry} :
    e ∈ (sourceRuns st).flatten ↔ e ∈ allEntries st :=
  (sourceRuns_flatten_perm st).mem_iff

theorem sourceRuns_sorted {c : Cmp} {st : DbState} (h : Inv c st) :
    ∀ r ∈ sourceRuns st, RunSorted c r := by
  intro r hr
  simp only [sourceRuns, drop_one_levels h.nlevels, List.mem_append, List.mem_cons, List.not_mem_nil,
    or_false, Option.mem_toList, List.mem_map, List.mem_mergeSort, List.mem_range] at hr
  rcases hr with ((rfl | hi) | ⟨f, hf, rfl⟩) | ⟨fs, ⟨i, _, rfl⟩, rfl⟩
  · exact h.memSorted
  · exact h.immSorted r hi
  · exact (h.filesOk f (mem_allFiles_of_mem_level hf)).1
  · exact levelRun_sorted c _ (h.levelsSorted (i + 1) (Nat.succ_pos i))
      (fun f hf => h.filesOk f (mem_allFiles_of_mem_level hf))

theorem sourceRuns_kinds {c : Cmp} {st : DbState} (h : Inv c st) :
    ∀ r ∈ sourceRuns st, ∀ e ∈ r, e.kind ≤ 1 := fun r hr e he =>
  h.kinds e (mem_sourceRuns_flatten_iff.mp (List.mem_flatten.mpr ⟨r, hr, he⟩))

theorem l0_seqDisj {c : Cmp} {st : DbState} (h : Inv c st) :
    ((st.level 0).mergeSort (fun a b => decide (a.num ≥ b.num))).Pairwise
      (fun f g => SeqDisj c f.run g.run) := by
  have h1 := h.recency
  unfold sourceRuns at h1
  have h2 := (List.pairwise_append.mp (List.pairwise_append.mp h1).1).2.1
  exact (List.pairwise_map.mp h2).imp NewerThan.seqDisj

theorem getEntry_eq_newestVisible (c : Cmp) (st : DbState) (h : Inv c st) (k : Bytes) (s : Nat) :
    getEntry c st k s = newestVisible c (allEntries st) k s := by
  rw [getEntry_eq_findSome_sourceRuns c st k s h.nlevels h.filesOk h.levelsSorted,
    firstHit_eq_newest c (sourceRuns st) k s h.recency (sourceRuns_sorted h) (sourceRuns_kinds h),
    sourceRuns_flatten, allEntries_eq]
  simp only [newestVisible_append]
  rw [newestVisible_flatMap_perm c k s (List.mergeSort_perm _ _) (l0_seqDisj h)]

theorem levelsSorted_of_range {c : Cmp} {st : DbState} (hn : st.levels.length = 7)
    (h : ∀ l ∈ List.range 7, 1 ≤ l → LevelSorted c (st.level l)) :
    ∀ l, 1 ≤ l → LevelSorted c (st.level l) := by
  intro l hl
  by_cases hl7 : l < 7
  · exact h l (List.mem_range.mpr hl7) hl
  · rw [level_eq_nil_of_ge (by omega)]; exact List.Pairwise.nil

theorem ite_some_none {p : Prop} [Decidable p] {a : String} {b : Option String}
    (h : (if ¬ p then some a else b) = none) : p ∧ b = none := by
  by_cases hp : p
  · rw [if_neg (not_not_intro hp)] at h; exact ⟨hp, h⟩
  · rw [if_pos hp] at h; cases h

theorem invCheck_sound (c : Cmp) (st : DbState) (h : invCheck c st = none) : Inv c st := by
  unfold invCheck at h
  obtain ⟨h1, h⟩ := ite_some_none (p := st.levels.length = 7) h
  obtain ⟨h2, h⟩ := ite_some_none h
  obtain ⟨h3, h⟩ := ite_some_none h
  obtain ⟨h4, h⟩ := ite_some_none h
  obtain ⟨h5, h⟩ := ite_some_none h
  obtain ⟨h6, h⟩ := ite_some_none h
  obtain ⟨h7, h⟩ := ite_some_none h
  obtain ⟨h8, h⟩ := ite_some_none h
  obtain ⟨h9, h⟩ := ite_some_none h
  obtain ⟨h10, h⟩ := ite_some_none h
  obtain ⟨h11, _⟩ := ite_some_none h
  exact ⟨h1, h2, h3, h4, levelsSorted_of_range h1 h5, h6, h7, h8, h9, h10, h11⟩

end Lcdb.Lsm
