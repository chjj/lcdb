/-
  Packaging of the block-iterator theorems for the table proofs: over a canonical block
  (`CanonBlock data es`) with sorted keys the iterator returned by `blockIterCreate data` is a
  cursor over `es` (`BlockCtx.simL`, for each restart interval that gives these bytes).  The
  `BlockCtx.*_at` lemmas give the single steps over `BlockAt`, the relation with the interval
  hidden: `pos_at` is `first` and `last`, `step_at` is `next` and `prev`, by direction (`Way`).
-/
import LcdbModel.Lemmas.TableDefs
import LcdbModel.Lemmas.BlockIter
import LcdbModel.Lemmas.BlockBuild
import LcdbModel.Lemmas.InternalKey
import LcdbModel.Lemmas.TablePartition
import LcdbModel.Lemmas.TwoIter
namespace Lcdb

/-- hypotheses under which the iterator over `data` is a cursor over `es` -/
structure BlockCtx (c : BlockCmp) (data : Bytes) (es : List (Bytes × Bytes)) : Prop where
  canon : CanonBlock data es
  sizes : ∀ e ∈ es, e.1.length < 2 ^ 32 ∧ e.2.length < 2 ^ 32
  total : data.length < 2 ^ 32
  laws : OrdLaws c.cmp
  sorted : SortedKeys c.cmp (es.map (·.1))
  ikeys : c.internal = true → ∀ e ∈ es, 8 ≤ e.1.length

/-- `ti` iterates over the canonical block `data` of `es`, stands at cursor position `p`, and
    has not flagged corruption -/
def BlockAt (data : Bytes) (es : List (Bytes × Bytes)) (ti : TIter) (p : Option Nat) : Prop :=
  ∃ ri, data = blockBuild (ri + 1) es ∧
    TRel data (encAll (ri + 1) 0 [] es).length ((restartsGo (ri + 1) 0 0 [] es).length + 1)
      (layout (ri + 1) 0 0 [] es) ti p

section
variable {c : BlockCmp} {data : Bytes} {es : List (Bytes × Bytes)}

theorem BlockCtx.wf (h : BlockCtx c data es) (ri : Nat) (hd : data = blockBuild (ri + 1) es) :
    WfBlock data (encAll (ri + 1) 0 [] es).length ((restartsGo (ri + 1) 0 0 [] es).length + 1)
        (layout (ri + 1) 0 0 [] es) ∧
      entriesOf data (layout (ri + 1) 0 0 [] es) = es := by
  subst hd
  exact blockBuild_wf (ri + 1) es (by omega) h.sizes h.total

theorem BlockCtx.simL (h : BlockCtx c data es) (ri : Nat) (hd : data = blockBuild (ri + 1) es) :
    IterOps.Sim (blockIterOps c) (cursorOps c.cmp (es.map (·.1)))
      (TRel data (encAll (ri + 1) 0 [] es).length ((restartsGo (ri + 1) 0 0 [] es).length + 1)
        (layout (ri + 1) 0 0 [] es))
      (fun x => c.internal = true → 8 ≤ x.length) := by
  obtain ⟨hw, hes⟩ := h.wf ri hd
  exact hw.sim_entries hes c h.laws h.sorted h.ikeys

theorem BlockCtx.create (h : BlockCtx c data es) : BlockAt data es (blockIterCreate data) none := by
  obtain ⟨ri, _, hd⟩ := h.canon
  exact ⟨ri, hd, (h.wf ri hd).1.create⟩

theorem BlockAt.obs (h : BlockCtx c data es) {ti : TIter} {p : Option Nat} (hr : BlockAt data es ti p) :
    ti.status = .ok ∧ ti.valid = p.isSome ∧
      ∀ i, p = some i → ∃ hi : i < es.length, ti.key = es[i].1 ∧ ti.value = es[i].2 := by
  obtain ⟨ri, hd, hr⟩ := hr
  obtain ⟨hw, hes⟩ := h.wf ri hd
  exact hr.obs hw hes

/- `cursorOps` never fails: each of its operations is `fun _ => some _`, so the cursor's next
   position is read off the simulation (`cursorOps_edge`, `cursorOps_step`, `Option.some.inj`). -/

theorem BlockCtx.pos_at (h : BlockCtx c data es) (w : Way) {ti : TIter} {p : Option Nat}
    (hr : BlockAt data es ti p) :
    ∃ ti', (w.dir c).pos ti = some ti' ∧ BlockAt data es ti' (w.edge es.length) := by
  obtain ⟨ri, hd, hr⟩ := hr
  obtain ⟨s', t', h1, h2, h3⟩ := (h.simL ri hd).edge w ti p hr
  rw [cursorOps_edge, List.length_map] at h2
  rw [← Option.some.inj h2] at h3
  exact ⟨s', by cases w <;> exact h1, ri, hd, h3⟩

theorem BlockCtx.step_at (h : BlockCtx c data es) (w : Way) {ti : TIter} {j : Nat}
    (hr : BlockAt data es ti (some j)) :
    ∃ ti', (w.dir c).step ti = some ti' ∧ BlockAt data es ti' (w.adv es.length j) := by
  have hv := (BlockAt.obs h hr).2.1
  obtain ⟨ri, hd, hr⟩ := hr
  obtain ⟨s', t', h1, h2, h3⟩ := (h.simL ri hd).step w ti (some j) hr hv
  rw [cursorOps_step, List.length_map] at h2
  rw [← Option.some.inj h2] at h3
  exact ⟨s', by cases w <;> exact h1, ri, hd, h3⟩

theorem BlockCtx.seek_at (h : BlockCtx c data es) {ti : TIter} {p : Option Nat}
    (hr : BlockAt data es ti p) (x : Bytes) (hx : c.internal = true → 8 ≤ x.length) :
    ∃ ti', TIter.seek c x ti = some ti' ∧
      BlockAt data es ti' ((es.map (·.1)).findIdx? (fun k => c.cmp k x != .lt)) := by
  obtain ⟨ri, hd, hr⟩ := hr
  obtain ⟨s', t', h1, h2, h3⟩ := (h.simL ri hd).seek ti p x hr hx
  rw [← Option.some.inj h2] at h3
  exact ⟨s', h1, ri, hd, h3⟩

end

theorem canonBlock_build (iv : Nat) (es : List (Bytes × Bytes)) (h : 1 ≤ iv) :
    CanonBlock (blockBuild iv es) es := by
  by_cases hle : iv ≤ es.length + 1
  · exact ⟨iv - 1, by omega, by rw [Nat.sub_add_cancel h]⟩
  · refine ⟨es.length, by omega, ?_⟩
    unfold blockBuild
    rw [blockGenAddAll_interval_irrel iv (es.length + 1) es blockGenInit]
    · show 0 + es.length ≤ iv; omega
    · show 0 + es.length ≤ es.length + 1; omega

theorem seek_single (iv : Nat) (k v : Bytes) (hiv : 1 ≤ iv) (hk : k.length < 2 ^ 32) (hv : v.length < 2 ^ 32)
    (hsz : (blockBuild iv [(k, v)]).length < 2 ^ 32) :
    ∃ it, (blockIterCreate (blockBuild iv [(k, v)])).seek bytewiseBlockCmp k = some it ∧
      it.valid = true ∧ it.key = k ∧ it.value = v := by
  have hc : BlockCtx bytewiseBlockCmp (blockBuild iv [(k, v)]) [(k, v)] :=
    { canon := canonBlock_build iv _ hiv
      sizes := fun e he => by rw [List.mem_singleton.mp he]; exact ⟨hk, hv⟩
      total := hsz
      laws := ordLaws_bytesCmp
      sorted := List.pairwise_singleton _ _
      ikeys := fun h => nomatch h }
  obtain ⟨it, h1, h2⟩ := hc.seek_at hc.create k fun h => nomatch h
  have hfi : ([(k, v)].map (·.1)).findIdx? (fun k' => bytewiseBlockCmp.cmp k' k != .lt) = some 0 := by
    simp [bytewiseBlockCmp, ordLaws_bytesCmp.refl k]
  rw [hfi] at h2
  obtain ⟨_, hv1, hobs⟩ := BlockAt.obs hc h2
  obtain ⟨_, hk', hv'⟩ := hobs 0 rfl
  exact ⟨it, h1, hv1, hk', hv'⟩

end Lcdb
