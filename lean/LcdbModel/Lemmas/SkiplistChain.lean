/-
  From the invariant over nodes to the keys in iteration order (`Good`): the empty list, inserts with given heights
  and with heights drawn from the generator of `util/random.c`; the iterator operations of Model/Skiplist.lean in
  terms of the ordered list of nodes.
-/
import LcdbModel.Lemmas.SkiplistInsert
import LcdbModel.Lemmas.ListBasic
namespace Lcdb.Skiplist
variable {α : Type} {cmp : α → α → Ordering} {sl : SkipList α} {L : List Nat}

theorem Linked.chainFrom {lvl : Nat} : ∀ (fuel x : Nat) (r : List Nat), Linked (fun y => getNext sl y lvl) (x :: r) →
    r.length ≤ fuel → chainFrom sl lvl fuel x = r
  | 0, _, [], _, _ => rfl
  | fuel + 1, _, [], h, _ => by simp only [Skiplist.chainFrom, h.1]; rfl
  | fuel + 1, _, y :: r, h, hf => by
    simp only [Skiplist.chainFrom, h.1, List.head?_cons]
    rw [Linked.chainFrom fuel y r h.2 (Nat.le_of_succ_le_succ hf)]

theorem chain_eq (h : Inv cmp sl L) (lvl : Nat) (hl : lvl < kMaxHeight) :
    chain sl lvl = L.filter (fun y => decide (lvl < heightOf sl y)) := by
  have := h.linked lvl
  rw [List.filter_cons, if_pos (by rw [h.headHeight]; exact decide_eq_true hl)] at this
  exact this.chainFrom _ 0 _ (Nat.le_trans (List.length_filter_le _ L) (by have := h.len; omega))

theorem chain0_eq (h : Inv cmp sl L) : chain sl 0 = L := by
  rw [chain_eq h 0 (by decide), List.filter_eq_self]
  intro a ha
  have := (h.heights a ha).1
  simp; omega

theorem init_inv (cmp : α → α → Ordering) : Inv cmp (SkipList.init : SkipList α) [] := by
  refine ⟨rfl, ?_, ?_, rfl, by simp, by simp, by simp, ⟨by simp [SkipList.init], by simp [SkipList.init, kMaxHeight]⟩, .inl rfl, ?_⟩
  · simp [heightOf, SkipList.init, kMaxHeight]
  · intro x; simp [SkipList.init]; omega
  · intro pre x suf hs lvl hl
    cases pre with
    | nil =>
      simp at hs
      obtain ⟨rfl, rfl⟩ := hs
      simp [heightOf, SkipList.init] at hl
      simp [getNext, SkipList.init, hl]
    | cons a t => simp at hs

/-- `sl` is a well-formed skiplist whose keys, in iteration order, are `ks` -/
def Good (cmp : α → α → Ordering) (sl : SkipList α) (ks : List α) : Prop :=
  ∃ L, Inv cmp sl L ∧ L.filterMap (keyOf sl) = ks

theorem Good.keys {ks : List α} (h : Good cmp sl ks) : keys sl = ks := by
  obtain ⟨L, hi, hk⟩ := h
  unfold Skiplist.keys
  rw [chain0_eq hi, hk]

theorem init_good (cmp : α → α → Ordering) : Good cmp (SkipList.init : SkipList α) [] := ⟨[], init_inv cmp, rfl⟩

/-- ordered insertion (the shape of `runInsert` of Model/Lsm.lean) -/
def ordInsert (cmp : α → α → Ordering) (k : α) : List α → List α
  | [] => [k]
  | x :: xs => if cmp k x == .lt then k :: x :: xs else x :: ordInsert cmp k xs

theorem ordInsert_split (cmp : α → α → Ordering) (k : α) (As Bs : List α) (hA : ∀ a ∈ As, cmp k a ≠ .lt)
    (hB : ∀ b ∈ Bs, cmp k b = .lt) : ordInsert cmp k (As ++ Bs) = As ++ k :: Bs := by
  induction As with
  | nil =>
    cases Bs with
    | nil => rfl
    | cons b t => simp [ordInsert, hB b List.mem_cons_self]
  | cons a t ih =>
    have := hA a (by simp)
    simp only [List.cons_append, ordInsert, this, beq_iff_eq, if_false]
    rw [ih (fun x hx => hA x (by simp [hx]))]

theorem ordInsert_perm (cmp : α → α → Ordering) (k : α) (l : List α) : (ordInsert cmp k l).Perm (k :: l) := by
  induction l with
  | nil => exact .refl _
  | cons a t ih =>
    unfold ordInsert
    split
    · exact .refl _
    · exact (ih.cons a).trans (.swap k a t)

theorem insert_good {ks : List α} (hc : CmpOk cmp) (h : Good cmp sl ks) (k : α)
    (height : Nat) (hh : 1 ≤ height ∧ height ≤ kMaxHeight) (hnew : ∀ x ∈ ks, cmp k x ≠ .eq) :
    ∃ s', insert cmp sl k height = some s' ∧ Good cmp s' (ordInsert cmp k ks) ∧ s'.rnd = sl.rnd ∧
      s'.nodes.length = sl.nodes.length + 1 := by
  obtain ⟨L, hi, hk⟩ := h
  obtain ⟨A, B, rfl, hA, hB⟩ := sorted_split hc hi k
  obtain ⟨s', hrun, hinv, hrnd, hlen, hkey, hB'⟩ := insert_ok hc hi k height hh A B rfl hA hB
    (fun b kb hb hkb => hnew kb (hk ▸ List.mem_filterMap.mpr ⟨b, List.mem_append_right A (List.mem_of_mem_head? hb), hkb⟩))
  refine ⟨s', hrun, ⟨A ++ sl.nodes.length :: B, hinv, ?_⟩, hrnd, hlen⟩
  have hkeep : ∀ y ∈ A ++ B, keyOf s' y = keyOf sl y := fun y hy => by
    have := (hi.mem_iff y).mp hy
    rw [hkey, if_neg (by omega)]
  rw [List.filterMap_append, List.filterMap_cons, hkey, if_pos rfl,
    filterMap_congr' (fun y hy => hkeep y (List.mem_append_left B hy)),
    filterMap_congr' (fun y hy => hkeep y (List.mem_append_right A hy)), ← hk, List.filterMap_append]
  symm
  apply ordInsert_split
  · intro a ha
    obtain ⟨y, hy, hky⟩ := List.mem_filterMap.mp ha
    obtain ⟨ka, h1, h2⟩ := afterKey_true (hA y hy)
    rw [hky] at h1; cases h1
    rw [hc.gt_of_lt h2]; simp
  · intro b hb
    obtain ⟨y, hy, hky⟩ := List.mem_filterMap.mp hb
    obtain ⟨kb, h1, h2⟩ := hB' y hy
    rw [hky] at h1; cases h1
    exact h2

def insertMany (cmp : α → α → Ordering) : SkipList α → List (α × Nat) → Option (SkipList α)
  | sl, [] => some sl
  | sl, (k, h) :: rest =>
    match insert cmp sl k h with
    | none => none
    | some s' => insertMany cmp s' rest

theorem insertMany_good (hc : CmpOk cmp) (khs : List (α × Nat)) (sl : SkipList α) (ks : List α) (h : Good cmp sl ks)
    (hh : ∀ kh ∈ khs, 1 ≤ kh.2 ∧ kh.2 ≤ kMaxHeight)
    (hd : (ks ++ khs.map (·.1)).Pairwise (fun a b => cmp a b ≠ .eq)) :
    ∃ s', insertMany cmp sl khs = some s' ∧ Good cmp s' ((khs.map (·.1)).foldl (fun r k => ordInsert cmp k r) ks) ∧
      s'.nodes.length = sl.nodes.length + khs.length := by
  induction khs generalizing sl ks with
  | nil => exact ⟨sl, rfl, h, rfl⟩
  | cons kh rest ih =>
    obtain ⟨k, ht⟩ := kh
    obtain ⟨s1, hrun, hg, _, hlen⟩ := insert_good hc h k ht (hh (k, ht) (by simp))
      (fun x hx e => (List.pairwise_append.mp hd).2.2 x hx k List.mem_cons_self (by rw [hc.swap, e]; rfl))
    -- the keys present and the keys to come stay pairwise non-equal: the relation is symmetric, the lists are permutations
    have hd' : (ordInsert cmp k ks ++ rest.map (·.1)).Pairwise (fun a b => cmp a b ≠ .eq) :=
      (((ordInsert_perm cmp k ks).append_right _).trans List.perm_middle.symm).pairwise_iff
        (fun h e => h (by rw [hc.swap, e]; rfl)) |>.mpr hd
    obtain ⟨s', hrun', hg', hlen'⟩ := ih s1 _ hg (fun x hx => hh x (by simp [hx])) hd'
    refine ⟨s', by simp [insertMany, hrun, hrun'], hg', ?_⟩
    rw [hlen', hlen]; simp; omega

theorem randM_not_dvd {s t : Nat} (hs : 1 ≤ s) (hsM : s < randM) : s * randA ≠ randM * t := by
  intro h
  have hco : Nat.Coprime randM randA := by decide
  have := Nat.le_of_dvd hs (hco.dvd_of_dvd_mul_right ⟨t, h⟩)
  omega

/-- one Park–Miller step on the quotient `q` and remainder `r` of `p = s * A` by `2^31`: `q + r ≡ p (mod M)` since
    `2^31 ≡ 1`, it does not overflow 32 bits, and it is neither `0` nor `M` because `M` does not divide `p` -/
theorem parkMiller_range {p q r : Nat} (hp : 1 ≤ p) (hpM : p < 2147483647 * 16807) (hdm : p = 2147483648 * q + r)
    (hr : r < 2147483648) (hM : p ≠ 2147483647 * (q + 1)) :
    q + r < 4294967296 ∧ 1 ≤ (if q + r > 2147483647 then q + r - 2147483647 else q + r) ∧
      (if q + r > 2147483647 then q + r - 2147483647 else q + r) < 2147483647 := by
  split <;> omega

/-- so the PRNG never reaches its fixed points 0 and M -/
theorem randNext_range (s : Nat) (h : 1 ≤ s ∧ s < randM) : 1 ≤ randNext s ∧ randNext s < randM := by
  have hp : s * randA < 2 ^ 64 := by unfold randA randM at *; omega
  have h1 := parkMiller_range (p := s * randA) (by unfold randA; omega) (by unfold randA randM at *; omega)
    (Nat.div_add_mod (s * randA) (2 ^ 31)).symm (Nat.mod_lt _ (by decide)) (randM_not_dvd h.1 h.2)
  unfold randNext
  simp only [Nat.mod_eq_of_lt hp, Nat.mod_eq_of_lt h1.1]
  exact h1.2

theorem randInit_range (seed : Nat) : 1 ≤ randInit seed ∧ randInit seed < randM := by
  unfold randInit randM
  simp only
  split <;> omega

theorem randHeightGo_range (fuel h s : Nat) (hs : 1 ≤ s ∧ s < randM) :
    h ≤ (randHeightGo fuel h s).2 ∧ (randHeightGo fuel h s).2 ≤ h + fuel ∧
      1 ≤ (randHeightGo fuel h s).1 ∧ (randHeightGo fuel h s).1 < randM := by
  induction fuel generalizing h s with
  | zero => simp [randHeightGo, hs]
  | succ fuel ih =>
    have hn := randNext_range s hs
    simp only [randHeightGo, randOneIn, randUniform]
    simp only [show (4 : Nat) ≠ 0 by decide, if_false]
    split
    · have := ih (h + 1) (randNext s) hn
      omega
    · simp; omega

theorem randomHeight_ok (s : Nat) (hs : 1 ≤ s ∧ s < randM) :
    1 ≤ (randomHeight s).2 ∧ (randomHeight s).2 ≤ kMaxHeight ∧ 1 ≤ (randomHeight s).1 ∧ (randomHeight s).1 < randM := by
  have := randHeightGo_range (kMaxHeight - 1) 1 s hs
  unfold randomHeight
  simp only [kMaxHeight] at *
  omega

theorem insertRand_good {ks : List α} (hc : CmpOk cmp) (h : Good cmp sl ks)
    (hr : 1 ≤ sl.rnd ∧ sl.rnd < randM) (k : α) (hnew : ∀ x ∈ ks, cmp k x ≠ .eq) :
    ∃ s', insertRand cmp sl k = some s' ∧ Good cmp s' (ordInsert cmp k ks) ∧ 1 ≤ s'.rnd ∧ s'.rnd < randM := by
  have hh := randomHeight_ok sl.rnd hr
  rw [insertRand]
  generalize randomHeight sl.rnd = p at hh
  obtain ⟨s1, height⟩ := p
  obtain ⟨s', hrun, hg, hrnd, _⟩ := insert_good hc (h.imp fun _ hL => ⟨hL.1.setRnd s1, hL.2⟩) k height ⟨hh.1, hh.2.1⟩ hnew
  exact ⟨s', hrun, hg, hrnd ▸ hh.2.2⟩

theorem iterFirst_spec (h : Inv cmp sl L) :
    iterFirst sl = some L.head? := by
  unfold iterFirst
  rw [h.next [] 0 L rfl 0 (by rw [h.headHeight]; decide), find?_pos_eq_head? h L (fun _ hy => hy)]

theorem iterNext_spec (h : Inv cmp sl L) (i : Nat) (hi : i < L.length) :
    iterNext sl (some L[i]) = some L[i + 1]? := by
  have hsplit : 0 :: L = (0 :: L.take i) ++ L[i] :: L.drop (i + 1) := by
    rw [List.cons_append, ← List.drop_eq_getElem_cons hi, List.take_append_drop]
  have hmem : L[i] ∈ L := List.getElem_mem hi
  simp only [iterNext]
  rw [h.next _ _ _ hsplit 0 (by have := (h.heights _ hmem).1; omega),
    find?_pos_eq_head? h _ (fun y hy => List.mem_of_mem_drop hy), List.head?_drop]

theorem iterLast_spec (h : Inv cmp sl L) :
    iterLast sl = some L.getLast? := by
  obtain ⟨p, hp1, hp2⟩ := findLast_of_inv h
  unfold iterLast
  rw [hp1]
  simp only [Option.map_some]
  cases L with
  | nil => simp at hp2; simp [← hp2]
  | cons a t =>
    rw [List.getLast?_cons_cons] at hp2
    rw [hp2]
    have : p ∈ a :: t := List.mem_of_getLast? hp2
    have := (h.mem_iff p).mp this
    rw [if_neg (by omega)]

theorem iterSeek_spec (hc : CmpOk cmp) (h : Inv cmp sl L) (k : α) :
    iterSeek cmp sl k = some (L.find? fun y => afterKey cmp sl k y != some true) := by
  obtain ⟨A, B, rfl, hA, hB⟩ := sorted_split hc h k
  obtain ⟨prev, hrun, _⟩ := findGE_of_split h k A B rfl hA hB
  rw [iterSeek, hrun, find?_append_of_all_false (fun a ha => by simp [hA a ha])]
  cases B with
  | nil => rfl
  | cons b t => simp [hB b (by simp)]

theorem iterPrev_spec (hc : CmpOk cmp) (h : Inv cmp sl L)
    (i : Nat) (hi : i < L.length) :
    iterPrev cmp sl (some L[i]) = some (if i = 0 then none else L[i - 1]?) := by
  have hmem : L[i] ∈ L := List.getElem_mem hi
  obtain ⟨ki, hki⟩ := h.hasKey _ hmem
  have hsplit : L = L.take i ++ L.drop i := (List.take_append_drop i L).symm
  have hsorted := h.sorted
  rw [hsplit, List.pairwise_append] at hsorted
  have hdrop : L.drop i = L[i] :: L.drop (i + 1) := List.drop_eq_getElem_cons hi
  have hA : ∀ a ∈ L.take i, afterKey cmp sl ki a = some true := by
    intro a ha
    obtain ⟨ka, kb, h1, h2, h3⟩ := hsorted.2.2 a ha L[i] (by rw [hdrop]; exact List.mem_cons_self)
    rw [hki] at h2; cases h2
    simp [afterKey, h1, h3]
  have hB : ∀ b ∈ L.drop i, afterKey cmp sl ki b = some false := by
    intro b hb
    rw [hdrop] at hb
    rcases List.mem_cons.mp hb with rfl | hb
    · simp [afterKey, hki, hc.refl]
    · have hs2 := hsorted.2.1
      rw [hdrop, List.pairwise_cons] at hs2
      obtain ⟨ka, kb, h1, h2, h3⟩ := hs2.1 b hb
      rw [hki] at h1; cases h1
      have := hc.gt_of_lt h3
      simp [afterKey, h2, this]
  obtain ⟨p, hp1, hp2⟩ := findLT_of_split h ki _ _ hsplit hA hB
  -- the last node of `0 :: L.take i` sits at index `i`
  rw [List.getLast?_eq_getElem?, List.length_cons, List.length_take, Nat.min_eq_left (Nat.le_of_lt hi),
    Nat.add_sub_cancel] at hp2
  simp only [iterPrev, hki, hp1, Option.map_some]
  cases i with
  | zero => cases hp2; rfl
  | succ j =>
    rw [List.getElem?_cons_succ, List.getElem?_take_of_lt (Nat.lt_succ_self j)] at hp2
    have := (h.mem_iff p).mp (List.mem_of_getElem? hp2)
    rw [if_neg (by omega), if_neg (Nat.succ_ne_zero j), Nat.add_sub_cancel, hp2]

end Lcdb.Skiplist
