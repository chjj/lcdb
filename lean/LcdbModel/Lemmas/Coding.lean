/-
  Lemmas about Model/Coding.lean: `fixedEnc` and `fixedDec` are inverse to each other; the decoder loop
  `varintGo` inverts `varintEnc` for any width, shift and accumulator, and how far into its input it reaches.
-/
import LcdbModel.Model.Coding
namespace Lcdb

theorem fixedEnc_length (w n : Nat) : (fixedEnc w n).length = w := by
  induction w generalizing n with
  | zero => simp [fixedEnc]
  | succ w ih => simp [fixedEnc, ih]

theorem fixedDec_fixedEnc (w n : Nat) : fixedDec (fixedEnc w n) = n % 256 ^ w := by
  induction w generalizing n with
  | zero => simp [fixedEnc, fixedDec, Nat.mod_one]
  | succ w ih =>
    simp only [fixedEnc, fixedDec, ih, UInt8.toNat_ofNat']
    have h1 : n % 256 % 2 ^ 8 = n % 256 := by omega
    have h2 : 256 ^ (w + 1) = 256 * 256 ^ w := by rw [Nat.pow_succ, Nat.mul_comm]
    rw [h1, h2, Nat.mod_mul]

theorem fixedEnc_fixedDec (bs : Bytes) : fixedEnc bs.length (fixedDec bs) = bs := by
  induction bs with
  | nil => rfl
  | cons b bs ih =>
    have hb := UInt8.toNat_lt_size b
    simp only [UInt8.size] at hb
    simp only [fixedDec, List.length_cons, fixedEnc]
    have h1 : (b.toNat + 256 * fixedDec bs) % 256 = b.toNat := by omega
    have h2 : (b.toNat + 256 * fixedDec bs) / 256 = fixedDec bs := by omega
    rw [h1, h2, ih, UInt8.ofNat_toNat]

theorem fixedDec_lt (bs : Bytes) : fixedDec bs < 256 ^ bs.length := by
  have h := fixedDec_fixedEnc bs.length (fixedDec bs)
  rw [fixedEnc_fixedDec] at h
  exact h ▸ Nat.mod_lt _ (Nat.pow_pos (by decide))

theorem fixedDec_inj (a b : Bytes) (hl : a.length = b.length) (h : fixedDec a = fixedDec b) : a = b := by
  rw [← fixedEnc_fixedDec a, ← fixedEnc_fixedDec b, hl, h]

theorem ofNat32_fixedDec_inj (a b : Bytes) (ha : a.length = 4) (hb : b.length = 4)
    (h : BitVec.ofNat 32 (fixedDec a) = BitVec.ofNat 32 (fixedDec b)) : a = b := by
  have h1 := fixedDec_lt a
  have h2 := fixedDec_lt b
  rw [ha] at h1
  rw [hb] at h2
  have h3 := congrArg BitVec.toNat h
  rw [BitVec.toNat_ofNat, BitVec.toNat_ofNat, Nat.mod_eq_of_lt (by omega), Nat.mod_eq_of_lt (by omega)] at h3
  exact fixedDec_inj a b (ha.trans hb.symm) h3

theorem ofNat32_fixedDec_fixedEnc (w : BitVec 32) : BitVec.ofNat 32 (fixedDec (fixedEnc 4 w.toNat)) = w := by
  rw [fixedDec_fixedEnc, Nat.mod_eq_of_lt w.isLt, BitVec.ofNat_toNat, BitVec.setWidth_eq]

theorem le16_toNat (n : Nat) (h : n < 65536) :
    (UInt8.ofNat (n % 256)).toNat + 256 * (UInt8.ofNat (n / 256)).toNat = n := by
  rw [UInt8.toNat_ofNat', UInt8.toNat_ofNat']
  omega

theorem flatMap_fixedEnc4_length (xs : List Nat) : (xs.flatMap (fixedEnc 4)).length = 4 * xs.length := by
  rw [List.length_flatMap, List.map_congr_left (fun x _ => fixedEnc_length 4 x), List.map_const',
    List.sum_replicate_nat, Nat.mul_comm]

theorem fixedDec_word (D T : Bytes) (xs : List Nat) (i : Nat) (hi : i < xs.length) :
    fixedDec (((D ++ xs.flatMap (fixedEnc 4) ++ T).drop (D.length + i * 4)).take 4) = xs[i] % 2 ^ 32 := by
  have hl : (D ++ (xs.take i).flatMap (fixedEnc 4)).length = D.length + i * 4 := by
    rw [List.length_append, flatMap_fixedEnc4_length, List.length_take_of_le (Nat.le_of_lt hi), Nat.mul_comm]
  -- `xs` split at `i`: the words before `xs[i]` take `i * 4` bytes (`hl`), so the `drop` removes exactly them
  conv in xs.flatMap _ =>
    rw [← List.take_append_drop i xs, List.drop_eq_getElem_cons hi, List.flatMap_append, List.flatMap_cons]
  rw [← hl, ← List.append_assoc D, List.append_assoc _ _ T, List.drop_left, List.append_assoc,
    List.take_left' (fixedEnc_length 4 _), fixedDec_fixedEnc]

theorem varintEnc_lt (n : Nat) (h : n < 128) : varintEnc n = [UInt8.ofNat n] := by
  rw [varintEnc]; simp [h]

theorem varintEnc_ge (n : Nat) (h : ¬ n < 128) :
    varintEnc n = UInt8.ofNat (n % 128 + 128) :: varintEnc (n / 128) := by
  rw [varintEnc]; simp [h]

theorem varintEnc_length_pos (n : Nat) : 1 ≤ (varintEnc n).length := by
  by_cases h : n < 128
  · simp [varintEnc_lt n h]
  · simp [varintEnc_ge n h]

theorem varintEnc_length_le (k n : Nat) (h : n < 128 ^ (k + 1)) :
    (varintEnc n).length ≤ k + 1 := by
  fun_induction varintEnc n generalizing k
  · exact Nat.succ_le_succ (Nat.zero_le k)
  · rename_i n hn ih
    cases k with
    | zero => omega
    | succ k =>
      rw [Nat.pow_succ] at h
      exact Nat.succ_le_succ (ih k (by omega))

theorem varintGo_varintEnc (w : Nat) (n : Nat) :
    ∀ (fuel shift acc : Nat) (rest : Bytes), (varintEnc n).length ≤ fuel →
      varintGo w fuel shift acc (varintEnc n ++ rest)
        = some ((acc + n * 2 ^ shift) % 2 ^ w, rest) := by
  intro fuel shift acc rest hf
  fun_induction varintEnc n generalizing fuel shift acc
  all_goals
    obtain ⟨fuel, rfl⟩ : ∃ k, fuel = k + 1 := ⟨fuel - 1, by rw [List.length_cons] at hf; omega⟩
  · rename_i n h
    have h1 : (UInt8.ofNat n).toNat = n := by rw [UInt8.toNat_ofNat']; omega
    rw [List.singleton_append, varintGo, h1, if_neg (by omega)]
  · rename_i n h ih
    have h1 : (UInt8.ofNat (n % 128 + 128)).toNat = n % 128 + 128 := by
      rw [UInt8.toNat_ofNat']; omega
    rw [List.length_cons] at hf
    rw [List.cons_append, varintGo, h1, if_pos (by omega),
      ih fuel _ _ (by omega), Nat.add_mod_right, Nat.mod_mod, Nat.add_assoc]
    have h4 : n % 128 * 2 ^ shift + n / 128 * 2 ^ (shift + 7) = n * 2 ^ shift := by
      rw [Nat.pow_add, Nat.mul_comm (2 ^ shift) (2 ^ 7), ← Nat.mul_assoc, ← Nat.add_mul]
      congr 1
      omega
    rw [h4]

theorem varintGo_consumes {w fuel shift acc : Nat} {bs : Bytes} {v : Nat} {rest : Bytes}
    (h : varintGo w fuel shift acc bs = some (v, rest)) :
    rest.length < bs.length ∧ v < 2 ^ w ∧ ∃ k, 1 ≤ k ∧ k ≤ fuel ∧ rest = bs.drop k := by
  fun_induction varintGo w fuel shift acc bs
  · cases h
  · cases h
  · rename_i ih
    obtain ⟨hl, hv, k, hk1, hk2, hk3⟩ := ih h
    exact ⟨Nat.lt_succ_of_lt hl, hv, k + 1, by omega, by omega, hk3⟩
  · cases h
    exact ⟨Nat.lt_succ_self _, Nat.mod_lt _ (Nat.two_pow_pos w), 1, Nat.le_refl 1, by omega, rfl⟩

theorem varintGo_take_none {w n m fuel shift acc : Nat} (hm : m < (varintEnc n).length) :
    varintGo w fuel shift acc ((varintEnc n).take m) = none := by
  induction m generalizing n fuel shift acc with
  | zero => cases fuel <;> rfl
  | succ m ih =>
    by_cases h : n < 128
    · rw [varintEnc_lt n h] at hm; exact absurd hm (by simp)
    · rw [varintEnc_ge n h] at hm ⊢
      cases fuel with
      | zero => rfl
      | succ fuel =>
        have hb : (UInt8.ofNat (n % 128 + 128)).toNat ≥ 128 := by
          rw [UInt8.toNat_ofNat']; omega
        rw [List.take_succ_cons, varintGo, if_pos hb]
        exact ih (Nat.lt_of_succ_lt_succ hm)

theorem varintGo_dropEnd {w fuel shift acc : Nat} {bs : Bytes} {d : Nat} (hd : d + fuel ≤ bs.length) :
    varintGo w fuel shift acc (bs.take (bs.length - d)) =
      (varintGo w fuel shift acc bs).map (fun r => (r.1, r.2.take (r.2.length - d))) := by
  induction fuel generalizing shift acc bs d with
  | zero => rfl
  | succ fuel ih =>
    cases bs with
    | nil => rw [List.length_nil] at hd; omega
    | cons b rest =>
      rw [List.length_cons] at hd
      rw [List.length_cons, Nat.sub_add_comm (by omega : d ≤ rest.length), List.take_succ_cons,
        varintGo, varintGo]
      by_cases hb : b.toNat ≥ 128
      · rw [if_pos hb, if_pos hb]; exact ih (by omega)
      · rw [if_neg hb, if_neg hb]; rfl

/-- One iteration of the decoder loop takes an accumulator below `2^shift` to one below `2^(shift+7)`; where
    that holds the `|` of the C code adds, as `varintGo` does.  Stated for the step alone: no lemma follows
    the bound through a run of `varintGo`. -/
theorem varintGo_acc_lt (shift acc : Nat) (b : UInt8) (h : acc < 2 ^ shift) :
    acc + (b.toNat % 128) * 2 ^ shift < 2 ^ (shift + 7) := by
  have hb : b.toNat % 128 ≤ 127 := by omega
  have : (b.toNat % 128) * 2 ^ shift ≤ 127 * 2 ^ shift := Nat.mul_le_mul_right _ hb
  rw [Nat.pow_add]; omega

end Lcdb
