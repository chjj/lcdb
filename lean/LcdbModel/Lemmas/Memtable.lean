/-
  The memtable of Model/Memtable.lean is a sorted run.  What `ldb_memtable_add` writes decodes to what went in, and the
  skiplist's comparator on such buffers is the internal-key order of the LSM model (`memKeyCmp_enc_lt`); so a memtable
  `Holds` a list of entries `es` when its skiplist is `Good` for their encodings, and every `ldb_memtable_add` of an
  entry with a fresh internal key (height given or drawn) inserts it at its place in that order (`mrunInsert`).
-/
import LcdbModel.Lemmas.SkiplistChain
import LcdbModel.Model.Memtable
import LcdbModel.Props.CodingProps
import LcdbModel.Props.KeyProps
namespace Lcdb.Memtable
open Lcdb Lcdb.Skiplist

theorem sliceRead_encodeEntry (uk : Bytes) (seq kind : Nat) (v : Bytes) (h : uk.length + 8 < 2 ^ 32) :
    sliceRead (encodeEntry uk seq kind v) = some (ikeyEnc uk seq kind, varintEnc v.length ++ v) := by
  have hl : (uk ++ fixedEnc 8 (packSeqType seq kind)).length = uk.length + 8 := by
    rw [List.length_append, fixedEnc_length]
  have := sliceRead_sliceEnc (uk ++ fixedEnc 8 (packSeqType seq kind)) (varintEnc v.length ++ v) (by rw [hl]; exact h)
  unfold sliceEnc at this
  rw [hl] at this
  exact this

theorem sliceRead_lp (v : Bytes) (hv : v.length < 2 ^ 32) : sliceRead (varintEnc v.length ++ v) = some (v, []) := by
  simpa [sliceEnc] using sliceRead_sliceEnc v [] hv

theorem decodeEntry_encodeEntry (uk : Bytes) (seq kind : Nat) (v : Bytes) (h : uk.length + 8 < 2 ^ 32)
    (hv : v.length < 2 ^ 32) : decodeEntry (encodeEntry uk seq kind v) = some (ikeyEnc uk seq kind, v) := by
  unfold decodeEntry
  rw [sliceRead_encodeEntry uk seq kind v h]
  simp [sliceRead_lp v hv]

theorem lpKey_encodeEntry (uk : Bytes) (seq kind : Nat) (v : Bytes) (h : uk.length + 8 < 2 ^ 32) :
    lpKey (encodeEntry uk seq kind v) = ikeyEnc uk seq kind := by
  unfold lpKey; rw [sliceRead_encodeEntry uk seq kind v h]

theorem lpKey_sliceEnc (ik : Bytes) (h : ik.length < 2 ^ 32) : lpKey (sliceEnc ik) = ik := by
  unfold lpKey sliceEnc; rw [sliceRead_lp ik h]

theorem lookupKey_eq (uk : Bytes) (seq : Nat) : lookupKey uk seq = sliceEnc (ikeyEnc uk seq valtypeSeek) := by
  unfold lookupKey sliceEnc ikeyEnc
  rw [List.length_append, fixedEnc_length]

theorem memKeyCmp_ok (c : Cmp) : CmpOk (memKeyCmp c) where
  swap a b := KeyProps.ikeyCmp_swap c (lpKey a) (lpKey b)
  trans a b d := KeyProps.ikeyCmp_trans c (lpKey a) (lpKey b) (lpKey d)

theorem ikeyCmp_enc_lt (c : Cmp) {a : Bytes} {ap : Nat} {b : Bytes} {bp : Nat} (ha : ap < 2 ^ 64) (hb : bp < 2 ^ 64) :
    ikeyCmp c (a ++ fixedEnc 8 ap) (b ++ fixedEnc 8 bp) = .lt ↔ ikLt c a ap b bp = true := by
  rw [ikeyCmp_lt_iff, ikeyUser_enc, ikeyUser_enc, ikeyNum_enc a ap ha, ikeyNum_enc b bp hb, Lsm.ikLt_iff]

structure MEntry where
  ukey : Bytes
  seq : Nat
  kind : Nat
  val : Bytes
  deriving Repr, DecidableEq

def MEntry.packed (e : MEntry) : Nat := packSeqType e.seq e.kind

/-- the argument ranges of `ldb_memtable_add` within which nothing is truncated -/
def MEntry.wf (e : MEntry) : Prop :=
  e.ukey.length + 8 < 2 ^ 32 ∧ e.val.length < 2 ^ 32 ∧ e.seq < 2 ^ 56 ∧ e.kind < 256

def MEntry.enc (e : MEntry) : Bytes := encodeEntry e.ukey e.seq e.kind e.val

/-- the entry of the LSM model: the value becomes the opaque token `tok value` -/
def MEntry.toEntry (tok : Bytes → String) (e : MEntry) : Entry :=
  { ukey := e.ukey, seq := e.seq, kind := e.kind, val := tok e.val }

def mLt (c : Cmp) (a b : MEntry) : Bool := ikLt c a.ukey a.packed b.ukey b.packed

theorem entryLt_toEntry (c : Cmp) (tok : Bytes → String) (a b : MEntry) :
    entryLt c (a.toEntry tok) (b.toEntry tok) = mLt c a b := rfl

theorem MEntry.packed_lt {e : MEntry} (h : e.wf) : e.packed < 2 ^ 64 := by
  unfold MEntry.packed packSeqType
  obtain ⟨_, _, h1, h2⟩ := h
  omega

theorem MEntry.packed_div {e : MEntry} (h : e.wf) : e.packed / 256 = e.seq := by
  have := h.2.2.2
  unfold MEntry.packed packSeqType
  omega

theorem MEntry.packed_mod {e : MEntry} (h : e.wf) : e.packed % 256 = e.kind := by
  have := h.2.2.2
  unfold MEntry.packed packSeqType
  omega

theorem ikeyEnc_not_short (uk : Bytes) (seq kind : Nat) : ¬ (ikeyEnc uk seq kind).length < 8 := by
  unfold ikeyEnc
  rw [List.length_append, fixedEnc_length]
  omega

theorem MEntry.ikeyNum {e : MEntry} (h : e.wf) : ikeyNum (ikeyEnc e.ukey e.seq e.kind) = e.packed :=
  ikeyNum_enc _ _ (MEntry.packed_lt h)

theorem argsOk_of_wf {e : MEntry} (h : e.wf) : argsOk e.ukey e.seq e.kind e.val = true := by
  obtain ⟨h1, h2, h3, h4⟩ := h
  simp [argsOk, h1, h2, h3, h4]

theorem lpKey_enc {e : MEntry} (h : e.wf) : lpKey e.enc = e.ukey ++ fixedEnc 8 e.packed :=
  lpKey_encodeEntry e.ukey e.seq e.kind e.val h.1

theorem memKeyCmp_enc_lt (c : Cmp) {a b : MEntry} (ha : a.wf) (hb : b.wf) :
    memKeyCmp c a.enc b.enc = .lt ↔ mLt c a b = true := by
  unfold memKeyCmp mLt
  rw [lpKey_enc ha, lpKey_enc hb]
  exact ikeyCmp_enc_lt c (MEntry.packed_lt ha) (MEntry.packed_lt hb)

theorem memKeyCmp_enc_eq (c : Cmp) {a b : MEntry} (ha : a.wf) (hb : b.wf) :
    memKeyCmp c a.enc b.enc = .eq ↔ a.ukey = b.ukey ∧ a.packed = b.packed := by
  unfold memKeyCmp
  rw [lpKey_enc ha, lpKey_enc hb, ikeyCmp_eq_iff, ikeyUser_enc, ikeyUser_enc,
    ikeyNum_enc _ _ (MEntry.packed_lt ha), ikeyNum_enc _ _ (MEntry.packed_lt hb)]

theorem memKeyCmp_enc_target (c : Cmp) {a : MEntry} (ha : a.wf) (k : Bytes) (pk : Nat) (hk : k.length + 8 < 2 ^ 32)
    (hpk : pk < 2 ^ 64) :
    memKeyCmp c a.enc (sliceEnc (k ++ fixedEnc 8 pk)) = .lt ↔ ikLt c a.ukey a.packed k pk = true := by
  unfold memKeyCmp
  rw [lpKey_enc ha, lpKey_sliceEnc _ (by rw [List.length_append, fixedEnc_length]; exact hk)]
  exact ikeyCmp_enc_lt c (MEntry.packed_lt ha) hpk

/-- `runInsert` (Model/Lsm.lean) on memtable entries -/
def mrunInsert (c : Cmp) (e : MEntry) : List MEntry → List MEntry
  | [] => [e]
  | x :: xs => if mLt c e x then e :: x :: xs else x :: mrunInsert c e xs

theorem mrunInsert_toEntry (c : Cmp) (tok : Bytes → String) (e : MEntry) (es : List MEntry) :
    (mrunInsert c e es).map (MEntry.toEntry tok) = runInsert c (e.toEntry tok) (es.map (MEntry.toEntry tok)) := by
  induction es with
  | nil => rfl
  | cons x xs ih =>
    rw [mrunInsert, List.map_cons, runInsert, entryLt_toEntry, ← ih]
    split <;> rfl

theorem mrunInsert_perm (c : Cmp) (e : MEntry) (es : List MEntry) : (mrunInsert c e es).Perm (e :: es) := by
  induction es with
  | nil => exact .refl _
  | cons x xs ih =>
    unfold mrunInsert
    split
    · exact .refl _
    · exact (ih.cons x).trans (.swap e x xs)

theorem foldl_mrunInsert_toEntry (c : Cmp) (tok : Bytes → String) (l : List MEntry) :
    (l.foldl (fun r e => mrunInsert c e r) []).map (MEntry.toEntry tok) = mkRun c (l.map (MEntry.toEntry tok)) := by
  rw [mkRun, List.foldl_map]
  exact (List.foldl_hom _ fun r e => (mrunInsert_toEntry c tok e r).symm).symm

theorem mrunInsert_enc (c : Cmp) {e : MEntry} {es : List MEntry} (he : e.wf) (hes : ∀ x ∈ es, x.wf) :
    (mrunInsert c e es).map MEntry.enc = ordInsert (memKeyCmp c) e.enc (es.map MEntry.enc) := by
  induction es with
  | nil => rfl
  | cons x xs ih =>
    rw [mrunInsert, List.map_cons, ordInsert, ← ih fun y hy => hes y (List.mem_cons_of_mem x hy)]
    simp only [beq_iff_eq, memKeyCmp_enc_lt c he (hes x List.mem_cons_self)]
    split <;> rfl

def Holds (mt : Memtable) (es : List MEntry) : Prop :=
  (∀ e ∈ es, e.wf) ∧ Good (memKeyCmp mt.c) mt.table (es.map MEntry.enc)

theorem create_holds (c : Cmp) : Holds (create c) [] := ⟨by simp, init_good _⟩

theorem Holds.runSorted (tok : Bytes → String) {mt : Memtable} {es : List MEntry} (h : Holds mt es) :
    RunSorted mt.c (es.map (MEntry.toEntry tok)) := by
  obtain ⟨hwf, L, hinv, hk⟩ := h
  -- the order of the nodes is the order of their keys, and those are the encodings of `es`
  have hs : (L.filterMap (keyOf mt.table)).Pairwise (fun a b => memKeyCmp mt.c a b = .lt) :=
    hinv.sorted.filterMap _ fun a b ⟨ka, kb, h1, h2, h3⟩ x hx y hy => by
      rw [h1] at hx; rw [h2] at hy; cases hx; cases hy; exact h3
  rw [hk, List.pairwise_map] at hs
  rw [RunSorted, List.pairwise_map]
  exact hs.imp_of_mem fun ha hb h => (memKeyCmp_enc_lt mt.c (hwf _ ha) (hwf _ hb)).mp h

theorem enc_new (c : Cmp) {e : MEntry} {es : List MEntry} (he : e.wf) (hwf : ∀ x ∈ es, x.wf)
    (hnew : ∀ x ∈ es, ¬ (x.ukey = e.ukey ∧ x.packed = e.packed)) : ∀ x ∈ es.map MEntry.enc, memKeyCmp c e.enc x ≠ .eq := by
  intro x hx heq
  obtain ⟨y, hy, rfl⟩ := List.mem_map.mp hx
  have := (memKeyCmp_enc_eq c he (hwf y hy)).mp heq
  exact hnew y hy ⟨this.1.symm, this.2.symm⟩

theorem Holds.insert {mt : Memtable} {es : List MEntry} (h : Holds mt es) {e : MEntry} (he : e.wf) {t' : SkipList Bytes}
    (hg : Good (memKeyCmp mt.c) t' (ordInsert (memKeyCmp mt.c) e.enc (es.map MEntry.enc))) :
    Holds { mt with table := t' } (mrunInsert mt.c e es) := by
  refine ⟨fun x hx => ?_, ?_⟩
  · rcases List.mem_cons.mp ((mrunInsert_perm mt.c e es).mem_iff.mp hx) with rfl | hx
    · exact he
    · exact h.1 x hx
  · show Good (memKeyCmp mt.c) t' _
    rw [mrunInsert_enc mt.c he h.1]
    exact hg

theorem addH_holds {mt : Memtable} {es : List MEntry} (h : Holds mt es) (e : MEntry) (he : e.wf) (height : Nat)
    (hh : 1 ≤ height ∧ height ≤ kMaxHeight) (hnew : ∀ x ∈ es, ¬ (x.ukey = e.ukey ∧ x.packed = e.packed)) :
    ∃ mt', addH mt e.ukey e.seq e.kind e.val height = some mt' ∧ mt'.c = mt.c ∧ Holds mt' (mrunInsert mt.c e es) := by
  obtain ⟨t', hrun, hg, _⟩ := insert_good (memKeyCmp_ok mt.c) h.2 e.enc height hh (enc_new mt.c he h.1 hnew)
  refine ⟨{ mt with table := t' }, ?_, rfl, h.insert he hg⟩
  unfold MEntry.enc at hrun
  rw [addH, argsOk_of_wf he, hrun]
  rfl

theorem add_holds {mt : Memtable} {es : List MEntry} (h : Holds mt es) (hr : 1 ≤ mt.table.rnd ∧ mt.table.rnd < randM)
    (e : MEntry) (he : e.wf) (hnew : ∀ x ∈ es, ¬ (x.ukey = e.ukey ∧ x.packed = e.packed)) :
    ∃ mt', add mt e.ukey e.seq e.kind e.val = some mt' ∧ mt'.c = mt.c ∧ Holds mt' (mrunInsert mt.c e es) ∧
      1 ≤ mt'.table.rnd ∧ mt'.table.rnd < randM := by
  obtain ⟨t', hrun, hg, hrnd⟩ := insertRand_good (memKeyCmp_ok mt.c) h.2 hr e.enc (enc_new mt.c he h.1 hnew)
  refine ⟨{ mt with table := t' }, ?_, rfl, h.insert he hg, hrnd⟩
  unfold MEntry.enc at hrun
  rw [add, argsOk_of_wf he, hrun]
  rfl

def DistinctIKeys (es : List MEntry) : Prop :=
  es.Pairwise (fun a b => ¬ (a.ukey = b.ukey ∧ a.packed = b.packed))

def addManyH : Memtable → List (MEntry × Nat) → Option Memtable
  | mt, [] => some mt
  | mt, (e, h) :: rest =>
    match addH mt e.ukey e.seq e.kind e.val h with
    | none => none
    | some mt' => addManyH mt' rest

def addMany : Memtable → List MEntry → Option Memtable
  | mt, [] => some mt
  | mt, e :: rest =>
    match add mt e.ukey e.seq e.kind e.val with
    | none => none
    | some mt' => addMany mt' rest

theorem DistinctIKeys.step {e : MEntry} {es rest : List MEntry} (hd : DistinctIKeys (es ++ e :: rest)) (c : Cmp) :
    (∀ x ∈ es, ¬ (x.ukey = e.ukey ∧ x.packed = e.packed)) ∧ DistinctIKeys (mrunInsert c e es ++ rest) :=
  ⟨fun x hx => (List.pairwise_append.mp hd).2.2 x hx e List.mem_cons_self,
    (((mrunInsert_perm c e es).append_right rest).trans List.perm_middle.symm).pairwise_iff
      (fun h ⟨h1, h2⟩ => h ⟨h1.symm, h2.symm⟩) |>.mpr hd⟩

theorem addManyH_holds (ehs : List (MEntry × Nat)) (mt : Memtable) (es : List MEntry) (h : Holds mt es)
    (hwf : ∀ eh ∈ ehs, eh.1.wf ∧ 1 ≤ eh.2 ∧ eh.2 ≤ kMaxHeight) (hd : DistinctIKeys (es ++ ehs.map (·.1))) :
    ∃ mt', addManyH mt ehs = some mt' ∧ mt'.c = mt.c ∧
      Holds mt' ((ehs.map (·.1)).foldl (fun r e => mrunInsert mt.c e r) es) := by
  induction ehs generalizing mt es with
  | nil => exact ⟨mt, rfl, rfl, h⟩
  | cons eh rest ih =>
    obtain ⟨e, ht⟩ := eh
    have h1 := hwf (e, ht) (by simp)
    obtain ⟨hnew, hd'⟩ := DistinctIKeys.step hd mt.c
    obtain ⟨mt1, hrun, hc1, hh1⟩ := addH_holds h e h1.1 ht h1.2 hnew
    obtain ⟨mt', hrun', hc', hh'⟩ := ih mt1 _ hh1 (fun x hx => hwf x (by simp [hx])) hd'
    exact ⟨mt', by simp [addManyH, hrun, hrun'], by rw [hc', hc1], hc1 ▸ hh'⟩

theorem addMany_holds (ws : List MEntry) (mt : Memtable) (es : List MEntry) (h : Holds mt es)
    (hr : 1 ≤ mt.table.rnd ∧ mt.table.rnd < randM) (hwf : ∀ e ∈ ws, e.wf) (hd : DistinctIKeys (es ++ ws)) :
    ∃ mt', addMany mt ws = some mt' ∧ mt'.c = mt.c ∧
      Holds mt' (ws.foldl (fun r e => mrunInsert mt.c e r) es) := by
  induction ws generalizing mt es with
  | nil => exact ⟨mt, rfl, rfl, h⟩
  | cons e rest ih =>
    obtain ⟨hnew, hd'⟩ := hd.step mt.c
    obtain ⟨mt1, hrun, hc1, hh1, hr1⟩ := add_holds h hr e (hwf e (by simp)) hnew
    obtain ⟨mt', hrun', hc', hh'⟩ := ih mt1 _ hh1 hr1 (fun x hx => hwf x (by simp [hx])) hd'
    exact ⟨mt', by simp [addMany, hrun, hrun'], by rw [hc', hc1], hc1 ▸ hh'⟩

end Lcdb.Memtable
