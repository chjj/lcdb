/-
  Lemmas about the two-level iterator of Model/Table.lean (`TwoIter`, `twoIterOps`;
  src/table/two_level_iterator.c), parametric in the comparator `c`, the block reader and the
  skip-loop fuel.

  Each operation is analysed once, for two readers `rd'` and `rd` that agree wherever neither
  reports an error (`RdPair`), from ONE start state: both runs are a prefix that cannot fault
  followed by the same skip loop, and stay in lockstep until one of them reports an error
  (`TwoIter.NF`, `TwoIter.Div`).  `first`/`last` and `next`/`prev` are one operation each, taken
  in a direction `w : Way` (`TwoIter.edge_nf`, `TwoIter.step_nf`); `twoIterOps_edge` and
  `twoIterOps_step` say what they are in terms of `TwoIter.land`, `onData` and `TwoIter.skipLoop`.
  With `rd' = rd` this gives the facts about a single run: the invariant (`TwoIter.Inv`),
  stickiness of a reported error (`TwoIter.Flagged`), no fault given enough fuel
  (`TwoIter.Enough`).
  Nothing here assumes anything about the bytes read.
-/
import LcdbModel.Model.Table
import LcdbModel.Lemmas.BlockSafety
import LcdbModel.Lemmas.TablePartition
namespace Lcdb

def DataIter.Inv (c : BlockCmp) : DataIter → Prop
  | .failed _ => True
  | .opened it => it.Inv c

def TwoIter.Inv (c : BlockCmp) (it : TwoIter) : Prop :=
  it.index.Inv c ∧ ∀ d, it.data = some d → d.Inv c

def TwoIter.Flagged (it : TwoIter) : Prop := it.getStatus ≠ .ok

def RdInv (c : BlockCmp) (rd : Bytes → Option DataIter) : Prop := ∀ h d, rd h = some d → d.Inv c

def RdTotal (rd : Bytes → Option DataIter) : Prop := ∀ h, rd h ≠ none

theorem TStatus.ofB_ne_ok_iff (s : BStatus) : TStatus.ofB s ≠ .ok ↔ s = .corrupt := by
  cases s <;> simp [TStatus.ofB]

theorem TwoIter.flagged_iff (it : TwoIter) : it.Flagged ↔
    (it.index.status = .corrupt ∨ (∃ d, it.data = some d ∧ d.status ≠ .ok) ∨ it.status ≠ .ok) := by
  unfold TwoIter.Flagged TwoIter.getStatus
  cases hs : it.index.status with
  | corrupt => simp [TStatus.ofB]
  | ok =>
    cases hd : it.data with
    | none => simp [TStatus.ofB]
    | some d =>
      by_cases hds : d.status = .ok
      · simp [TStatus.ofB, hds]
      · simp [TStatus.ofB, hds]

/-- what one step of the two-level iterator keeps -/
def TwoIter.Good (c : BlockCmp) (it it' : TwoIter) : Prop :=
  it'.Inv c ∧ it'.index.restarts = it.index.restarts ∧ (it.index.Mono → it'.index.Mono) ∧
    (it.Flagged → it'.Flagged)

theorem TwoIter.Good.refl {c : BlockCmp} {it : TwoIter} (h : it.Inv c) : TwoIter.Good c it it :=
  ⟨h, rfl, id, id⟩

theorem TwoIter.Good.trans {c : BlockCmp} {a b d : TwoIter} (h1 : TwoIter.Good c a b)
    (h2 : TwoIter.Good c b d) : TwoIter.Good c a d :=
  ⟨h2.1, h2.2.1.trans h1.2.1, fun h => h2.2.2.1 (h1.2.2.1 h), fun h => h2.2.2.2 (h1.2.2.2 h)⟩

def RdAgree (rd' rd : Bytes → Option DataIter) : Prop :=
  ∀ hv, rd' hv = rd hv ∨ (∃ s, s ≠ .ok ∧ rd' hv = some (.failed s)) ∨
    (∃ s, s ≠ .ok ∧ rd hv = some (.failed s))

structure RdPair (c : BlockCmp) (rd' rd : Bytes → Option DataIter) : Prop where
  inv' : RdInv c rd'
  inv : RdInv c rd
  total' : RdTotal rd'
  total : RdTotal rd
  agree : RdAgree rd' rd

theorem RdPair.refl {c : BlockCmp} {rd : Bytes → Option DataIter} (hrd : RdInv c rd)
    (hrt : RdTotal rd) : RdPair c rd rd :=
  ⟨hrd, hrd, hrt, hrt, fun _ => Or.inl rfl⟩

def TwoIter.Div (it' it : TwoIter) : Prop := it'.Flagged ∨ it.Flagged ∨ it' = it

theorem TwoIter.Div.refl (it : TwoIter) : TwoIter.Div it it := Or.inr (Or.inr rfl)

theorem TwoIter.Div.step {c : BlockCmp} {a' a b' b : TwoIter} (h : TwoIter.Div a' a)
    (g' : TwoIter.Good c a' b') (g : TwoIter.Good c a b) (heq : a' = a → TwoIter.Div b' b) :
    TwoIter.Div b' b := by
  rcases h with h | h | h
  · exact Or.inl (g'.2.2.2 h)
  · exact Or.inr (Or.inl (g.2.2.2 h))
  · exact heq h

theorem TwoIter.setIndex_flagged_of_status (it : TwoIter) (ix : TIter) (hs : ix.status = .corrupt) :
    TwoIter.Flagged { it with index := ix } := by
  rw [TwoIter.flagged_iff]; exact Or.inl hs

theorem TwoIter.setIndex_good {c : BlockCmp} (it : TwoIter) (ix : TIter) (h : it.Inv c)
    (hs : TIter.Step c it.index ix) : TwoIter.Good c it { it with index := ix } :=
  ⟨⟨hs.1.1, h.2⟩, hs.2.1, hs.2.2, fun hf => by
    rw [TwoIter.flagged_iff] at hf ⊢
    exact hf.imp_left hs.1.2⟩

theorem TwoIter.saveErr_index (it : TwoIter) (s : TStatus) : (it.saveErr s).index = it.index := by
  unfold TwoIter.saveErr; split <;> rfl

theorem TwoIter.saveErr_status (it : TwoIter) (s : TStatus) :
    (it.saveErr s).status ≠ .ok ↔ (it.status ≠ .ok ∨ s ≠ .ok) := by
  unfold TwoIter.saveErr
  split
  · rename_i h; simp [h.1, h.2]
  · rename_i h
    by_cases h1 : it.status = .ok
    · simp only [h1, true_and, Decidable.not_not] at h
      simp [h1, h]
    · simp [h1]

theorem TwoIter.setDataIter_index (it : TwoIter) (d : Option DataIter) :
    (it.setDataIter d).index = it.index := by
  unfold TwoIter.setDataIter
  cases it.data with
  | none => rfl
  | some old => exact TwoIter.saveErr_index it old.status

theorem TwoIter.setDataIter_data (it : TwoIter) (d : Option DataIter) :
    (it.setDataIter d).data = d := rfl

theorem TwoIter.setDataIter_status (it : TwoIter) (d : Option DataIter) :
    (it.setDataIter d).status ≠ .ok ↔
      (it.status ≠ .ok ∨ ∃ old, it.data = some old ∧ old.status ≠ .ok) := by
  unfold TwoIter.setDataIter
  cases hd : it.data with
  | none => simp
  | some old =>
    show (it.saveErr old.status).status ≠ .ok ↔ _
    rw [TwoIter.saveErr_status]
    simp

theorem TwoIter.setDataIter_flagged (it : TwoIter) (d : Option DataIter) (h : it.Flagged) :
    (it.setDataIter d).Flagged := by
  rw [TwoIter.flagged_iff] at h ⊢
  rw [TwoIter.setDataIter_index, TwoIter.setDataIter_status]
  rcases h with h | h | h
  · exact Or.inl h
  · exact Or.inr (Or.inr (Or.inr h))
  · exact Or.inr (Or.inr (Or.inl h))

theorem TwoIter.setDataIter_failed_flagged (it : TwoIter) (s : TStatus) (hs : s ≠ .ok) :
    (it.setDataIter (some (.failed s))).Flagged := by
  rw [TwoIter.flagged_iff]
  exact Or.inr (Or.inl ⟨.failed s, rfl, hs⟩)

theorem TwoIter.setDataIter_good {c : BlockCmp} (it : TwoIter) (d : Option DataIter)
    (h : it.Inv c) (hd : ∀ d', d = some d' → d'.Inv c) : TwoIter.Good c it (it.setDataIter d) :=
  ⟨⟨by rw [TwoIter.setDataIter_index]; exact h.1, hd⟩, by rw [TwoIter.setDataIter_index],
   by rw [TwoIter.setDataIter_index]; exact id, TwoIter.setDataIter_flagged it d⟩

theorem TwoIter.initDataBlock_lockstep {c : BlockCmp} {rd' rd : Bytes → Option DataIter}
    (hag : RdAgree rd' rd) (hrd' : RdInv c rd') (hrd : RdInv c rd) (s r' r : TwoIter)
    (hs : s.Inv c) (h' : TwoIter.initDataBlock rd' s = some r')
    (h : TwoIter.initDataBlock rd s = some r) :
    TwoIter.Good c s r' ∧ TwoIter.Good c s r ∧ TwoIter.Div r' r ∧ r.index = s.index ∧
      (s.index.valid = false → r.data = none) := by
  -- the two runs take the same branch, every test reading `s` only; they differ in the one read, where
  -- `RdAgree` gives `Div`
  unfold TwoIter.initDataBlock at h' h
  by_cases hv : (!s.index.valid) = true
  · rw [if_pos hv] at h' h
    cases h'; cases h
    have g := TwoIter.setDataIter_good s none hs (fun d' hd' => by cases hd')
    exact ⟨g, g, .refl _, TwoIter.setDataIter_index s none, fun _ => rfl⟩
  · rw [if_neg hv] at h' h
    have hv' : ¬ s.index.valid = false := by
      intro hh; rw [hh] at hv; exact hv rfl
    dsimp only at h' h
    by_cases hh : (s.data.isSome && s.index.value == s.handle) = true
    · rw [if_pos hh] at h' h
      cases h'; cases h
      exact ⟨.refl hs, .refl hs, .refl _, rfl, fun hh => absurd hh hv'⟩
    · rw [if_neg hh] at h' h
      have inst : ∀ rd0, RdInv c rd0 → ∀ d, rd0 s.index.value = some d →
          TwoIter.Good c s (({ s with handle := s.index.value } : TwoIter).setDataIter (some d)) := by
        intro rd0 hrd0 d hd
        have g1 : TwoIter.Good c s { s with handle := s.index.value } :=
          ⟨⟨hs.1, hs.2⟩, rfl, id, fun hf => by rw [TwoIter.flagged_iff] at hf ⊢; exact hf⟩
        exact g1.trans (TwoIter.setDataIter_good _ (some d) g1.1
          (fun d' hd' => by cases hd'; exact hrd0 _ _ hd))
      cases e' : rd' s.index.value with
      | none => rw [e'] at h'; cases h'
      | some d' =>
        cases e : rd s.index.value with
        | none => rw [e] at h; cases h
        | some d =>
          rw [e'] at h'
          rw [e] at h
          cases h'; cases h
          refine ⟨inst rd' hrd' d' e', inst rd hrd d e, ?_, TwoIter.setDataIter_index _ _,
            fun hh => absurd hh hv'⟩
          rcases hag s.index.value with ea | ⟨st, hst, ea⟩ | ⟨st, hst, ea⟩
          · rw [e', e] at ea
            cases ea
            exact .refl _
          · rw [e'] at ea
            cases ea
            exact Or.inl (TwoIter.setDataIter_failed_flagged _ st hst)
          · rw [e] at ea
            cases ea
            exact Or.inr (Or.inl (TwoIter.setDataIter_failed_flagged _ st hst))

theorem TwoIter.initDataBlock_total {rd : Bytes → Option DataIter} (hrd : RdTotal rd) (it : TwoIter) :
    ∃ it', TwoIter.initDataBlock rd it = some it' := by
  unfold TwoIter.initDataBlock
  split
  · exact ⟨_, rfl⟩
  · dsimp only
    split
    · exact ⟨_, rfl⟩
    · split
      · rename_i hn; exact absurd hn (hrd _)
      · exact ⟨_, rfl⟩

theorem TwoIter.initDataBlock_flagged {c : BlockCmp} {rd : Bytes → Option DataIter} (hrd : RdInv c rd)
    (it it' : TwoIter) (h : it.Inv c) (hf : it.Flagged)
    (he : TwoIter.initDataBlock rd it = some it') : it'.Flagged :=
  (TwoIter.initDataBlock_lockstep (fun _ => Or.inl rfl) hrd hrd it it' it' h he he).1.2.2.2 hf

def TwoIter.DataFn (c : BlockCmp) (it : TwoIter) (f : TIter → Option TIter) : Prop :=
  ∀ ti, it.data = some (.opened ti) → ti.Inv c → ∃ ti', f ti = some ti' ∧ TIter.Good c ti ti'

theorem TwoIter.valid_opened (it : TwoIter) (ti : TIter) (hd : it.data = some (.opened ti))
    (hv : it.valid = true) : ti.valid = true := by
  simpa [TwoIter.valid, TwoIter.dataValid, hd, DataIter.valid] using hv

theorem TwoIter.setData_good {c : BlockCmp} (it : TwoIter) (d d' : DataIter) (h : it.Inv c)
    (hd : it.data = some d) (hi : d'.Inv c) (hs : d.status ≠ .ok → d'.status ≠ .ok) :
    TwoIter.Good c it { it with data := some d' } := by
  refine ⟨⟨h.1, fun _ e => by cases e; exact hi⟩, rfl, id, fun hfl => ?_⟩
  rw [TwoIter.flagged_iff] at hfl ⊢
  rcases hfl with hfl | ⟨d0, hd0, hs0⟩ | hfl
  · exact Or.inl hfl
  · rw [hd] at hd0
    cases hd0
    exact Or.inr (Or.inl ⟨d', rfl, hs hs0⟩)
  · exact Or.inr (Or.inr hfl)

theorem TwoIter.onData_ok {c : BlockCmp} (it : TwoIter) (f : TIter → Option TIter)
    (hf : it.DataFn c f) (h : it.Inv c) :
    ∃ it', it.onData f = some it' ∧ TwoIter.Good c it it' ∧ it'.index = it.index ∧
      (it.data = none → it'.data = none) := by
  unfold TwoIter.onData
  cases hd : it.data with
  | none => exact ⟨it, rfl, TwoIter.Good.refl h, rfl, fun _ => hd⟩
  | some d =>
    have hl : ∃ d', d.lift f = some d' ∧ d'.Inv c ∧ (d.status ≠ .ok → d'.status ≠ .ok) := by
      cases d with
      | failed s => exact ⟨_, rfl, trivial, id⟩
      | opened ti =>
        obtain ⟨ti', h1, h2⟩ := hf ti hd (h.2 _ hd)
        exact ⟨.opened ti', by simp only [DataIter.lift, h1, Option.map_some], h2.1,
          fun hs => (TStatus.ofB_ne_ok_iff _).2 (h2.2 ((TStatus.ofB_ne_ok_iff _).1 hs))⟩
    obtain ⟨d', e, hi, hs⟩ := hl
    exact ⟨_, by simp only [e, Option.map_some], TwoIter.setData_good it d d' h hd hi hs, rfl,
      fun hh => by cases hh⟩

theorem TwoIter.onData_flagged {c : BlockCmp} (it it' : TwoIter) (f : TIter → Option TIter)
    (hf : it.DataFn c f) (h : it.Inv c) (hfl : it.Flagged) (he : it.onData f = some it') :
    it'.Flagged := by
  obtain ⟨_, e, g, _⟩ := TwoIter.onData_ok it f hf h
  rw [he] at e
  cases e
  exact g.2.2.2 hfl

/-- what `first`, `last`, `seek` and a round of a skip loop do -/
def TwoIter.land (rd : Bytes → Option DataIter) (ixop f : TIter → Option TIter)
    (k : TwoIter → Option TwoIter) (it : TwoIter) : Option TwoIter :=
  match ixop it.index with
  | none => none
  | some ix =>
    match TwoIter.initDataBlock rd { it with index := ix } with
    | none => none
    | some it1 =>
      match it1.onData f with
      | none => none
      | some it2 => k it2

theorem TwoIter.seek_eq (c : BlockCmp) (rd : Bytes → Option DataIter) (fuel : Nat) (tg : Bytes)
    (it : TwoIter) :
    TwoIter.seek c rd fuel tg it
      = TwoIter.land rd (TIter.seek c tg) (TIter.seek c tg) (TwoIter.skipForward c rd fuel) it := rfl

/-- iterations `skipForward` can still need: the index iterator moves strictly forward -/
def TIter.remF (t : TIter) : Nat := if t.valid then t.restarts - t.pos + 1 else 0

/-- iterations `skipBackward` can still need: the index iterator moves strictly backward -/
def TIter.remB (t : TIter) : Nat := if t.valid then t.pos + 1 else 0

def TIter.Advances (c : BlockCmp) (step : TIter → Option TIter) (rem : TIter → Nat) : Prop :=
  ∀ t, t.Inv c → t.valid = true →
    ∃ t', step t = some t' ∧ TIter.Step c t t' ∧ (t.Mono → rem t' < rem t)

theorem TIter.next_advances (c : BlockCmp) : TIter.Advances c (TIter.next c) TIter.remF := by
  intro t h hv
  obtain ⟨t', h1, hs, hpos⟩ := TIter.next_step c t h hv
  refine ⟨t', h1, hs, fun hm => ?_⟩
  have hlt := t.pos_lt_restarts hv
  have hr := hs.2.1
  unfold TIter.remF
  rw [if_pos hv]
  split
  · rename_i hv'
    have := hpos hm hv'
    have := t'.pos_lt_restarts hv'
    omega
  · omega

theorem TIter.prev_advances (c : BlockCmp) : TIter.Advances c (TIter.prev c) TIter.remB := by
  intro t h hv
  obtain ⟨t', h1, hs, hpos⟩ := TIter.prev_step c t h hv
  refine ⟨t', h1, hs, fun _ => ?_⟩
  unfold TIter.remB
  rw [if_pos hv]
  split
  · rename_i hv'
    have := hpos hv'
    omega
  · omega

/-- a direction of the skip loops: how the index iterator moves on (`step`), which end of the
    newly opened data block the data iterator is put on (`pos`), and the measure that bounds the
    loop (`rem`) -/
structure TwoIter.Dir (c : BlockCmp) where
  step : TIter → Option TIter
  pos : TIter → Option TIter
  rem : TIter → Nat
  adv : TIter.Advances c step rem
  rem_le : ∀ t, rem t ≤ t.restarts + 1
  pos_step : ∀ t, t.Inv c → ∃ ix, pos t = some ix ∧ TIter.Step c t ix

def TwoIter.Dir.fwd (c : BlockCmp) : TwoIter.Dir c :=
  { step := TIter.next c, pos := TIter.first c, rem := TIter.remF, adv := TIter.next_advances c
    rem_le := fun t => by unfold TIter.remF; split <;> omega
    pos_step := TIter.first_step c }

def TwoIter.Dir.bwd (c : BlockCmp) : TwoIter.Dir c :=
  { step := TIter.prev c, pos := TIter.last c, rem := TIter.remB, adv := TIter.prev_advances c
    rem_le := fun t => by
      unfold TIter.remB
      split
      · rename_i hv; have := t.pos_lt_restarts hv; omega
      · omega
    pos_step := TIter.last_step c }

theorem TwoIter.Dir.fn {c : BlockCmp} (d : TwoIter.Dir c) (it : TwoIter) : it.DataFn c d.pos :=
  fun ti _ hi => let ⟨t', h1, h2⟩ := d.pos_step ti hi; ⟨t', h1, h2.1⟩

def Way.dir (c : BlockCmp) : Way → TwoIter.Dir c
  | .fwd => .fwd c
  | .bwd => .bwd c

/-- `ldb_twoiter_skip_forward` and `ldb_twoiter_skip_backward` are one loop, run in direction
    `Dir.fwd` and `Dir.bwd` -/
def TwoIter.skipLoop {c : BlockCmp} (d : TwoIter.Dir c) (rd : Bytes → Option DataIter) :
    Nat → TwoIter → Option TwoIter
  | 0, _ => none
  | fuel + 1, it =>
    if it.data.isNone || !it.dataValid then
      if !it.index.valid then some (it.setDataIter none)
      else TwoIter.land rd d.step d.pos (TwoIter.skipLoop d rd fuel) it
    else some it

/-- the recursion equations determine `skipLoop` -/
theorem TwoIter.skipLoop_eq {c : BlockCmp} (d : TwoIter.Dir c) (rd : Bytes → Option DataIter)
    (f : Nat → TwoIter → Option TwoIter) (h0 : ∀ it, f 0 it = none)
    (hs : ∀ fuel it, f (fuel + 1) it =
      if it.data.isNone || !it.dataValid then
        if !it.index.valid then some (it.setDataIter none)
        else TwoIter.land rd d.step d.pos (f fuel) it
      else some it) :
    ∀ fuel it, f fuel it = TwoIter.skipLoop d rd fuel it := by
  intro fuel
  induction fuel with
  | zero => exact h0
  | succ fuel ih =>
    intro it
    rw [hs, TwoIter.skipLoop, funext ih]

theorem TwoIter.skipForward_eq (c : BlockCmp) (rd : Bytes → Option DataIter) :
    ∀ fuel it, TwoIter.skipForward c rd fuel it = TwoIter.skipLoop (.fwd c) rd fuel it :=
  TwoIter.skipLoop_eq (.fwd c) rd _ (fun _ => rfl) (fun _ _ => rfl)

theorem TwoIter.skipBackward_eq (c : BlockCmp) (rd : Bytes → Option DataIter) :
    ∀ fuel it, TwoIter.skipBackward c rd fuel it = TwoIter.skipLoop (.bwd c) rd fuel it :=
  TwoIter.skipLoop_eq (.bwd c) rd _ (fun _ => rfl) (fun _ _ => rfl)

theorem twoIterOps_edge (c : BlockCmp) (rd : Bytes → Option DataIter) (fuel : Nat) (w : Way)
    (it : TwoIter) :
    (twoIterOps c rd fuel).edge w it
      = TwoIter.land rd (w.dir c).pos (w.dir c).pos (TwoIter.skipLoop (w.dir c) rd fuel) it := by
  cases w
  · show _ = TwoIter.land rd (TIter.first c) (TIter.first c) (TwoIter.skipLoop (.fwd c) rd fuel) it
    rw [← funext (TwoIter.skipForward_eq c rd fuel)]
    rfl
  · show _ = TwoIter.land rd (TIter.last c) (TIter.last c) (TwoIter.skipLoop (.bwd c) rd fuel) it
    rw [← funext (TwoIter.skipBackward_eq c rd fuel)]
    rfl

theorem twoIterOps_step (c : BlockCmp) (rd : Bytes → Option DataIter) (fuel : Nat) (w : Way)
    (it : TwoIter) :
    (twoIterOps c rd fuel).step w it
      = (it.onData (w.dir c).step).bind (TwoIter.skipLoop (w.dir c) rd fuel) := by
  cases w
  · show TwoIter.next c rd fuel it = (it.onData (TIter.next c)).bind _
    rw [TwoIter.next]
    cases it.onData (TIter.next c) with
    | none => rfl
    | some it1 => exact TwoIter.skipForward_eq c rd fuel it1
  · show TwoIter.prev c rd fuel it = (it.onData (TIter.prev c)).bind _
    rw [TwoIter.prev]
    cases it.onData (TIter.prev c) with
    | none => rfl
    | some it1 => exact TwoIter.skipBackward_eq c rd fuel it1

/-- With total readers the loop returns once `fuel` exceeds `d.rem` of the index iterator: an
    iteration that goes on has moved the index iterator, and `d.adv` makes `d.rem` drop. -/
theorem TwoIter.skipLoop_ok {c : BlockCmp} {rd : Bytes → Option DataIter} (d : TwoIter.Dir c)
    (hrd : RdInv c rd) :
    ∀ fuel (it : TwoIter), it.Inv c →
      (∀ it', TwoIter.skipLoop d rd fuel it = some it' → TwoIter.Good c it it') ∧
      (RdTotal rd → it.index.Mono → d.rem it.index + 1 ≤ fuel →
        ∃ it', TwoIter.skipLoop d rd fuel it = some it') := by
  intro fuel
  induction fuel with
  | zero => intro it _; exact ⟨fun _ he => (nomatch he), fun _ _ hf => by omega⟩
  | succ fuel ih =>
    intro it h
    rw [TwoIter.skipLoop]
    split
    · split
      · exact ⟨fun it' he => by
          cases he
          exact TwoIter.setDataIter_good it none h (fun d' hd' => by cases hd'),
          fun _ _ _ => ⟨_, rfl⟩⟩
      · rename_i hv
        obtain ⟨ix, hn, hs, hdec⟩ := d.adv it.index h.1 (by simpa using hv)
        have g0 := TwoIter.setIndex_good it ix h hs
        simp only [TwoIter.land, hn]
        cases h1 : TwoIter.initDataBlock rd { it with index := ix } with
        | none =>
          refine ⟨fun _ he => (by cases he), fun hrt _ _ => ?_⟩
          obtain ⟨_, e⟩ := TwoIter.initDataBlock_total hrt { it with index := ix }
          rw [h1] at e
          cases e
        | some it1 =>
          obtain ⟨_, g1, _, hi1, _⟩ :=
            TwoIter.initDataBlock_lockstep (fun _ => Or.inl rfl) hrd hrd _ it1 it1 g0.1 h1 h1
          obtain ⟨it2, h2, g2, hi2, _⟩ := TwoIter.onData_ok it1 d.pos (d.fn it1) g1.1
          simp only [h2]
          have g := g0.trans (g1.trans g2)
          have hix : it2.index = ix := by rw [hi2, hi1]
          obtain ⟨ihg, iht⟩ := ih it2 g2.1
          refine ⟨fun it' he => g.trans (ihg it' he), fun hrt hm hf => iht hrt (g.2.2.1 hm) ?_⟩
          rw [hix]
          have := hdec hm
          omega
    · exact ⟨fun it' he => by cases he; exact TwoIter.Good.refl h, fun _ _ _ => ⟨_, rfl⟩⟩

theorem TwoIter.skipForward_inv {c : BlockCmp} {rd : Bytes → Option DataIter} (hrd : RdInv c rd)
    (fuel : Nat) (it it' : TwoIter) (h : it.Inv c)
    (he : TwoIter.skipForward c rd fuel it = some it') : it'.Inv c :=
  ((TwoIter.skipLoop_ok (.fwd c) hrd fuel it h).1 it' (TwoIter.skipForward_eq c rd fuel it ▸ he)).1

theorem TwoIter.skipBackward_inv {c : BlockCmp} {rd : Bytes → Option DataIter} (hrd : RdInv c rd)
    (fuel : Nat) (it it' : TwoIter) (h : it.Inv c)
    (he : TwoIter.skipBackward c rd fuel it = some it') : it'.Inv c :=
  ((TwoIter.skipLoop_ok (.bwd c) hrd fuel it h).1 it' (TwoIter.skipBackward_eq c rd fuel it ▸ he)).1

theorem TwoIter.skipForward_flagged {c : BlockCmp} {rd : Bytes → Option DataIter} (hrd : RdInv c rd)
    (fuel : Nat) (it it' : TwoIter) (h : it.Inv c) (hf : it.Flagged)
    (he : TwoIter.skipForward c rd fuel it = some it') : it'.Flagged :=
  ((TwoIter.skipLoop_ok (.fwd c) hrd fuel it h).1 it'
    (TwoIter.skipForward_eq c rd fuel it ▸ he)).2.2.2 hf

theorem TwoIter.skipBackward_flagged {c : BlockCmp} {rd : Bytes → Option DataIter} (hrd : RdInv c rd)
    (fuel : Nat) (it it' : TwoIter) (h : it.Inv c) (hf : it.Flagged)
    (he : TwoIter.skipBackward c rd fuel it = some it') : it'.Flagged :=
  ((TwoIter.skipLoop_ok (.bwd c) hrd fuel it h).1 it'
    (TwoIter.skipBackward_eq c rd fuel it ▸ he)).2.2.2 hf

theorem TwoIter.skipForward_dead (c : BlockCmp) (rd : Bytes → Option DataIter) (fuel : Nat)
    (it it' : TwoIter) (hv : it.index.valid = false) (hd : it.data = none)
    (he : TwoIter.skipForward c rd fuel it = some it') : it'.valid = false := by
  cases fuel with
  | zero => cases he
  | succ fuel =>
    unfold TwoIter.skipForward at he
    simp only [hd, hv, Option.isNone_none, Bool.true_or, Bool.not_false, if_true,
      Option.some.injEq] at he
    subst he
    rfl

section
variable {c : BlockCmp} {rd' rd : Bytes → Option DataIter}

theorem TwoIter.land_ok (H : RdPair c rd' rd) (it : TwoIter) {ixop : TIter → Option TIter}
    {ix : TIter} (f : TIter → Option TIter) (h : it.Inv c) (hn : ixop it.index = some ix)
    (hstep : TIter.Step c it.index ix) (hf : ∀ it1 : TwoIter, it1.DataFn c f) :
    ∃ it2' it2,
      (∀ k, TwoIter.land rd' ixop f k it = k it2') ∧ (∀ k, TwoIter.land rd ixop f k it = k it2) ∧
      TwoIter.Good c it it2' ∧ TwoIter.Good c it it2 ∧ TwoIter.Div it2' it2 ∧
      it2.index = ix ∧ (ix.valid = false → it2.data = none) := by
  have g0 := TwoIter.setIndex_good it ix h hstep
  obtain ⟨it1', e1'⟩ := TwoIter.initDataBlock_total H.total' { it with index := ix }
  obtain ⟨it1, e1⟩ := TwoIter.initDataBlock_total H.total { it with index := ix }
  obtain ⟨g1', g1, d1, hi1, hd1⟩ :=
    TwoIter.initDataBlock_lockstep H.agree H.inv' H.inv _ it1' it1 g0.1 e1' e1
  obtain ⟨it2', e2', g2', _⟩ := TwoIter.onData_ok it1' f (hf it1') g1'.1
  obtain ⟨it2, e2, g2, hi2, hd2⟩ := TwoIter.onData_ok it1 f (hf it1) g1.1
  exact ⟨it2', it2, fun k => by simp only [TwoIter.land, hn, e1', e2'],
    fun k => by simp only [TwoIter.land, hn, e1, e2],
    g0.trans (g1'.trans g2'), g0.trans (g1.trans g2),
    d1.step g2' g2 (fun e => by
      subst e
      rw [e2'] at e2
      cases e2
      exact TwoIter.Div.refl _),
    by rw [hi2, hi1], fun hv => hd2 (hd1 hv)⟩

theorem TwoIter.skipLoop_div (H : RdPair c rd' rd) (d : TwoIter.Dir c) :
    ∀ fuel (a' a r' r : TwoIter), a'.Inv c → a.Inv c → TwoIter.Div a' a →
      TwoIter.skipLoop d rd' fuel a' = some r' → TwoIter.skipLoop d rd fuel a = some r →
      TwoIter.Div r' r := by
  intro fuel
  induction fuel with
  | zero => intro a' a r' r _ _ _ h' _; cases h'
  | succ fuel ih =>
    intro a' a r' r ha' ha hd h' h
    refine hd.step ((TwoIter.skipLoop_ok d H.inv' _ a' ha').1 r' h')
      ((TwoIter.skipLoop_ok d H.inv _ a ha).1 r h) (fun e => ?_)
    subst e
    rw [TwoIter.skipLoop] at h' h
    by_cases h1 : (a'.data.isNone || !a'.dataValid) = true
    · rw [if_pos h1] at h' h
      by_cases h2 : (!a'.index.valid) = true
      · rw [if_pos h2] at h' h
        cases h'; cases h
        exact TwoIter.Div.refl _
      · rw [if_neg h2] at h' h
        obtain ⟨ix, hn, hs, _⟩ := d.adv a'.index ha.1 (by simpa using h2)
        obtain ⟨it2', it2, hk', hk, g2', g2, d2, _⟩ := TwoIter.land_ok H a' d.pos ha hn hs d.fn
        exact ih it2' it2 r' r g2'.1 g2.1 d2 ((hk' _).symm.trans h') ((hk _).symm.trans h)
    · rw [if_neg h1] at h' h
      cases h'; cases h
      exact TwoIter.Div.refl _

/-- `+ 2`: a skip loop moves the index iterator at most `rem ≤ restarts + 1` times (`Dir.rem_le`) and `skipLoop_ok` asks for
    one round more; `skipFuel` of Model/Table.lean is matched against it in `tableIterCreate_enough` -/
def TwoIter.Enough (fuel : Nat) (it : TwoIter) : Prop :=
  it.index.Mono ∧ it.index.restarts + 2 ≤ fuel

theorem TwoIter.Good.enough {fuel : Nat} {it it' : TwoIter} (h : TwoIter.Good c it it')
    (he : it.Enough fuel) : it'.Enough fuel :=
  ⟨h.2.2.1 he.1, by rw [h.2.1]; exact he.2⟩

/-- normal form of an operation of the two-level iterator: run from ONE state with either reader,
    it is a prefix that cannot fault followed by the skip loop of one direction (the same in both
    runs); the prefixes end in lockstep -/
def TwoIter.NF (c : BlockCmp) (rd' rd : Bytes → Option DataIter) (fuel : Nat) (it : TwoIter)
    (r' r : Option TwoIter) : Prop :=
  ∃ (d : TwoIter.Dir c) (it2' it2 : TwoIter), TwoIter.Good c it it2' ∧ TwoIter.Good c it it2 ∧
    TwoIter.Div it2' it2 ∧ r' = TwoIter.skipLoop d rd' fuel it2' ∧ r = TwoIter.skipLoop d rd fuel it2

theorem TwoIter.NF.lockstep (H : RdPair c rd' rd) {fuel : Nat} {it x' x : TwoIter}
    {r' r : Option TwoIter} (h : TwoIter.NF c rd' rd fuel it r' r) (he' : r' = some x')
    (he : r = some x) : TwoIter.Good c it x' ∧ TwoIter.Good c it x ∧ TwoIter.Div x' x := by
  obtain ⟨d, it2', it2, g', g, dv, e', e⟩ := h
  rw [e'] at he'
  rw [e] at he
  exact ⟨g'.trans ((TwoIter.skipLoop_ok d H.inv' fuel it2' g'.1).1 x' he'),
    g.trans ((TwoIter.skipLoop_ok d H.inv fuel it2 g.1).1 x he),
    TwoIter.skipLoop_div H d fuel it2' it2 x' x g'.1 g.1 dv he' he⟩

theorem TwoIter.NF.good (hrd : RdInv c rd) (hrt : RdTotal rd) {fuel : Nat}
    {it it' : TwoIter} {r : Option TwoIter} (h : TwoIter.NF c rd rd fuel it r r) (he : r = some it') :
    TwoIter.Good c it it' :=
  (h.lockstep (RdPair.refl hrd hrt) he he).2.1

theorem TwoIter.NF.total (hrd : RdInv c rd) (hrt : RdTotal rd) {fuel : Nat} {it : TwoIter}
    {r : Option TwoIter}
    (h : TwoIter.NF c rd rd fuel it r r) (he : it.Enough fuel) :
    ∃ it', r = some it' ∧ TwoIter.Good c it it' ∧ it'.Enough fuel := by
  obtain ⟨d, _, it2, _, g, _, _, hr⟩ := id h
  have he2 := g.enough he
  obtain ⟨it', e⟩ := (TwoIter.skipLoop_ok d hrd fuel it2 g.1).2 hrt he2.1
    (by have := d.rem_le it2.index; have := he2.2; omega)
  have gd := h.good hrd hrt (hr.trans e)
  exact ⟨it', hr.trans e, gd, gd.enough he⟩

/-- `first` and `last` -/
theorem TwoIter.edge_nf (H : RdPair c rd' rd) (w : Way) (fuel : Nat) (it : TwoIter) (h : it.Inv c) :
    TwoIter.NF c rd' rd fuel it ((twoIterOps c rd' fuel).edge w it)
      ((twoIterOps c rd fuel).edge w it) := by
  obtain ⟨ix, hn, hstep⟩ := (w.dir c).pos_step it.index h.1
  obtain ⟨it2', it2, hk', hk, g', g, d, _⟩ :=
    TwoIter.land_ok H it (w.dir c).pos h hn hstep (w.dir c).fn
  exact ⟨w.dir c, it2', it2, g', g, d, by rw [twoIterOps_edge, hk'], by rw [twoIterOps_edge, hk]⟩

theorem TwoIter.seek_nf (H : RdPair c rd' rd) (fuel : Nat) (tg : Bytes) (it : TwoIter)
    (h : it.Inv c) :
    TwoIter.NF c rd' rd fuel it (TwoIter.seek c rd' fuel tg it) (TwoIter.seek c rd fuel tg it) ∧
      ∀ it', TwoIter.seek c rd fuel tg it = some it' → it'.valid = true → c.internal = true →
        8 ≤ tg.length := by
  obtain ⟨ix, hn, hstep, htg⟩ := TIter.seek_step c tg it.index h.1
  obtain ⟨it2', it2, hk', hk, g', g, d, hix, hdead⟩ :=
    TwoIter.land_ok H it (TIter.seek c tg) h hn hstep
      (fun _ ti _ hi => let ⟨t', h1, h2, _⟩ := TIter.seek_step c tg ti hi; ⟨t', h1, h2.1⟩)
  have heq : TwoIter.seek c rd fuel tg it = TwoIter.skipForward c rd fuel it2 :=
    (TwoIter.seek_eq c rd fuel tg it).trans (hk _)
  refine ⟨⟨.fwd c, it2', it2, g', g, d, by rw [TwoIter.seek_eq, hk', TwoIter.skipForward_eq],
    by rw [heq, TwoIter.skipForward_eq]⟩, ?_⟩
  intro it' he hv hc
  cases hxv : ix.valid with
  | true => exact htg hxv hc
  | false =>
    rw [heq] at he
    have := TwoIter.skipForward_dead c rd fuel it2 it' (by rw [hix]; exact hxv) (hdead hxv) he
    rw [this] at hv
    cases hv

/-- `next` and `prev` -/
theorem TwoIter.step_nf (w : Way) (fuel : Nat) (it : TwoIter) (h : it.Inv c) (hv : it.valid = true) :
    TwoIter.NF c rd' rd fuel it ((twoIterOps c rd' fuel).step w it)
      ((twoIterOps c rd fuel).step w it) := by
  obtain ⟨it1, h1, g1, _⟩ := TwoIter.onData_ok it (w.dir c).step
    (fun ti hd hi =>
      let ⟨t', h1, h2, _⟩ := (w.dir c).adv ti hi (it.valid_opened ti hd hv); ⟨t', h1, h2.1⟩) h
  exact ⟨w.dir c, it1, it1, g1, g1, TwoIter.Div.refl _, by rw [twoIterOps_step, h1]; rfl,
    by rw [twoIterOps_step, h1]; rfl⟩

theorem TwoIter.key_len (it : TwoIter) (h : it.Inv c) (hv : it.valid = true) :
    c.internal = true → 8 ≤ it.key.length := by
  cases hd : it.data with
  | none => simp [TwoIter.valid, TwoIter.dataValid, hd] at hv
  | some d =>
    cases d with
    | failed s => simp [TwoIter.valid, TwoIter.dataValid, hd, DataIter.valid] at hv
    | opened ti =>
      have hk : it.key = ti.key := by simp [TwoIter.key, hd, DataIter.key]
      rw [hk]
      exact TIter.key_len c ti (h.2 _ hd) (it.valid_opened ti hd hv)

theorem twoIter_prims (hrd : RdInv c rd) (hrt : RdTotal rd) (fuel : Nat) :
    (twoIterOps c rd fuel).Prims (TwoIter.Inv c) (fun s r => TwoIter.NF c rd rd fuel s r r) :=
  { first := TwoIter.edge_nf (RdPair.refl hrd hrt) .fwd fuel
    last := TwoIter.edge_nf (RdPair.refl hrd hrt) .bwd fuel
    next := TwoIter.step_nf .fwd fuel
    prev := TwoIter.step_nf .bwd fuel
    seek := fun t s hs => (TwoIter.seek_nf (RdPair.refl hrd hrt) fuel t s hs).1 }

theorem twoIter_apply_good (hrd : RdInv c rd) (hrt : RdTotal rd) (fuel : Nat) (op : BlockOp)
    (it it' : TwoIter) (h : it.Inv c)
    (he : (twoIterOps c rd fuel).apply op it = some it') : TwoIter.Good c it it' :=
  ((twoIter_prims hrd hrt fuel).mono (fun _ hs => hs) (fun _ _ _ nf _ e => nf.good hrd hrt e)).apply_rel
    (fun _ => TwoIter.Good.refl) (fun _ _ _ => TwoIter.Good.trans) (fun _ _ g => g.1) h he

theorem twoIter_run_good (hrd : RdInv c rd) (hrt : RdTotal rd) (fuel : Nat)
    (ops : List BlockOp) :
    ∀ (it it' : TwoIter), it.Inv c → (twoIterOps c rd fuel).run ops it = some it' →
      TwoIter.Good c it it' := by
  induction ops with
  | nil => intro it it' h he; cases he; exact TwoIter.Good.refl h
  | cons op ops ih =>
    intro it it' h he
    unfold IterOps.run at he
    split at he
    · cases he
    · rename_i s1 h1
      have g1 := twoIter_apply_good hrd hrt fuel op it s1 h h1
      exact g1.trans (ih s1 it' g1.1 he)

theorem twoIter_run_total (hrd : RdInv c rd) (hrt : RdTotal rd) (fuel : Nat) (ops : List BlockOp)
    (it : TwoIter) (h : it.Inv c) (hf : it.Enough fuel) :
    ∃ it', (twoIterOps c rd fuel).run ops it = some it' ∧ TwoIter.Good c it it' ∧
      it'.Enough fuel := by
  have H : (twoIterOps c rd fuel).Prims (fun s => s.Inv c ∧ s.Enough fuel)
      (fun s r => ∃ s', r = some s' ∧ TwoIter.Good c s s' ∧ s'.Enough fuel) :=
    (twoIter_prims hrd hrt fuel).mono (fun _ hs => hs.1) (fun _ _ hs nf => nf.total hrd hrt hs.2)
  refine H.run_total (G := fun s s' => TwoIter.Good c s s' ∧ s'.Enough fuel)
    (fun s hs => ⟨.refl hs.1, hs.2⟩) (fun _ _ _ g g' => ⟨g.1.trans g'.1, g'.2⟩)
    (fun _ _ g => ⟨g.1.1, g.2⟩) ?_ ops ⟨h, hf⟩
  -- a valid result of `seek` stands on a well-formed key and was sought with one
  intro t s s1 hs e hv
  obtain ⟨nf, htg⟩ := TwoIter.seek_nf (RdPair.refl hrd hrt) fuel t s hs.1
  exact ⟨_, c.compare_eq (s1.key_len (nf.good hrd hrt e).1 hv) (htg s1 e hv)⟩

theorem twoIter_seekTail (H : RdPair c rd' rd) (fuel : Nat) (op : BlockOp)
    (t : Bytes) (hop : op = .seekGT t ∨ op = .seekLE t ∨ op = .seekLT t) (a s1 r' r : TwoIter)
    (hs1 : s1.Inv c) (hs' : TwoIter.seek c rd' fuel t a = some s1)
    (hs : TwoIter.seek c rd fuel t a = some s1)
    (h' : (twoIterOps c rd' fuel).apply op a = some r')
    (h : (twoIterOps c rd fuel).apply op a = some r) :
    TwoIter.Good c s1 r' ∧ TwoIter.Good c s1 r ∧ TwoIter.Div r' r := by
  have stay : TwoIter.Good c s1 s1 ∧ TwoIter.Good c s1 s1 ∧ TwoIter.Div s1 s1 :=
    ⟨.refl hs1, .refl hs1, .refl _⟩
  rcases hop with rfl | rfl | rfl <;>
    (dsimp only [IterOps.apply, IterOps.seekGT, IterOps.seekLE, IterOps.seekLT, twoIterOps] at h' h
     rw [hs'] at h'
     rw [hs] at h
     dsimp only at h' h)
  -- seekGT, seekLE, seekLT in turn: each either stays on `s1` or does one further `next`, `prev` or
  -- `last`, whose normal form (`step_nf`, `edge_nf`) gives the lockstep
  · by_cases hv : TwoIter.valid s1 = true
    · rw [if_pos hv] at h' h
      cases hc : c.compare (TwoIter.key s1) t with
      | none => rw [hc] at h'; cases h'
      | some o =>
        rw [hc] at h' h
        cases o with
        | lt => cases h'; cases h; exact stay
        | gt => cases h'; cases h; exact stay
        | eq => exact (TwoIter.step_nf .fwd fuel s1 hs1 hv).lockstep H h' h
    · rw [if_neg hv] at h' h
      cases h'; cases h; exact stay
  · by_cases hv : TwoIter.valid s1 = true
    · rw [if_pos hv] at h' h
      cases hc : c.compare (TwoIter.key s1) t with
      | none => rw [hc] at h'; cases h'
      | some o =>
        rw [hc] at h' h
        cases o with
        | lt => cases h'; cases h; exact stay
        | eq => cases h'; cases h; exact stay
        | gt => exact (TwoIter.step_nf .bwd fuel s1 hs1 hv).lockstep H h' h
    · rw [if_neg hv] at h' h
      exact (TwoIter.edge_nf H .bwd fuel s1 hs1).lockstep H h' h
  · by_cases hv : TwoIter.valid s1 = true
    · rw [if_pos hv] at h' h
      exact (TwoIter.step_nf .bwd fuel s1 hs1 hv).lockstep H h' h
    · rw [if_neg hv] at h' h
      exact (TwoIter.edge_nf H .bwd fuel s1 hs1).lockstep H h' h

theorem twoIter_seekTail_seek (fuel : Nat) (op : BlockOp) (t : Bytes)
    (hop : op = .seekGT t ∨ op = .seekLE t ∨ op = .seekLT t) (a r : TwoIter)
    (h : (twoIterOps c rd fuel).apply op a = some r) :
    ∃ s1, TwoIter.seek c rd fuel t a = some s1 := by
  cases hs : TwoIter.seek c rd fuel t a with
  | some s1 => exact ⟨s1, rfl⟩
  | none =>
    have : (twoIterOps c rd fuel).apply op a = none := by
      rcases hop with rfl | rfl | rfl <;>
        simp only [IterOps.apply, IterOps.seekGT, IterOps.seekLE, IterOps.seekLT, twoIterOps, hs]
    rw [this] at h
    cases h

theorem twoIter_seekCompound_div (H : RdPair c rd' rd) (fuel : Nat) (op : BlockOp)
    (t : Bytes) (hop : op = .seekGT t ∨ op = .seekLE t ∨ op = .seekLT t) (a r' r : TwoIter)
    (ha : a.Inv c)
    (h' : (twoIterOps c rd' fuel).apply op a = some r')
    (h : (twoIterOps c rd fuel).apply op a = some r) : TwoIter.Div r' r := by
  obtain ⟨s1', hs'⟩ := twoIter_seekTail_seek fuel op t hop a r' h'
  obtain ⟨s1, hs⟩ := twoIter_seekTail_seek fuel op t hop a r h
  obtain ⟨g1', g1, d1⟩ := (TwoIter.seek_nf H fuel t a ha).1.lockstep H hs' hs
  refine d1.step
    (twoIter_seekTail (.refl H.inv' H.total') fuel op t hop a s1' r' r' g1'.1 hs' hs' h' h').1
    (twoIter_seekTail (.refl H.inv H.total) fuel op t hop a s1 r r g1.1 hs hs h h).1 (fun e => ?_)
  subst e
  exact (twoIter_seekTail H fuel op t hop a s1' r' r g1.1 hs' hs h' h).2.2

theorem twoIter_step_div (H : RdPair c rd' rd) (w : Way) (fuel : Nat) (a r' r : TwoIter)
    (ha : a.Inv c)
    (h' : (if a.valid then (twoIterOps c rd' fuel).step w a else some a) = some r')
    (h : (if a.valid then (twoIterOps c rd fuel).step w a else some a) = some r) :
    TwoIter.Div r' r := by
  by_cases hv : a.valid = true
  · rw [if_pos hv] at h' h
    exact ((TwoIter.step_nf w fuel a ha hv).lockstep H h' h).2.2
  · rw [if_neg hv] at h' h
    cases h'; cases h; exact TwoIter.Div.refl _

theorem twoIter_apply_div (H : RdPair c rd' rd) (fuel : Nat) (op : BlockOp) (a' a r' r : TwoIter)
    (ha' : a'.Inv c) (ha : a.Inv c) (hd : TwoIter.Div a' a)
    (h' : (twoIterOps c rd' fuel).apply op a' = some r')
    (h : (twoIterOps c rd fuel).apply op a = some r) : TwoIter.Div r' r := by
  refine hd.step (twoIter_apply_good H.inv' H.total' fuel op a' r' ha' h')
    (twoIter_apply_good H.inv H.total fuel op a r ha h) (fun e => ?_)
  subst e
  cases op with
  | first => exact ((TwoIter.edge_nf H .fwd fuel a' ha).lockstep H h' h).2.2
  | last => exact ((TwoIter.edge_nf H .bwd fuel a' ha).lockstep H h' h).2.2
  | next => exact twoIter_step_div H .fwd fuel a' r' r ha h' h
  | prev => exact twoIter_step_div H .bwd fuel a' r' r ha h' h
  | seek t => exact ((TwoIter.seek_nf H fuel t a' ha).1.lockstep H h' h).2.2
  | seekGE t => exact ((TwoIter.seek_nf H fuel t a' ha).1.lockstep H h' h).2.2
  | seekGT t => exact twoIter_seekCompound_div H fuel _ t (Or.inl rfl) a' r' r ha h' h
  | seekLE t => exact twoIter_seekCompound_div H fuel _ t (Or.inr (Or.inl rfl)) a' r' r ha h' h
  | seekLT t => exact twoIter_seekCompound_div H fuel _ t (Or.inr (Or.inr rfl)) a' r' r ha h' h

theorem twoIter_run_div (H : RdPair c rd' rd) (fuel : Nat) (ops : List BlockOp) :
    ∀ (a' a r' r : TwoIter), a'.Inv c → a.Inv c → TwoIter.Div a' a →
      (twoIterOps c rd' fuel).run ops a' = some r' → (twoIterOps c rd fuel).run ops a = some r →
      TwoIter.Div r' r := by
  induction ops with
  | nil =>
    intro a' a r' r _ _ hd h' h
    cases h'; cases h; exact hd
  | cons op ops ih =>
    intro a' a r' r ha' ha hd h' h
    unfold IterOps.run at h' h
    cases e' : (twoIterOps c rd' fuel).apply op a' with
    | none => rw [e'] at h'; cases h'
    | some s' =>
      cases e : (twoIterOps c rd fuel).apply op a with
      | none => rw [e] at h; cases h
      | some s =>
        rw [e'] at h'
        rw [e] at h
        dsimp only at h' h
        exact ih s' s r' r (twoIter_apply_good H.inv' H.total' fuel op a' s' ha' e').1
          (twoIter_apply_good H.inv H.total fuel op a s ha e).1
          (twoIter_apply_div H fuel op a' a s' s ha' ha hd e' e) h' h

end

end Lcdb
