/-
  Lemmas about the log format of Model/LogFormat.lean; the reader with checksums on.  In step with the writer
  the reader's state is a function `rstate` of the writer's block offset and the unread bytes, and from the
  record layer up one equation says what is read back from a file cut at any byte (`readRecordGo_take`,
  `readAllGo_write`); and what the reader returns on arbitrary bytes (`GoodRec`, `readAllGo_sound`).
-/
import LcdbModel.Model.LogFormat
import LcdbModel.Lemmas.Coding
import LcdbModel.Props.CrcProps
namespace Lcdb

def OffOk (off : Nat) : Prop := off ≤ logBlockSize

/-- number of zero bytes the writer pads with before switching block -/
def padLen (off : Nat) : Nat := if logBlockSize - off < logHeaderSize then logBlockSize - off else 0

/-- block offset at which the next physical record header is placed -/
def normOff (off : Nat) : Nat := if logBlockSize - off < logHeaderSize then 0 else off

def fragLenAt (off : Nat) (n : Nat) : Nat := min n (logBlockSize - normOff off - logHeaderSize)

theorem emitPhysical_eq (ty : Nat) (frag : Bytes) :
    emitPhysical ty frag =
      fixedEnc 4 (crcMask (crcExtend (crc32c [UInt8.ofNat ty]) frag)).toNat ++
        (UInt8.ofNat (frag.length % 256) :: UInt8.ofNat (frag.length / 256) :: UInt8.ofNat ty :: frag) := by
  simp [emitPhysical]

theorem emitPhysical_length (ty : Nat) (frag : Bytes) :
    (emitPhysical ty frag).length = 7 + frag.length := by
  rw [emitPhysical_eq, List.length_append, fixedEnc_length]
  simp only [List.length_cons]; omega

theorem addRecordGo_zero (off : Nat) (left : Bytes) (b : Bool) :
    addRecordGo 0 off left b = ([], off) := rfl

theorem addRecordGo_succ (fuel off : Nat) (left : Bytes) (b : Bool) :
    addRecordGo (fuel + 1) off left b =
      let fl := fragLenAt off left.length
      let isEnd := left.length == fl
      let off2 := normOff off + logHeaderSize + fl
      let tl := if isEnd then ([], off2) else addRecordGo fuel off2 (left.drop fl) false
      (List.replicate (padLen off) 0 ++ emitPhysical (recType b isEnd) (left.take fl) ++ tl.1, tl.2) := by
  have he : (left.drop (fragLenAt off left.length)).isEmpty = (left.length == fragLenAt off left.length) := by
    have : fragLenAt off left.length ≤ left.length := Nat.min_le_left _ _
    rw [Bool.eq_iff_iff, List.isEmpty_iff, List.drop_eq_nil_iff, beq_iff_eq]; omega
  simp only [addRecordGo, fragLenAt, padLen, normOff] at he ⊢
  simp only [← he]
  generalize (List.drop _ left).isEmpty = e
  cases e <;> simp <;> split <;> rfl

theorem normOff_bound (off n : Nat) :
    normOff off + logHeaderSize + fragLenAt off n ≤ logBlockSize := by
  unfold fragLenAt normOff logBlockSize logHeaderSize at *
  split <;> omega

theorem addRecordGo_length_ge (f off : Nat) (left : Bytes) (b : Bool) :
    7 ≤ (addRecordGo (f + 1) off left b).1.length := by
  rw [addRecordGo_succ]
  simp only [List.length_append, emitPhysical_length]
  omega

/-- fuel that `addRecordGo` needs at block offset `off` with `n` bytes left -/
def fuelNeed (off n : Nat) : Nat := n + (if off = logBlockSize - logHeaderSize then 2 else 1)

/-- the fragment is empty only when exactly a header fits, which is where `fuelNeed` asks for one more round -/
theorem fragLenAt_lt (off n : Nat) (hlt : fragLenAt off n < n) :
    normOff off + logHeaderSize + fragLenAt off n = logBlockSize ∧
      (fragLenAt off n = 0 → off = logBlockSize - logHeaderSize) := by
  unfold fragLenAt normOff logBlockSize logHeaderSize at *
  by_cases hc : 32768 - off < 7 <;> simp only [hc, if_true, if_false] at hlt ⊢ <;> omega

theorem fuelNeed_step (off n f : Nat) (hne : n ≠ fragLenAt off n)
    (hf : fuelNeed off n ≤ f + 1) :
    fuelNeed (normOff off + logHeaderSize + fragLenAt off n) (n - fragLenAt off n) ≤ f := by
  have hlt : fragLenAt off n < n := Nat.lt_of_le_of_ne (Nat.min_le_left _ _) hne.symm
  obtain ⟨hnext, h0⟩ := fragLenAt_lt off n hlt
  rw [hnext]
  unfold fuelNeed at *
  rw [if_neg (by decide)]
  split at hf <;> omega

theorem addRecordGo_fuelNeed {f1 f2 off : Nat} {left : Bytes} {b : Bool}
    (h1 : fuelNeed off left.length ≤ f1) (h2 : fuelNeed off left.length ≤ f2) :
    addRecordGo f1 off left b = addRecordGo f2 off left b := by
  induction f1 generalizing f2 off left b with
  | zero => unfold fuelNeed at h1; split at h1 <;> omega
  | succ f1 ih =>
    cases f2 with
    | zero => unfold fuelNeed at h2; split at h2 <;> omega
    | succ f2 =>
      rw [addRecordGo_succ, addRecordGo_succ]
      dsimp only
      split
      · rfl
      · rename_i hne
        have k1 := fuelNeed_step off left.length f1 (mt beq_iff_eq.2 hne) h1
        have k2 := fuelNeed_step off left.length f2 (mt beq_iff_eq.2 hne) h2
        rw [← List.length_drop] at k1 k2
        rw [ih k1 k2]

theorem fuelNeed_le (off n : Nat) : fuelNeed off n ≤ n + 2 := by
  unfold fuelNeed; split <;> omega

theorem addRecordGo_off {f off : Nat} (left : Bytes) (b : Bool) (h : off ≤ logBlockSize) :
    (addRecordGo f off left b).2 ≤ logBlockSize ∧
      (addRecordGo f off left b).2 % logBlockSize
        = (off + (addRecordGo f off left b).1.length) % logBlockSize := by
  induction f generalizing off left b with
  | zero => exact ⟨h, rfl⟩
  | succ f ih =>
    have hb := normOff_bound off left.length
    have hfl : fragLenAt off left.length ≤ left.length := Nat.min_le_left _ _
    -- padding brings the file position to the block boundary, where the tracked offset restarts at 0
    have hp : (off + padLen off) % logBlockSize = normOff off % logBlockSize := by
      unfold padLen normOff logBlockSize logHeaderSize at *
      split
      · rw [Nat.add_sub_cancel' h]
      · rfl
    have step : ∀ x, (normOff off + logHeaderSize + x) % logBlockSize
        = (off + (padLen off + (7 + x))) % logBlockSize := fun x => by
      rw [← Nat.add_assoc off, Nat.add_mod (off + padLen off), hp, ← Nat.add_mod, Nat.add_assoc]
      rfl
    rw [addRecordGo_succ]
    simp only [List.length_append, List.length_replicate, emitPhysical_length, List.length_take,
      Nat.min_eq_left hfl]
    split
    · exact ⟨hb, step _⟩
    · refine ⟨(ih _ _ hb).1, ?_⟩
      rw [(ih _ _ hb).2]
      simp only [Nat.add_assoc]
      exact Nat.add_assoc _ _ _ ▸ step _

theorem addRecord_off_block (rec : Bytes) : addRecord logBlockSize rec = addRecord 0 rec := by
  unfold addRecord
  rw [addRecordGo, addRecordGo]
  -- in both cases nothing is padded and the header goes to offset 0 of a block
  rfl

def writeOff (off : Nat) : List Bytes → Nat
  | [] => off
  | r :: rs => writeOff (addRecord off r).2 rs

theorem writeFrom_append (off : Nat) (a b : List Bytes) :
    writeFrom off (a ++ b) = writeFrom off a ++ writeFrom (writeOff off a) b := by
  induction a generalizing off with
  | nil => rfl
  | cons r rs ih => simp only [List.cons_append, writeFrom, writeOff, ih, List.append_assoc]

theorem writeOff_spec {off : Nat} (a : List Bytes) (h : off ≤ logBlockSize) :
    writeOff off a ≤ logBlockSize ∧
      writeOff off a % logBlockSize = (off + (writeFrom off a).length) % logBlockSize := by
  induction a generalizing off with
  | nil => exact ⟨h, rfl⟩
  | cons r rs ih =>
    obtain ⟨hle, hm⟩ := addRecordGo_off r true h
    refine ⟨(ih hle).1, ?_⟩
    simp only [writeOff, writeFrom, List.length_append]
    unfold addRecord
    rw [(ih hle).2, Nat.add_mod, hm, ← Nat.add_mod, Nat.add_assoc]

theorem writeFrom_off_block (rs : List Bytes) : writeFrom logBlockSize rs = writeFrom 0 rs := by
  cases rs with
  | nil => rfl
  | cons r rs => simp only [writeFrom, addRecord_off_block]

theorem writeFrom_append_mod (off : Nat) (a b : List Bytes) (h : off ≤ logBlockSize) :
    writeFrom off (a ++ b)
      = writeFrom off a ++ writeFrom ((off + (writeFrom off a).length) % logBlockSize) b := by
  obtain ⟨hle, hm⟩ := writeOff_spec a h
  rw [writeFrom_append, ← hm]
  congr 1
  by_cases hc : writeOff off a = logBlockSize
  · rw [hc, Nat.mod_self, writeFrom_off_block]
  · rw [Nat.mod_eq_of_lt (by omega)]

theorem writeAll_append (len : Nat) (a b : List Bytes) :
    writeAll len (a ++ b) = writeAll len a ++ writeAll (len + (writeAll len a).length) b := by
  unfold writeAll
  rw [writeFrom_append_mod _ a b (Nat.le_of_lt (Nat.mod_lt _ (by decide))), Nat.mod_add_mod]

/-- first half of `readPhysical` -/
def refill (st : RState) : RState :=
  if st.buffer.length < logHeaderSize && !st.eof then
    { buffer := st.rest.take logBlockSize, rest := st.rest.drop logBlockSize,
      eof := (st.rest.take logBlockSize).length < logBlockSize }
  else st

/-- second half of `readPhysical` -/
def parsePhys (checksum : Bool) (st1 : RState) : Phys × List REvent × RState :=
  if st1.buffer.length < logHeaderSize then
    (Phys.eof, [], { st1 with buffer := [], eof := true })
  else
    let hdr := st1.buffer
    let length := (hdr.getD 4 0).toNat + 256 * (hdr.getD 5 0).toNat
    let ty := (hdr.getD 6 0).toNat
    if logHeaderSize + length > st1.buffer.length then
      if !st1.eof then (Phys.bad, [REvent.drop st1.buffer.length], { st1 with buffer := [] })
      else (Phys.eof, [], { st1 with buffer := [] })
    else if ty == 0 && length == 0 then
      (Phys.bad, [], { st1 with buffer := [] })
    else
      let payload := (hdr.drop logHeaderSize).take length
      let expect := crcUnmask (BitVec.ofNat 32 (fixedDec (hdr.take 4)))
      let actual := crc32c ((hdr.drop 6).take (1 + length))
      if checksum && actual != expect then
        (Phys.bad, [REvent.drop st1.buffer.length], { st1 with buffer := [] })
      else
        (Phys.data ty payload, [], { st1 with buffer := hdr.drop (logHeaderSize + length) })

theorem readPhysical_eq (c : Bool) (st : RState) : readPhysical c st = parsePhys c (refill st) := rfl

theorem parsePhys_cons_eq (c0 c1 c2 c3 l0 l1 t : UInt8) (body rest : Bytes) (eof : Bool) (n : Nat)
    (hn : l0.toNat + 256 * l1.toNat = n) :
    parsePhys true ⟨c0 :: c1 :: c2 :: c3 :: l0 :: l1 :: t :: body, rest, eof⟩ =
      if body.length < n then
        if eof then (Phys.eof, [], ⟨[], rest, eof⟩)
        else (Phys.bad, [REvent.drop (body.length + 7)], ⟨[], rest, eof⟩)
      else if t.toNat = 0 ∧ n = 0 then (Phys.bad, [], ⟨[], rest, eof⟩)
      else if crc32c (t :: body.take n) = crcUnmask (BitVec.ofNat 32 (fixedDec [c0, c1, c2, c3])) then
        (Phys.data t.toNat (body.take n), [], ⟨body.drop n, rest, eof⟩)
      else (Phys.bad, [REvent.drop (body.length + 7)], ⟨[], rest, eof⟩) := by
  subst hn
  have e1 : List.take (1 + (l0.toNat + 256 * l1.toNat)) (t :: body)
      = t :: List.take (l0.toNat + 256 * l1.toNat) body := by
    rw [Nat.add_comm 1, List.take_succ_cons]
  have e2 : List.drop (7 + (l0.toNat + 256 * l1.toNat)) (c0 :: c1 :: c2 :: c3 :: l0 :: l1 :: t :: body)
      = List.drop (l0.toNat + 256 * l1.toNat) body := by
    rw [Nat.add_comm 7]; rfl
  unfold parsePhys
  simp [logHeaderSize]
  rw [e1, e2, if_neg (by omega)]
  by_cases h : body.length < l0.toNat + 256 * l1.toNat
  · rw [if_pos (by omega), if_pos h]
    cases eof <;> rfl
  · rw [if_neg (by omega), if_neg h]

theorem parsePhys_short (c : Bool) (st : RState) (h : st.buffer.length < 7) :
    parsePhys c st = (Phys.eof, [], { st with buffer := [], eof := true }) := by
  unfold parsePhys
  rw [if_pos (show st.buffer.length < logHeaderSize from h)]

theorem emitPhysical_cons (ty : Nat) (frag : Bytes) : ∃ c0 c1 c2 c3 : UInt8,
    emitPhysical ty frag = c0 :: c1 :: c2 :: c3 :: UInt8.ofNat (frag.length % 256) ::
      UInt8.ofNat (frag.length / 256) :: UInt8.ofNat ty :: frag ∧
    BitVec.ofNat 32 (fixedDec [c0, c1, c2, c3]) = crcMask (crcExtend (crc32c [UInt8.ofNat ty]) frag) := by
  obtain ⟨c0, c1, c2, c3, h⟩ : ∃ c0 c1 c2 c3 : UInt8,
      fixedEnc 4 (crcMask (crcExtend (crc32c [UInt8.ofNat ty]) frag)).toNat = [c0, c1, c2, c3] :=
    ⟨_, _, _, _, rfl⟩
  refine ⟨c0, c1, c2, c3, ?_, ?_⟩
  · rw [emitPhysical_eq, h]; rfl
  · rw [← h, ofNat32_fixedDec_fixedEnc]

theorem refill_noop (st : RState) (h : 7 ≤ st.buffer.length ∨ st.eof = true) : refill st = st := by
  unfold refill logHeaderSize
  rcases h with h | h
  · rw [if_neg]; simp; omega
  · rw [if_neg]; simp [h]

/-- the reader's state when it stands at block offset `off` of the writer with the bytes `S` still unread:
    the buffer holds what is left of the current block -/
def rstate (off : Nat) (S : Bytes) : RState :=
  ⟨S.take (logBlockSize - off), S.drop (logBlockSize - off), decide (S.length < logBlockSize - off)⟩

theorem rstate_block (S : Bytes) : rstate logBlockSize S = ⟨[], S, false⟩ := by
  simp [rstate]

theorem rstate_of_short {off : Nat} {S : Bytes} (h : S.length < logBlockSize - off) :
    rstate off S = ⟨S, [], true⟩ := by
  simp [rstate, List.take_of_length_le (Nat.le_of_lt h), List.drop_of_length_le (Nat.le_of_lt h), h]

theorem rstate_append {off : Nat} (X T : Bytes) (h : off + X.length ≤ logBlockSize) :
    rstate off (X ++ T) =
      { rstate (off + X.length) T with buffer := X ++ (rstate (off + X.length) T).buffer } := by
  have e : logBlockSize - off = X.length + (logBlockSize - (off + X.length)) := by omega
  simp only [rstate, e, List.take_length_add_append, List.drop_length_add_append, List.length_append,
    Nat.add_lt_add_iff_left]

theorem refill_pad (off : Nat) (X : Bytes) :
    refill (rstate off (List.replicate (padLen off) 0 ++ X)) = rstate (normOff off) X := by
  by_cases hc : logBlockSize - off < 7
  · -- the trailer is all that is in the buffer, and the last read was a full block
    rw [show padLen off = logBlockSize - off from if_pos hc, show normOff off = 0 from if_pos hc]
    simp [refill, rstate, logHeaderSize, hc]
    omega
  · rw [show padLen off = 0 from if_neg hc, show normOff off = off from if_neg hc]
    apply refill_noop
    simp only [rstate, List.replicate_zero, List.nil_append, List.length_take, decide_eq_true_eq]
    omega

theorem parsePhys_emit (ty : Nat) (frag b' rest : Bytes) (eof : Bool) (hlen : frag.length < 65536)
    (hty : ty < 256) (hty0 : ty ≠ 0) :
    parsePhys true ⟨emitPhysical ty frag ++ b', rest, eof⟩ = (Phys.data ty frag, [], ⟨b', rest, eof⟩) := by
  obtain ⟨c0, c1, c2, c3, he, hc⟩ := emitPhysical_cons ty frag
  have ht : (UInt8.ofNat ty).toNat = ty := by
    rw [UInt8.toNat_ofNat']; omega
  rw [he]
  simp only [List.cons_append]
  rw [parsePhys_cons_eq _ _ _ _ _ _ _ _ _ _ _ (le16_toNat frag.length hlen), ht, List.take_left, List.drop_left,
    if_neg (by simp), if_neg (by omega), if_pos]
  rw [hc, mask_unmask, ← crc32c_append]
  rfl

theorem parsePhys_emit_cut (ty : Nat) (frag : Bytes) (m : Nat) (hlen : frag.length < 65536)
    (hm : m < 7 + frag.length) :
    parsePhys true ⟨(emitPhysical ty frag).take m, [], true⟩ = (Phys.eof, [], ⟨[], [], true⟩) := by
  by_cases h7 : m < 7
  · exact parsePhys_short _ _ (by rw [List.length_take]; omega)
  · obtain ⟨c0, c1, c2, c3, he, -⟩ := emitPhysical_cons ty frag
    obtain ⟨k, rfl⟩ : ∃ k, m = k + 7 := ⟨m - 7, by omega⟩
    rw [he]
    simp only [List.take_succ_cons]
    rw [parsePhys_cons_eq _ _ _ _ _ _ _ _ _ _ _ (le16_toNat frag.length hlen),
      if_pos (by rw [List.length_take]; omega)]
    rfl

theorem readPhysical_emit (off ty : Nat) (frag T : Bytes)
    (hfrag : frag.length ≤ logBlockSize - normOff off - logHeaderSize) (hty : ty < 256) (hty0 : ty ≠ 0) :
    readPhysical true (rstate off (List.replicate (padLen off) 0 ++ emitPhysical ty frag ++ T)) =
      (Phys.data ty frag, [], rstate (normOff off + logHeaderSize + frag.length) T) := by
  have hb := normOff_bound off 0
  have hE := emitPhysical_length ty frag
  unfold logHeaderSize at *
  rw [readPhysical_eq, List.append_assoc, refill_pad, rstate_append _ _ (by omega), hE, ← Nat.add_assoc]
  exact parsePhys_emit ty frag _ _ _ (by unfold logBlockSize at hb hfrag; omega) hty hty0

theorem readPhysical_emit_cut (off ty : Nat) (frag : Bytes) (m : Nat)
    (hfrag : frag.length ≤ logBlockSize - normOff off - logHeaderSize)
    (hm : m < padLen off + 7 + frag.length) :
    readPhysical true (rstate off ((List.replicate (padLen off) 0 ++ emitPhysical ty frag).take m)) =
      (Phys.eof, [], ⟨[], [], true⟩) := by
  have hb := normOff_bound off 0
  have hE := emitPhysical_length ty frag
  unfold logHeaderSize at *
  rw [readPhysical_eq]
  by_cases hp : padLen off ≤ m
  · rw [List.take_append, List.take_of_length_le (by simpa using hp), List.length_replicate, refill_pad,
      rstate_of_short (by rw [List.length_take]; omega)]
    exact parsePhys_emit_cut ty frag _ (by unfold logBlockSize at hb hfrag; omega) (by omega)
  · -- the file ends inside the block trailer
    have hc : logBlockSize - off < 7 := Nat.lt_of_not_le fun h =>
      hp (by rw [show padLen off = 0 from if_neg (Nat.not_lt.2 h)]; exact Nat.zero_le _)
    rw [show padLen off = logBlockSize - off from if_pos hc] at hp ⊢
    rw [List.take_append_of_le_length (by simp; omega), rstate_of_short (by simp; omega),
      refill_noop _ (Or.inr rfl)]
    exact parsePhys_short _ _ (by simp; omega)

section
variable {c : Bool} {st st' : RState} {d : List REvent} {frag : Bytes}
  (fuel : Nat) (inFrag : Bool) (scratch : Bytes) (ev : List REvent)

theorem readRecordGo_eof (h : readPhysical c st = (Phys.eof, d, st')) :
    readRecordGo c (fuel + 1) st inFrag scratch ev = (none, ev ++ d, st') := by
  simp [readRecordGo, h]

/-- The fragments of the writer as seen by a reader in step with it (inside a record iff the fragment is
    not the first one, nothing in the scratch buffer at the first one): begin and continuation are the
    same step. -/
theorem readRecordGo_frag (b e : Bool) (h : readPhysical c st = (Phys.data (recType b e) frag, d, st'))
    (hsc : b = true → scratch = []) :
    readRecordGo c (fuel + 1) st (!b) scratch ev =
      if e then (some (scratch ++ frag), ev ++ d, st')
      else readRecordGo c fuel st' true (scratch ++ frag) (ev ++ d) := by
  -- in each of the four cases `recType b e` is a literal and the loop takes the branch of that type; at a
  -- first fragment `hsc` makes the scratch buffer (and with it the drop report) disappear
  cases b <;> cases e <;> simp [readRecordGo, h, recType, tyFull, tyFirst, tyMiddle, tyLast, hsc]

end

theorem recType_lt (b e : Bool) : recType b e < 256 ∧ recType b e ≠ 0 := by
  cases b <;> cases e <;> decide

theorem readRecordGo_take (f : Nat) : ∀ (off : Nat) (left : Bytes) (b : Bool) (fuel : Nat)
    (scratch : Bytes) (ev : List REvent) (T : Bytes) (m : Nat),
    fuelNeed off left.length ≤ f →
    (((addRecordGo f off left b).1 ++ T).take m).length < fuel → (b = true → scratch = []) →
    readRecordGo true fuel (rstate off (((addRecordGo f off left b).1 ++ T).take m)) (!b) scratch ev =
      if (addRecordGo f off left b).1.length ≤ m then
        (some (scratch ++ left), ev,
          rstate (addRecordGo f off left b).2 (T.take (m - (addRecordGo f off left b).1.length)))
      else (none, ev, ⟨[], [], true⟩) := by
  induction f with
  | zero =>
    intro off left b fuel scratch ev T m hf
    unfold fuelNeed at hf; split at hf <;> omega
  | succ f ih =>
    intro off left b fuel scratch ev T m hf hfuel hsc
    have hfl : fragLenAt off left.length ≤ left.length := Nat.min_le_left _ _
    obtain ⟨fuel, rfl⟩ : ∃ k, fuel = k + 1 := ⟨fuel - 1, by omega⟩
    rw [addRecordGo_succ] at hfuel ⊢
    dsimp only at hfuel ⊢
    generalize hfl_eq : fragLenAt off left.length = fl at *
    have hfl3 : (left.take fl).length = fl := by rw [List.length_take]; omega
    have hfr : (left.take fl).length ≤ logBlockSize - normOff off - logHeaderSize := by
      rw [hfl3, ← hfl_eq]; exact Nat.min_le_right _ _
    obtain ⟨e, he⟩ : ∃ e, (left.length == fl) = e := ⟨_, rfl⟩
    have hlen : ∀ ty frag, (List.replicate (padLen off) (0 : UInt8) ++ emitPhysical ty frag).length
        = padLen off + 7 + frag.length := fun ty frag => by
      rw [List.length_append, List.length_replicate, emitPhysical_length, Nat.add_assoc]
    rw [List.length_append, hlen, hfl3]
    rw [he] at hfuel ⊢
    rw [List.append_assoc] at hfuel ⊢
    by_cases hm : padLen off + 7 + fl ≤ m
    · -- the padding and the first physical record lie before the cut
      rw [List.take_append, List.take_of_length_le (by rw [hlen, hfl3]; exact hm), hlen, hfl3] at hfuel ⊢
      rw [readRecordGo_frag _ _ _ b e
        (readPhysical_emit off _ _ _ hfr (recType_lt b e).1 (recType_lt b e).2) hsc, hfl3]
      cases e
      · -- more fragments follow; they lie behind the cut iff the whole record does
        simp only [Bool.false_eq_true, if_false, List.append_nil] at hfuel ⊢
        have hf' := fuelNeed_step off left.length f (hfl_eq ▸ ne_of_beq_false he) hf
        rw [← List.length_drop, hfl_eq] at hf'
        rw [List.length_append, hlen, hfl3] at hfuel
        exact (ih _ _ false fuel _ ev T _ hf' (by omega) nofun).trans
          (by simp only [List.append_assoc, List.take_append_drop, Nat.le_sub_iff_add_le' hm, ← Nat.sub_add_eq])
      · -- the fragment was the whole rest of the record
        cases eq_of_beq he
        simp only [if_true, List.length_nil, Nat.add_zero, List.nil_append, List.take_length, List.append_nil,
          if_pos hm]
    · -- the file ends inside the padding or the first physical record
      rw [List.take_append_of_le_length (by rw [hlen, hfl3]; omega),
        readRecordGo_eof _ _ _ _ (readPhysical_emit_cut off _ _ m hfr (by rw [hfl3]; omega)),
        if_neg (by omega), List.append_nil]

theorem readPhysical_nil (off : Nat) :
    readPhysical true (rstate off []) = (Phys.eof, [], ⟨[], [], true⟩) := by
  have h := readPhysical_emit_cut off 1 [] 0 (Nat.zero_le _) (by omega)
  rwa [List.take_zero] at h

def recordEnds (off : Nat) (rs : List Bytes) : List Nat :=
  (List.range rs.length).map fun i => (writeFrom off (rs.take (i + 1))).length

theorem recordEnds_cons (off : Nat) (r : Bytes) (rs : List Bytes) :
    recordEnds off (r :: rs) = (addRecord off r).1.length ::
      (recordEnds (addRecord off r).2 rs).map ((addRecord off r).1.length + ·) := by
  unfold recordEnds
  rw [List.length_cons, List.range_succ_eq_map, List.map_cons, List.map_map, List.map_map]
  congr 1
  · simp [writeFrom]
  · apply List.map_congr_left
    intro i _
    simp [writeFrom]

theorem countEnds_cons (off : Nat) (r : Bytes) (rs : List Bytes) (n : Nat) :
    ((recordEnds off (r :: rs)).filter (· ≤ n)).length =
      if (addRecord off r).1.length ≤ n then
        1 + ((recordEnds (addRecord off r).2 rs).filter (· ≤ n - (addRecord off r).1.length)).length
      else 0 := by
  rw [recordEnds_cons]
  by_cases hc : (addRecord off r).1.length ≤ n
  · rw [if_pos hc, List.filter_cons_of_pos (by simpa using hc), List.length_cons, List.filter_map,
      List.length_map, Nat.add_comm]
    congr 2
    apply List.filter_congr
    intro x _
    simp only [Function.comp, decide_eq_decide]
    omega
  · rw [if_neg hc, List.filter_cons_of_neg (by simpa using hc), List.length_eq_zero_iff,
      List.filter_eq_nil_iff]
    intro x hx
    simp only [List.mem_map] at hx
    obtain ⟨y, _, rfl⟩ := hx
    simp only [decide_eq_true_eq]; omega

theorem readAllGo_write (rs : List Bytes) : ∀ (off n fuel : Nat) (ev : List REvent),
    ((writeFrom off rs).take n).length + 2 ≤ fuel →
    readAllGo true fuel (rstate off ((writeFrom off rs).take n)) ev =
      ev ++ (rs.take ((recordEnds off rs).filter (· ≤ n)).length).map REvent.record := by
  induction rs with
  | nil =>
    intro off n fuel ev hfuel
    obtain ⟨k, rfl⟩ : ∃ k, fuel = k + 1 := ⟨fuel - 1, by omega⟩
    simp [readAllGo, writeFrom, readRecordGo_eof _ _ _ _ (readPhysical_nil off)]
  | cons r rs ih =>
    intro off n fuel ev hfuel
    obtain ⟨k, rfl⟩ : ∃ k, fuel = k + 1 := ⟨fuel - 1, by omega⟩
    rw [countEnds_cons]
    simp only [writeFrom] at hfuel ⊢
    delta addRecord at hfuel ⊢
    have h := readRecordGo_take (r.length + 2) off r true (k + 1) [] []
      (writeFrom (addRecordGo (r.length + 2) off r true).2 rs) n (fuelNeed_le _ _) (by omega) (fun _ => rfl)
    rw [Bool.not_true] at h
    by_cases hc : (addRecordGo (r.length + 2) off r true).1.length ≤ n
    · rw [if_pos hc] at h
      rw [List.take_append, List.take_of_length_le hc, List.length_append] at hfuel
      have h7 : 7 ≤ (addRecordGo (r.length + 2) off r true).1.length := addRecordGo_length_ge _ _ _ _
      simp only [readAllGo, h]
      rw [if_pos hc, ih _ _ k _ (by omega)]
      simp only [Nat.add_comm 1, List.take_succ_cons, List.map_cons,
        List.append_nil, List.append_assoc, List.cons_append, List.nil_append]
    · rw [if_neg hc] at h
      simp [readAllGo, h, if_neg hc]

theorem countEnds_ge (rs : List Bytes) : ∀ (off n : Nat), (writeFrom off rs).length ≤ n →
    ((recordEnds off rs).filter (· ≤ n)).length = rs.length := by
  induction rs with
  | nil => intros; rfl
  | cons r rs ih =>
    intro off n h
    simp only [writeFrom, List.length_append] at h
    rw [countEnds_cons, if_pos (by omega), ih _ _ (by omega), List.length_cons]; omega

theorem recordEnds_off_block (rs : List Bytes) : recordEnds logBlockSize rs = recordEnds 0 rs := by
  simp only [recordEnds, writeFrom_off_block]

theorem recordsOf_map_record (l : List Bytes) : recordsOf (l.map REvent.record) = l := by
  simp [recordsOf, List.filterMap_map, Function.comp_def]

theorem dropsOf_map_record (l : List Bytes) : dropsOf (l.map REvent.record) = [] := by
  simp [dropsOf, List.filterMap_map, Function.comp_def]

theorem recordsOf_append (a b : List REvent) : recordsOf (a ++ b) = recordsOf a ++ recordsOf b := by
  simp [recordsOf]

theorem recordsOf_drop (n : Nat) : recordsOf [REvent.drop n] = [] := rfl

theorem recordsOf_append_drop (a : List REvent) (n : Nat) : recordsOf (a ++ [REvent.drop n]) = recordsOf a := by
  simp [recordsOf_append, recordsOf_drop]

theorem recordsOf_ite_drop (c : Prop) [Decidable c] (a : List REvent) (n : Nat) :
    recordsOf (if c then a ++ [REvent.drop n] else a) = recordsOf a := by
  split <;> simp [recordsOf_append_drop]

theorem exists_cons7 (buf : Bytes) (h : 7 ≤ buf.length) : ∃ c0 c1 c2 c3 l0 l1 t body,
    buf = c0 :: c1 :: c2 :: c3 :: l0 :: l1 :: t :: body := by
  rcases buf with _ | ⟨c0, _ | ⟨c1, _ | ⟨c2, _ | ⟨c3, _ | ⟨l0, _ | ⟨l1, _ | ⟨t, body⟩⟩⟩⟩⟩⟩⟩ <;>
    simp only [List.length_cons, List.length_nil] at h <;> try omega
  exact ⟨_, _, _, _, _, _, _, _, rfl⟩

def SrcInv (src : Bytes) (st : RState) : Prop := st.buffer ++ st.rest <:+ src

theorem refill_src (src : Bytes) (st : RState) (h : SrcInv src st) : SrcInv src (refill st) := by
  unfold refill
  split
  · unfold SrcInv at *
    simp only [List.take_append_drop]
    exact List.IsSuffix.trans (List.suffix_append _ _) h
  · exact h

theorem readPhysical_sound (src : Bytes) (st0 : RState) (h0 : SrcInv src st0) {p : Phys} {d : List REvent}
    {st' : RState} (hp : readPhysical true st0 = (p, d, st')) :
    SrcInv src st' ∧ recordsOf d = [] ∧
    ∀ ty payload, p = Phys.data ty payload → emitPhysical ty payload <:+: src := by
  rw [readPhysical_eq] at hp
  have h := refill_src src st0 h0
  generalize refill st0 = st at h hp
  obtain ⟨buf, rest, eof⟩ := st
  -- all outcomes but `data` empty the buffer
  have hnil : ∀ e, SrcInv src ⟨[], rest, e⟩ := fun e => (List.suffix_append buf rest).trans h
  by_cases h7 : buf.length < 7
  · rw [parsePhys_short _ _ h7] at hp
    cases hp
    exact ⟨hnil _, rfl, nofun⟩
  obtain ⟨c0, c1, c2, c3, l0, l1, t, body, rfl⟩ := exists_cons7 buf (Nat.le_of_not_lt h7)
  generalize hn : l0.toNat + 256 * l1.toNat = n
  rw [parsePhys_cons_eq _ _ _ _ _ _ _ _ _ _ n hn] at hp
  split at hp
  · split at hp <;> cases hp <;> exact ⟨hnil _, rfl, nofun⟩
  rename_i hlen
  split at hp
  · cases hp
    exact ⟨hnil _, rfl, nofun⟩
  split at hp <;> cases hp
  · rename_i hcrc
    have key : c0 :: c1 :: c2 :: c3 :: l0 :: l1 :: t :: body =
        emitPhysical t.toNat (body.take n) ++ body.drop n := by
      have hl0 := l0.toNat_lt
      have hl1 := l1.toNat_lt
      have hnl : (List.take n body).length = n := by rw [List.length_take]; omega
      -- the checksum passed, so the four stored bytes are the encoding of the masked CRC
      rw [emitPhysical_eq, hnl, UInt8.ofNat_toNat, ← crc32c_append, List.singleton_append, hcrc, unmask_mask,
        BitVec.toNat_ofNat, Nat.mod_eq_of_lt (by have := fixedDec_lt [c0, c1, c2, c3]; simpa using this)]
      have h4 := fixedEnc_fixedDec [c0, c1, c2, c3]
      simp only [List.length_cons, List.length_nil] at h4
      rw [h4]
      have h5 : n % 256 = l0.toNat := by omega
      have h6 : n / 256 = l1.toNat := by omega
      rw [h5, h6, UInt8.ofNat_toNat, UInt8.ofNat_toNat]
      simp only [List.cons_append, List.nil_append, List.take_append_drop]
    obtain ⟨pre, hpre⟩ := h
    have hsrc : pre ++ emitPhysical t.toNat (body.take n) ++ (body.drop n ++ rest) = src := by
      rw [← hpre, List.append_assoc]
      simp only [key, List.append_assoc]
    exact ⟨⟨_, hsrc⟩, rfl, fun ty payload hty => by cases hty; exact ⟨_, _, hsrc⟩⟩
  · exact ⟨hnil _, rfl, nofun⟩

/-- `r` is the concatenation of the payloads of a chain of physical records typed FULL or FIRST MIDDLE* LAST,
    each of which occurs verbatim (header with valid masked CRC, length, type, payload) in `src` -/
def GoodRec (src r : Bytes) : Prop :=
  ∃ frags : List (Nat × Bytes), r = (frags.map (·.2)).flatten ∧
    (frags.map (·.1) = [tyFull] ∨ ∃ k, frags.map (·.1) = tyFirst :: (List.replicate k tyMiddle ++ [tyLast])) ∧
    ∀ f ∈ frags, emitPhysical f.1 f.2 <:+: src

/-- what the reader holds in `scratch` while inside a record -/
def PartialRec (src scratch : Bytes) : Prop :=
  ∃ (frags : List (Nat × Bytes)) (k : Nat), scratch = (frags.map (·.2)).flatten ∧
    frags.map (·.1) = tyFirst :: List.replicate k tyMiddle ∧
    ∀ f ∈ frags, emitPhysical f.1 f.2 <:+: src

theorem GoodRec_full (src frag : Bytes) (h : emitPhysical tyFull frag <:+: src) : GoodRec src frag :=
  ⟨[(tyFull, frag)], by simp, Or.inl rfl, by simpa using h⟩

theorem PartialRec_first (src frag : Bytes) (h : emitPhysical tyFirst frag <:+: src) : PartialRec src frag :=
  ⟨[(tyFirst, frag)], 0, by simp, rfl, by simpa using h⟩

theorem PartialRec_middle (src s frag : Bytes) (hs : PartialRec src s)
    (h : emitPhysical tyMiddle frag <:+: src) : PartialRec src (s ++ frag) := by
  obtain ⟨frags, k, h1, h2, h3⟩ := hs
  refine ⟨frags ++ [(tyMiddle, frag)], k + 1, ?_, ?_, ?_⟩
  · simp [h1]
  · rw [List.map_append, h2, List.replicate_succ']; rfl
  · exact List.forall_mem_append.2 ⟨h3, List.forall_mem_singleton.2 h⟩

theorem GoodRec_last (src s frag : Bytes) (hs : PartialRec src s)
    (h : emitPhysical tyLast frag <:+: src) : GoodRec src (s ++ frag) := by
  obtain ⟨frags, k, h1, h2, h3⟩ := hs
  refine ⟨frags ++ [(tyLast, frag)], ?_, Or.inr ⟨k, ?_⟩, ?_⟩
  · simp [h1]
  · rw [List.map_append, h2]; rfl
  · exact List.forall_mem_append.2 ⟨h3, List.forall_mem_singleton.2 h⟩

/-- what a call of the record loop entered with the events `ev` guarantees for its result -/
def RRPost (src : Bytes) (ev : List REvent) (res : Option Bytes × List REvent × RState) : Prop :=
  SrcInv src res.2.2 ∧ recordsOf res.2.1 = recordsOf ev ∧ ∀ r, res.1 = some r → GoodRec src r

/-- One case per branch of the reader loop, in the order of the definition; `ev0` is the event list the
    loop was entered with, so that the drops added on the way do not show in the statement. -/
theorem readRecordGo_sound (src : Bytes) (fuel : Nat) (st : RState) (inFrag : Bool) (scratch : Bytes)
    (ev0 ev : List REvent) (hsrc : SrcInv src st) (hpart : inFrag = true → PartialRec src scratch)
    (hev : recordsOf ev = recordsOf ev0) :
    RRPost src ev0 (readRecordGo true fuel st inFrag scratch ev) := by
  fun_induction readRecordGo true fuel st inFrag scratch ev
  case case1 => exact ⟨hsrc, hev, nofun⟩
  all_goals
    -- what the physical read of this round gives; `hev` is reverted meanwhile: `‹readPhysical true _ = _›` would
    -- meet it first and unfold `readPhysical` to tell the two apart, which is slow over thirteen goals
    revert hev
    obtain ⟨h1, h2, h3⟩ := readPhysical_sound src _ hsrc ‹readPhysical true _ = _›
    intro hev
    have hevd := hev
    rw [← List.append_nil (recordsOf _), ← h2, ← recordsOf_append] at hevd
    have hd := fun n => (recordsOf_append_drop _ n).trans hevd
    simp +zetaDelta only []
  · -- FULL
    cases eq_of_beq ‹_›
    exact ⟨h1, by rw [recordsOf_ite_drop, hevd], fun r hr => Option.some.inj hr ▸ GoodRec_full src _ (h3 _ _ rfl)⟩
  · -- FIRST
    cases eq_of_beq ‹(_ == tyFirst) = true›
    exact ‹SrcInv src _ → _ → _ → _› h1 (fun _ => PartialRec_first src _ (h3 _ _ rfl))
      (by rw [recordsOf_ite_drop, hevd])
  · -- MIDDLE outside a record
    exact ‹SrcInv src _ → _ → _ → _› h1 hpart (hd _)
  · -- MIDDLE inside a record
    cases eq_of_beq ‹(_ == tyMiddle) = true›
    exact ‹SrcInv src _ → _ → _ → _› h1
      (fun _ => PartialRec_middle src _ _ (hpart (by simpa using ‹¬(!_) = true›)) (h3 _ _ rfl)) hevd
  · -- LAST outside a record
    exact ‹SrcInv src _ → _ → _ → _› h1 hpart (hd _)
  · -- LAST inside a record
    cases eq_of_beq ‹(_ == tyLast) = true›
    exact ⟨h1, hevd, fun r hr => Option.some.inj hr ▸
      GoodRec_last src _ _ (hpart (by simpa using ‹¬(!_) = true›)) (h3 _ _ rfl)⟩
  · -- stored type 5
    exact ⟨h1, hevd, nofun⟩
  · -- stored type 6, inside and outside a record
    exact ‹SrcInv src _ → _ → _ → _› h1 (fun h => absurd h Bool.false_ne_true) (hd _)
  · exact ‹SrcInv src _ → _ → _ → _› h1 hpart hevd
  · -- unknown type
    exact ‹SrcInv src _ → _ → _ → _› h1 (fun h => absurd h Bool.false_ne_true) (hd _)
  · -- end of file
    exact ⟨h1, hevd, nofun⟩
  · -- bad record, inside and outside a record
    exact ‹SrcInv src _ → _ → _ → _› h1 (fun h => absurd h Bool.false_ne_true) (hd _)
  · exact ‹SrcInv src _ → _ → _ → _› h1 hpart hevd

theorem readAllGo_sound (src : Bytes) (fuel : Nat) (st : RState) (ev : List REvent)
    (hsrc : SrcInv src st) (hev : ∀ r ∈ recordsOf ev, GoodRec src r) :
    ∀ r ∈ recordsOf (readAllGo true fuel st ev), GoodRec src r := by
  fun_induction readAllGo true fuel st ev with
  | case1 => exact hev
  | case2 fuel st ev r ev' st' h ih =>
    obtain ⟨p1, p2, p3⟩ := h ▸ readRecordGo_sound src (fuel + 1) st false [] [] [] hsrc (by simp) rfl
    have p2' : recordsOf ev' = [] := p2
    apply ih p1
    rw [recordsOf_append, recordsOf_append, p2', List.append_nil]
    exact List.forall_mem_append.2 ⟨hev, List.forall_mem_singleton.2 (p3 r rfl)⟩
  | case3 fuel st ev ev' st' h =>
    have p2 : recordsOf ev' = [] :=
      (h ▸ readRecordGo_sound src (fuel + 1) st false [] [] [] hsrc (by simp) rfl).2.1
    rw [recordsOf_append, p2, List.append_nil]
    exact hev

end Lcdb
