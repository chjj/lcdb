/-
  The reference cursor (`cursorOps`) over the keys of a strictly sorted association list, driven
  through the generic seek helpers of iterator.c, is the specification cursor `mapCursorStep`.
-/
import LcdbModel.Lemmas.Cursor
import LcdbModel.Lemmas.InternalKey
import LcdbModel.Model.DbIterImpl
namespace Lcdb.MapCursor
open Lcdb

def posToState : Option Nat → DbIterState
  | none => .invalid
  | some i => .at i

theorem rankLt_map (c : Cmp) (m : List (Bytes × String)) (t : Bytes) :
    rankLt c.compare (m.map (·.1)) t = firstGe c m t := by
  rw [rankLt, cutIdx_eq_takeWhile, List.takeWhile_map, List.length_map]; rfl

theorem rankLe_map (c : Cmp) (m : List (Bytes × String)) (t : Bytes) :
    rankLe c.compare (m.map (·.1)) t = firstGt c m t := by
  rw [rankLe, cutIdx_eq_takeWhile, List.takeWhile_map, List.length_map]; rfl

theorem posToState_ofIdx (m : List (Bytes × String)) (n : Nat) :
    posToState (toPos n m.length) = cursorOfIdx m n := by
  unfold cursorOfIdx toPos; split <;> rfl

theorem posToState_pred (n : Nat) :
    posToState (predPos n) = if (n == 0) = true then DbIterState.invalid else .at (n - 1) := by
  cases n <;> rfl

theorem pred_bound {len n : Nat} (hn : n ≤ len) : ∀ i, predPos n = some i → i < len := by
  intro i h; rw [predPos_eq_some] at h; omega

theorem cursor_apply_eq_mapCursorStep (c : Cmp) (m : List (Bytes × String))
    (hs : m.Pairwise (fun a b => c.compare a.1 b.1 = .lt)) (op : IterOp) (p : Option Nat)
    (hp : ∀ i, p = some i → i < m.length) :
    ∃ p', (cursorOps c.compare (m.map (·.1))).apply (DbIter.toBlockOp op) p = some p' ∧
      (∀ i, p' = some i → i < m.length) ∧
      posToState p' = mapCursorStep c m (posToState p) op := by
  have hsk : SortedKeys c.compare (m.map (·.1)) := List.pairwise_map.mpr hs
  have h := ordLaws_cmp c
  cases op with
  | first =>
    refine ⟨_, rfl, ?_, ?_⟩
    · cases m <;> simp
    · cases m <;> simp [posToState, mapCursorStep, cursorOfIdx]
  | last =>
    refine ⟨_, rfl, ?_, ?_⟩
    · cases m <;> simp
    · cases m <;> simp [posToState, mapCursorStep]
  | next =>
    cases p with
    | none => exact ⟨none, rfl, by simp, rfl⟩
    | some i =>
      refine ⟨if i + 1 < m.length then some (i + 1) else none, ?_, fun _ h => (toPos_eq_some.mp h).2,
        posToState_ofIdx m (i + 1)⟩
      simp [DbIter.toBlockOp, IterOps.apply, cursorOps]
  | prev =>
    cases p with
    | none => exact ⟨none, rfl, by simp, rfl⟩
    | some i =>
      have hi := hp i rfl
      cases i with
      | zero => exact ⟨none, rfl, by simp, rfl⟩
      | succ i =>
        refine ⟨some i, rfl, ?_, ?_⟩
        · intro j hj; cases hj; omega
        · simp [posToState, mapCursorStep]
  | seek k | seekGe k =>
    have e := seek_rank c.compare (m.map (·.1)) k p
    rw [rankLt_map, List.length_map] at e
    exact ⟨_, e, fun _ h => (toPos_eq_some.mp h).2, posToState_ofIdx m _⟩
  | seekGt k =>
    have e := seekGT_rank c.compare (m.map (·.1)) k h hsk p
    rw [rankLe_map, List.length_map] at e
    exact ⟨_, e, fun _ h => (toPos_eq_some.mp h).2, posToState_ofIdx m _⟩
  | seekLe k =>
    have e := seekLE_rank c.compare (m.map (·.1)) k h hsk p
    have hb := rankLe_le c.compare (m.map (·.1)) k
    rw [rankLe_map] at e hb
    exact ⟨_, e, pred_bound (by simpa using hb), posToState_pred _⟩
  | seekLt k =>
    have e := seekLT_rank c.compare (m.map (·.1)) k p
    have hb := rankLt_le c.compare (m.map (·.1)) k
    rw [rankLt_map] at e hb
    exact ⟨_, e, pred_bound (by simpa using hb), posToState_pred _⟩

theorem cursor_run_eq_foldl (c : Cmp) (m : List (Bytes × String))
    (hs : m.Pairwise (fun a b => c.compare a.1 b.1 = .lt)) (ops : List IterOp) (p : Option Nat)
    (hp : ∀ i, p = some i → i < m.length) :
    ∃ p', (cursorOps c.compare (m.map (·.1))).run (ops.map DbIter.toBlockOp) p = some p' ∧
      posToState p' = ops.foldl (mapCursorStep c m) (posToState p) := by
  induction ops generalizing p with
  | nil => exact ⟨p, rfl, rfl⟩
  | cons op ops ih =>
    obtain ⟨p1, h1, hb, h2⟩ := cursor_apply_eq_mapCursorStep c m hs op p hp
    obtain ⟨p2, h3, h4⟩ := ih p1 hb
    refine ⟨p2, by simp [IterOps.run, h1, h3], ?_⟩
    rw [List.foldl_cons, ← h2]; exact h4

theorem step_next_cursorOfIdx (c : Cmp) (m : List (Bytes × String)) (k : Nat) :
    mapCursorStep c m (cursorOfIdx m k) .next = cursorOfIdx m (k + 1) := by
  unfold cursorOfIdx
  by_cases h : k < m.length
  · simp [h, mapCursorStep, cursorOfIdx]
  · have : ¬ k + 1 < m.length := by omega
    simp [h, this, mapCursorStep]

theorem foldl_first_next (c : Cmp) (m : List (Bytes × String)) (k : Nat) :
    (IterOp.first :: List.replicate k IterOp.next).foldl (mapCursorStep c m) .invalid = cursorOfIdx m k := by
  induction k with
  | zero => rfl
  | succ k ih =>
    rw [List.replicate_succ', ← List.cons_append, List.foldl_append, ih]
    exact step_next_cursorOfIdx c m k

def cursorFromEnd (m : List (Bytes × String)) (k : Nat) : DbIterState :=
  if k < m.length then .at (m.length - 1 - k) else .invalid

theorem step_prev_cursorFromEnd (c : Cmp) (m : List (Bytes × String)) (k : Nat) :
    mapCursorStep c m (cursorFromEnd m k) .prev = cursorFromEnd m (k + 1) := by
  unfold cursorFromEnd
  by_cases h : k < m.length
  · by_cases h' : k + 1 < m.length
    · have h0 : (m.length - 1 - k == 0) = false := by
        simp only [beq_eq_false_iff_ne, ne_eq]; omega
      simp only [h, h', if_true, mapCursorStep, h0, Bool.false_eq_true, if_false]
      congr 1
    · have h0 : (m.length - 1 - k == 0) = true := by
        simp only [beq_iff_eq]; omega
      simp [h, h', mapCursorStep, h0]
  · have : ¬ k + 1 < m.length := by omega
    simp [h, this, mapCursorStep]

theorem foldl_last_prev (c : Cmp) (m : List (Bytes × String)) (k : Nat) :
    (IterOp.last :: List.replicate k IterOp.prev).foldl (mapCursorStep c m) .invalid = cursorFromEnd m k := by
  induction k with
  | zero =>
    simp only [List.replicate_zero, List.foldl_cons, List.foldl_nil, mapCursorStep, cursorFromEnd]
    cases m with
    | nil => rfl
    | cons a t => simp
  | succ k ih =>
    rw [List.replicate_succ', ← List.cons_append, List.foldl_append, ih]
    exact step_prev_cursorFromEnd c m k

theorem cursorFromEnd_sub {m : List (Bytes × String)} {k : Nat} (hk : k < m.length) :
    cursorFromEnd m (m.length - 1 - k) = .at k := by
  unfold cursorFromEnd
  rw [if_pos (by omega)]
  congr 1
  omega

theorem firstGe_of_get (c : Cmp) {m : List (Bytes × String)}
    (hm : m.Pairwise (fun a b => c.compare a.1 b.1 = .lt)) {j : Nat} {k : Bytes} {v : String}
    (h : m[j]? = some (k, v)) : firstGe c m k = j := by
  obtain ⟨hj, e⟩ := List.getElem?_eq_some_iff.mp h
  rw [firstGe, ← cutIdx_eq_takeWhile]
  refine cutIdx_eq (Nat.le_of_lt hj) (fun i hi => ?_) (fun _ => ?_)
  · have := List.pairwise_iff_getElem.mp hm i j (Nat.lt_trans hi hj) hj hi
    rw [e] at this
    rw [this]; rfl
  · rw [e, CmpBasic.compare_refl]; rfl

end Lcdb.MapCursor
