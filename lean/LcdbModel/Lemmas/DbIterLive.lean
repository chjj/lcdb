/-
  Live indices of a sorted run, counted: `liveIdxs s r` (in increasing order), `rank s r k` (number
  of live indices below `k`, a `cnt` of the Boolean form `liveB` of `Live`), and the identification
  with the specification: `visibleMap c r s` is `liveMap s r`, key and value at the live indices
  (`visibleMap_eq_live`).
-/
import LcdbModel.Lemmas.DbIterScan
import LcdbModel.Lemmas.VisibleMap
namespace Lcdb.DbIt
open Lcdb Lcdb.Lsm Lcdb.CmpBasic

def cnt (P : Nat → Bool) (k : Nat) : Nat := ((List.range k).filter P).length

theorem cnt_zero (P : Nat → Bool) : cnt P 0 = 0 := rfl

theorem cnt_succ (P : Nat → Bool) (k : Nat) : cnt P (k + 1) = cnt P k + (if P k then 1 else 0) := by
  unfold cnt
  rw [List.range_succ, List.filter_append, List.length_append]
  cases h : P k <;> simp [h]

theorem cnt_mono (P : Nat → Bool) {a b : Nat} (h : a ≤ b) : cnt P a ≤ cnt P b :=
  ((List.range_sublist.mpr h).filter P).length_le

theorem cnt_eq_of_none (P : Nat → Bool) {a b : Nat} (h : a ≤ b) (hn : ∀ j, a ≤ j → j < b → P j = false) :
    cnt P b = cnt P a := by
  induction h with
  | refl => rfl
  | @step b hab ih =>
    rw [cnt_succ, hn b hab (Nat.lt_succ_self b), ih (fun j h1 h2 => hn j h1 (Nat.lt_succ_of_lt h2))]
    rfl

theorem cnt_lt_of_true (P : Nat → Bool) {a b : Nat} (h : a < b) (ha : P a = true) : cnt P a < cnt P b :=
  calc cnt P a < cnt P (a + 1) := by rw [cnt_succ, ha]; exact Nat.lt_succ_self _
    _ ≤ cnt P b := cnt_mono P h

theorem filter_range_getElem? (P : Nat → Bool) (n i q : Nat) :
    ((List.range n).filter P)[i]? = some q ↔ q < n ∧ P q = true ∧ cnt P q = i := by
  have at_cnt : ∀ {n q}, q < n → P q = true → ((List.range n).filter P)[cnt P q]? = some q := by
    intro n q hq hP
    induction n with
    | zero => cases hq
    | succ n ih =>
      rw [List.range_succ, List.filter_append]
      rcases Nat.lt_or_eq_of_le (Nat.le_of_lt_succ hq) with h | rfl
      · rw [List.getElem?_append_left (cnt_lt_of_true P h hP)]
        exact ih h
      · rw [List.filter_cons_of_pos hP]
        exact List.getElem?_concat_length
  constructor
  · intro h
    obtain ⟨hq, hP⟩ := List.mem_filter.mp (List.mem_of_getElem? h)
    rw [List.mem_range] at hq
    -- `q` also sits at index `cnt P q`, and the filtered list has no repetitions
    have hnd : ((List.range n).filter P).Nodup := List.filter_sublist.nodup List.nodup_range
    have hi := (List.getElem?_eq_some_iff.mp h).1
    exact ⟨hq, hP, ((List.getElem?_inj hi hnd).mp (h.trans (at_cnt hq hP).symm)).symm⟩
  · rintro ⟨hq, hP, rfl⟩
    exact at_cnt hq hP

def liveB (s : Nat) (r : Run) (j : Nat) : Bool :=
  vis s r j && (knd r j == 1) && (List.range j).all (fun i => !(uk r i == uk r j && vis s r i))

theorem liveB_iff {s : Nat} {r : Run} {j : Nat} : liveB s r j = true ↔ Live s r j := by
  unfold liveB Live Head
  simp only [Bool.and_eq_true, beq_iff_eq, List.all_eq_true, List.mem_range, Bool.not_eq_eq_eq_not,
    Bool.not_true, Bool.and_eq_false_imp]
  exact and_right_comm

def liveIdxs (s : Nat) (r : Run) : List Nat := (List.range r.length).filter (liveB s r)

def rank (s : Nat) (r : Run) (k : Nat) : Nat := cnt (liveB s r) k

theorem liveIdxs_get {s : Nat} {r : Run} {i q : Nat} :
    (liveIdxs s r)[i]? = some q ↔ Live s r q ∧ rank s r q = i := by
  unfold liveIdxs rank
  rw [filter_range_getElem?, liveB_iff]
  exact ⟨fun h => h.2, fun h => ⟨h.1.lt, h⟩⟩

theorem liveIdxs_length (s : Nat) (r : Run) : (liveIdxs s r).length = rank s r r.length := rfl

theorem rank_succ_live {s : Nat} {r : Run} {q : Nat} (h : Live s r q) : rank s r (q + 1) = rank s r q + 1 := by
  unfold rank; rw [cnt_succ, liveB_iff.mpr h]; rfl

theorem rank_eq_of_none {s : Nat} {r : Run} {a b : Nat} (h : a ≤ b) (hn : ∀ j, a ≤ j → j < b → ¬ Live s r j) :
    rank s r b = rank s r a :=
  cnt_eq_of_none _ h (fun j h1 h2 => Bool.eq_false_iff.mpr (fun hb => hn j h1 h2 (liveB_iff.mp hb)))

theorem rank_mono (s : Nat) (r : Run) {a b : Nat} (h : a ≤ b) : rank s r a ≤ rank s r b := cnt_mono _ h

theorem rank_lt_of_live {s : Nat} {r : Run} {a b : Nat} (h : a < b) (ha : Live s r a) : rank s r a < rank s r b :=
  cnt_lt_of_true _ h (liveB_iff.mpr ha)

theorem mem_liveIdxs {s : Nat} {r : Run} {j : Nat} : j ∈ liveIdxs s r ↔ Live s r j := by
  unfold liveIdxs
  rw [List.mem_filter, List.mem_range, liveB_iff]
  exact ⟨fun h => h.2, fun h => ⟨h.lt, h⟩⟩

def liveMap (s : Nat) (r : Run) : List (Bytes × String) := (liveIdxs s r).map (fun j => (uk r j, vl r j))

theorem liveMap_sorted {c : Cmp} {s : Nat} {r : Run} (hs : RunSorted c r) :
    (liveMap s r).Pairwise (fun a b => c.compare a.1 b.1 = .lt) := by
  unfold liveMap
  rw [List.pairwise_map]
  have hpw : (liveIdxs s r).Pairwise (· < ·) := List.Pairwise.filter _ List.pairwise_lt_range
  refine hpw.imp_of_mem (fun {a b} ha hb hab => ?_)
  rw [mem_liveIdxs] at ha hb
  -- user keys do not decrease along the run, and an equal key at `a < b` would hide `b`
  cases hc : c.compare (uk r a) (uk r b) with
  | lt => rfl
  | gt => exact absurd hc (uk_le hs (Nat.le_of_lt hab) hb.lt)
  | eq => exact absurd hb.1 (not_head_of_vis hab ((compare_eq_iff c _ _).mp hc) ha.1.1)

theorem mem_liveMap {s : Nat} {r : Run} {k : Bytes} {v : String} :
    (k, v) ∈ liveMap s r ↔ ∃ j, Live s r j ∧ uk r j = k ∧ vl r j = v := by
  simp only [liveMap, List.mem_map, mem_liveIdxs, Prod.mk.injEq]

theorem find_head {c : Cmp} {s : Nat} {r : Run} {k : Bytes} {e : Entry} :
    r.find? (fun e => c.compare e.ukey k == .eq && decide (e.seq ≤ s)) = some e ↔
      ∃ j, r[j]? = some e ∧ Head s r j ∧ uk r j = k := by
  have hp : ∀ {i : Nat} {a : Entry}, r[i]? = some a →
      ((c.compare a.ukey k == .eq && decide (a.seq ≤ s)) = true ↔ uk r i = k ∧ vis s r i = true) := by
    intro i a ha
    rw [uk_of ha, vis_of ha, Bool.and_eq_true, beq_iff_eq, compare_eq_iff]
  rw [List.find?_eq_some_iff_getElem]
  constructor
  · rintro ⟨hpe, i, hi, rfl, hbefore⟩
    have hei := List.getElem?_eq_getElem hi
    obtain ⟨hk, hv⟩ := (hp hei).mp hpe
    refine ⟨i, hei, ⟨hv, fun i' hi' hu => Bool.eq_false_iff.mpr fun hv' => ?_⟩, hk⟩
    have h := hbefore i' hi'
    rw [(hp (List.getElem?_eq_getElem (Nat.lt_trans hi' hi))).mpr ⟨hu.trans hk, hv'⟩] at h
    cases h
  · rintro ⟨j, hej, hh, hk⟩
    obtain ⟨hj, rfl⟩ := List.getElem?_eq_some_iff.mp hej
    refine ⟨(hp hej).mpr ⟨hk, hh.1⟩, j, hj, rfl, fun i hi => ?_⟩
    rw [Bool.not_eq_true', Bool.eq_false_iff]
    intro h
    obtain ⟨hu, hv⟩ := (hp (List.getElem?_eq_getElem (Nat.lt_trans hi hj))).mp h
    rw [hh.2 i hi (hu.trans hk.symm)] at hv
    cases hv

theorem visibleMap_eq_live {c : Cmp} {s : Nat} {r : Run} (hs : RunSorted c r) (hk : ∀ e ∈ r, e.kind ≤ 1) :
    visibleMap c r s = liveMap s r := by
  apply VisMap.sorted_ext (VisMap.visibleMap_sorted c r s) (liveMap_sorted hs)
  rintro ⟨k, v⟩
  rw [VisMap.mem_visibleMap, mem_liveMap]
  simp only [newestVisible_sorted c r hs hk k s]
  constructor
  · rintro ⟨e, hf, h1, h2⟩
    obtain ⟨j, hej, hh, hku⟩ := find_head.mp hf
    exact ⟨j, ⟨hh, (knd_of hej).trans h1⟩, hku, (vl_of hej).trans h2⟩
  · rintro ⟨j, hl, h1, h2⟩
    obtain ⟨e, hej, _⟩ := get_of_lt hl.lt
    exact ⟨e, find_head.mpr ⟨j, hej, hl.1, h1⟩, (knd_of hej).symm.trans hl.2, (vl_of hej).symm.trans h2⟩

end Lcdb.DbIt
