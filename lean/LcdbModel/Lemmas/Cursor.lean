/-
  Lemmas about the reference cursor (`cursorOps`) and simulation between iterators: `OrdLaws` is
  `Cmp3` at `Bytes`; the generic seek helpers of iterator.c, run on the reference cursor over a
  strictly sorted key list, land where the sorted list dictates (`seek*_rank`, `seek_helpers_spec`);
  a simulation (`IterOps.Sim`) transfers to `IterOps.apply` / `IterOps.run`.
-/
import LcdbModel.Lemmas.CursorDefs
import LcdbModel.Lemmas.ListBasic
import LcdbModel.Lemmas.Cmp3
import LcdbModel.Lemmas.IterOps
namespace Lcdb

-- keep `List.getD` in the goals (hypotheses are stated with it)
attribute [-simp] List.getD_eq_getElem?_getD

namespace OrdLaws
variable {cmp : Bytes → Bytes → Ordering}

theorem cmp3 (h : OrdLaws cmp) : Cmp3 cmp where
  refl := h.refl
  lt_trans := h.lt_trans
  eq_left := h.eq_left
  swap := fun a b => by
    cases hab : cmp a b with
    | lt => exact (h.gt_iff b a).mpr hab
    | gt => exact (h.gt_iff a b).mp hab
    | eq =>
      cases hba : cmp b a with
      | eq => rfl
      | lt => rw [(h.gt_iff a b).mpr hba] at hab; cases hab
      | gt => rw [(h.gt_iff b a).mp hba] at hab; cases hab

theorem eq_iff_eq (h : OrdLaws cmp) (a b : Bytes) : cmp a b = .eq ↔ cmp b a = .eq :=
  ⟨h.cmp3.eq_symm, h.cmp3.eq_symm⟩

theorem eq_trans (h : OrdLaws cmp) {a b c : Bytes} (hab : cmp a b = .eq) (hbc : cmp b c = .eq) :
    cmp a c = .eq :=
  h.cmp3.eq_trans hab hbc

theorem gt_trans (h : OrdLaws cmp) {a b c : Bytes} (hab : cmp a b = .gt) (hbc : cmp b c = .gt) :
    cmp a c = .gt :=
  h.cmp3.gt_trans hab hbc

theorem gt_of_gt_of_eq (h : OrdLaws cmp) {a b c : Bytes} (hab : cmp a b = .gt)
    (hbc : cmp b c = .eq) : cmp a c = .gt := by
  rw [← h.cmp3.eq_right a hbc]; exact hab

theorem gt_of_eq_of_gt (h : OrdLaws cmp) {a b c : Bytes} (hab : cmp a b = .eq)
    (hbc : cmp b c = .gt) : cmp a c = .gt := by
  rw [h.eq_left a b c hab]; exact hbc

theorem not_lt_of_gt (h : OrdLaws cmp) {a b : Bytes} (hab : cmp a b = .gt) : cmp b a ≠ .gt := by
  rw [(h.gt_iff a b).mp hab]; decide

theorem lt_asymm (h : OrdLaws cmp) {a b : Bytes} (hab : cmp a b = .lt) : cmp b a ≠ .lt :=
  h.cmp3.lt_asymm hab

theorem le_of_lt (_h : OrdLaws cmp) {a b : Bytes} (hab : cmp a b = .lt) : cmp a b ≠ .gt := by
  rw [hab]; decide

theorem not_lt_of_le (h : OrdLaws cmp) {a b : Bytes} (hab : cmp a b ≠ .gt) : cmp b a ≠ .lt := by
  intro hc; exact hab ((h.gt_iff a b).mpr hc)

end OrdLaws

theorem Cmp3.ordLaws {cmp : Bytes → Bytes → Ordering} (h : Cmp3 cmp) : OrdLaws cmp :=
  ⟨h.refl, h.gt_iff, h.lt_trans, h.eq_left⟩

theorem getD_eq_getElem {l : List Bytes} {i : Nat} (hi : i < l.length) : l.getD i [] = l[i] := by
  simp [List.getD_eq_getElem?_getD, hi]

theorem getD_mem {l : List Bytes} {i : Nat} (hi : i < l.length) : l.getD i [] ∈ l := by
  rw [getD_eq_getElem hi]; exact List.getElem_mem hi

theorem SortedKeys.getD_lt {cmp : Bytes → Bytes → Ordering} {keys : List Bytes}
    (hs : SortedKeys cmp keys) {i j : Nat} (hij : i < j) (hj : j < keys.length) :
    cmp (keys.getD i []) (keys.getD j []) = .lt := by
  have hi : i < keys.length := Nat.lt_trans hij hj
  rw [getD_eq_getElem hi, getD_eq_getElem hj]
  exact List.pairwise_iff_getElem.mp hs i j hi hj hij

theorem findIdx?_eq_some_iff_getD {p : Bytes → Bool} {l : List Bytes} {i : Nat} :
    l.findIdx? p = some i ↔
      i < l.length ∧ p (l.getD i []) = true ∧ ∀ j, j < i → p (l.getD j []) = false := by
  rw [List.findIdx?_eq_some_iff_getElem]
  constructor
  · rintro ⟨hi, hp, hlt⟩
    refine ⟨hi, by rw [getD_eq_getElem hi]; exact hp, fun j hj => ?_⟩
    rw [getD_eq_getElem (Nat.lt_trans hj hi)]
    simpa using hlt j hj
  · rintro ⟨hi, hp, hlt⟩
    refine ⟨hi, by rw [← getD_eq_getElem hi]; exact hp, fun j hj => ?_⟩
    rw [← getD_eq_getElem (Nat.lt_trans hj hi)]
    simp [hlt j hj]

theorem findIdx?_eq_some_getD {p : Bytes → Bool} {keys : List Bytes} {i : Nat}
    (h : keys.findIdx? p = some i) :
    i < keys.length ∧ p (keys.getD i []) = true ∧ ∀ j, j < i → p (keys.getD j []) = false :=
  findIdx?_eq_some_iff_getD.mp h

theorem findIdx?_eq_none_mem {p : Bytes → Bool} {keys : List Bytes}
    (h : keys.findIdx? p = none) : ∀ k ∈ keys, p k = false :=
  List.findIdx?_eq_none_iff.mp h

theorem lastIdx_spec (p : Bytes → Bool) (keys : List Bytes) :
    match lastIdx p keys with
    | none => ∀ k ∈ keys, p k = false
    | some i => i < keys.length ∧ p (keys.getD i []) = true ∧
        ∀ j, i < j → j < keys.length → p (keys.getD j []) = false := by
  induction keys with
  | nil => exact fun _ hk => nomatch hk
  | cons a as ih =>
    rw [lastIdx]
    cases hl : lastIdx p as with
    | some i =>
      rw [hl] at ih
      obtain ⟨h1, h2, h3⟩ := ih
      refine ⟨Nat.succ_lt_succ h1, h2, fun j hj hjl => ?_⟩
      cases j with
      | zero => omega
      | succ j => exact h3 j (by omega) (Nat.lt_of_succ_lt_succ hjl)
    | none =>
      rw [hl] at ih
      cases hp : p a with
      | false => exact List.forall_mem_cons.mpr ⟨hp, ih⟩
      | true =>
        refine ⟨Nat.zero_lt_succ _, hp, fun j hj hjl => ?_⟩
        cases j with
        | zero => omega
        | succ j => exact ih _ (getD_mem (Nat.lt_of_succ_lt_succ hjl))

theorem lastIdx_eq_none {p : Bytes → Bool} {keys : List Bytes} (h : lastIdx p keys = none) :
    ∀ k ∈ keys, p k = false := by
  have := lastIdx_spec p keys
  rwa [h] at this

theorem lastIdx_eq_some {p : Bytes → Bool} {keys : List Bytes} {i : Nat}
    (h : lastIdx p keys = some i) :
    i < keys.length ∧ p (keys.getD i []) = true ∧
      ∀ j, i < j → j < keys.length → p (keys.getD j []) = false := by
  have := lastIdx_spec p keys
  rwa [h] at this

theorem lastIdx_eq_none_iff {p : Bytes → Bool} {keys : List Bytes} :
    lastIdx p keys = none ↔ ∀ j, j < keys.length → p (keys.getD j []) = false := by
  constructor
  · intro h j hj; exact lastIdx_eq_none h _ (getD_mem hj)
  · intro h
    cases hl : lastIdx p keys with
    | none => rfl
    | some i =>
      obtain ⟨h1, h2, _⟩ := lastIdx_eq_some hl
      rw [h i h1] at h2; cases h2

theorem lastIdx_eq_some_iff {p : Bytes → Bool} {keys : List Bytes} {i : Nat} :
    lastIdx p keys = some i ↔
      i < keys.length ∧ p (keys.getD i []) = true ∧
        ∀ j, i < j → j < keys.length → p (keys.getD j []) = false := by
  constructor
  · exact lastIdx_eq_some
  · rintro ⟨h1, h2, h3⟩
    cases hl : lastIdx p keys with
    | none => rw [lastIdx_eq_none_iff.mp hl i h1] at h2; cases h2
    | some i' =>
      obtain ⟨h1', h2', h3'⟩ := lastIdx_eq_some hl
      rcases Nat.lt_trichotomy i i' with hlt | heq | hgt
      · rw [h3 i' hlt h1'] at h2'; cases h2'
      · rw [heq]
      · rw [h3' i hgt h1] at h2; cases h2

theorem SortedKeys.gt_after {cmp : Bytes → Bytes → Ordering} (h : OrdLaws cmp) {keys : List Bytes}
    (hs : SortedKeys cmp keys) {t : Bytes} {i j : Nat} (hij : i < j) (hj : j < keys.length)
    (hi : cmp (keys.getD i []) t ≠ .lt) : cmp (keys.getD j []) t = .gt :=
  h.cmp3.gt_of_lt_of_not_lt (hs.getD_lt hij hj) hi

theorem SortedKeys.mono_ge {cmp : Bytes → Bytes → Ordering} (h : OrdLaws cmp) {keys : List Bytes}
    (hs : SortedKeys cmp keys) (t : Bytes) {i j : Nat} (hij : i ≤ j) (hj : j < keys.length)
    (hi : (cmp (keys.getD i []) t != .lt) = true) : (cmp (keys.getD j []) t != .lt) = true := by
  rcases Nat.lt_or_eq_of_le hij with hlt | rfl
  · rw [hs.gt_after h hlt hj (by simpa using hi)]; decide
  · exact hi

theorem SortedKeys.mono_gt {cmp : Bytes → Bytes → Ordering} (h : OrdLaws cmp) {keys : List Bytes}
    (hs : SortedKeys cmp keys) (t : Bytes) {i j : Nat} (hij : i ≤ j) (hj : j < keys.length)
    (hi : (cmp (keys.getD i []) t == .gt) = true) : (cmp (keys.getD j []) t == .gt) = true := by
  rcases Nat.lt_or_eq_of_le hij with hlt | rfl
  · rw [hs.gt_after h hlt hj (by intro hc; rw [hc] at hi; cases hi)]; decide
  · exact hi

theorem seek_cases (cmp : Bytes → Bytes → Ordering) (keys : List Bytes) (t : Bytes) :
    (keys.findIdx? (fun k => cmp k t != .lt) = none ∧
        ∀ j, j < keys.length → cmp (keys.getD j []) t = .lt) ∨
    (∃ i, keys.findIdx? (fun k => cmp k t != .lt) = some i ∧ i < keys.length ∧
        cmp (keys.getD i []) t ≠ .lt ∧ ∀ j, j < i → cmp (keys.getD j []) t = .lt) := by
  cases hf : keys.findIdx? (fun k => cmp k t != .lt) with
  | none =>
    refine Or.inl ⟨rfl, fun j hj => ?_⟩
    simpa using findIdx?_eq_none_mem hf _ (getD_mem hj)
  | some i =>
    obtain ⟨h1, h2, h3⟩ := findIdx?_eq_some_iff_getD.mp hf
    refine Or.inr ⟨i, rfl, h1, by simpa using h2, fun j hj => ?_⟩
    simpa using h3 j hj

theorem cursor_last (cmp : Bytes → Bytes → Ordering) (keys : List Bytes) (p : Option Nat) :
    (cursorOps cmp keys).last p = some (predPos keys.length) := by
  cases keys <;> rfl

theorem cursor_prev (cmp : Bytes → Bytes → Ordering) (keys : List Bytes) (i : Nat) :
    (cursorOps cmp keys).prev (some i) = some (predPos i) := by
  cases i <;> rfl

theorem cursorOps_edge (cmp : Bytes → Bytes → Ordering) (keys : List Bytes) (w : Way)
    (p : Option Nat) : (cursorOps cmp keys).edge w p = some (w.edge keys.length) := by
  cases w <;> cases keys <;> rfl

theorem cursorOps_step (cmp : Bytes → Bytes → Ordering) (keys : List Bytes) (w : Way) (j : Nat) :
    (cursorOps cmp keys).step w (some j) = some (w.adv keys.length j) := by
  cases w
  · rfl
  · cases j <;> rfl

theorem cursor_first_next (cmp : Bytes → Bytes → Ordering) (keys : List Bytes) (k : Nat) :
    (cursorOps cmp keys).run (.first :: List.replicate k .next) none
      = some (toPos k keys.length) := by
  induction k with
  | zero => cases keys <;> rfl
  | succ k ih =>
    rw [show BlockOp.first :: List.replicate (k + 1) BlockOp.next
        = (BlockOp.first :: List.replicate k BlockOp.next) ++ [BlockOp.next] from by
      rw [List.replicate_succ']; rfl, IterOps.run_append, ih]
    by_cases h : k < keys.length
    · rw [toPos_of_lt h]; rfl
    · rw [toPos_of_ge (by omega), toPos_of_ge (by omega)]; rfl

/-!
  Every seek helper ends on a position given by one of two cuts of the key list (`cutIdx`): after
  the keys below the target, and after the keys not above it.  In a sorted list these are the
  indices of the first key `≥ t` and of the first key `> t`. -/

theorem lastIdx_eq_predPos (q : Bytes → Bool) (keys : List Bytes)
    (hm : keys.Pairwise (fun a b => q a = false → q b = false)) :
    lastIdx q keys = predPos (cutIdx q keys) := by
  induction keys with
  | nil => rfl
  | cons a as ih =>
    obtain ⟨ha, has⟩ := List.pairwise_cons.mp hm
    rw [lastIdx, cutIdx_cons]
    cases hq : q a with
    | false =>
      rw [lastIdx_eq_none_iff.mpr fun j hj => ha _ (getD_mem hj) hq]
      rfl
    | true =>
      rw [ih has, if_pos rfl, if_pos rfl]
      cases cutIdx q as <;> rfl

section Rank
variable (cmp : Bytes → Bytes → Ordering) (keys : List Bytes) (t : Bytes)

def rankLt : Nat := cutIdx (fun k => cmp k t == .lt) keys

def rankLe : Nat := cutIdx (fun k => cmp k t != .gt) keys

theorem rankLt_le : rankLt cmp keys t ≤ keys.length := cutIdx_le

theorem rankLe_le : rankLe cmp keys t ≤ keys.length := cutIdx_le

theorem findIdx?_ge :
    keys.findIdx? (fun k => cmp k t != .lt) = toPos (rankLt cmp keys t) keys.length :=
  findIdx?_eq_toPos _ _ (fun a => by cases cmp a t <;> rfl) keys

theorem findIdx?_gt :
    keys.findIdx? (fun k => cmp k t == .gt) = toPos (rankLe cmp keys t) keys.length :=
  findIdx?_eq_toPos _ _ (fun a => by cases cmp a t <;> rfl) keys

theorem rankLt_stop (h : rankLt cmp keys t < keys.length) :
    cmp (keys.getD (rankLt cmp keys t) []) t ≠ .lt := by
  have e := findIdx?_ge cmp keys t
  rw [toPos_of_lt h] at e
  simpa using (findIdx?_eq_some_iff_getD.mp e).2.1

theorem rankLe_eq (hl : OrdLaws cmp) (hs : SortedKeys cmp keys) :
    rankLe cmp keys t =
      if cmp (keys.getD (rankLt cmp keys t) []) t = .eq ∧ rankLt cmp keys t < keys.length then
        rankLt cmp keys t + 1
      else rankLt cmp keys t := by
  have hle := rankLt_le cmp keys t
  have hstop := rankLt_stop cmp keys t
  have hlt : ∀ j, j < rankLt cmp keys t → cmp (keys.getD j []) t = .lt := fun j hj => by
    rw [getD_eq_getElem (by omega)]; simpa using cutIdx_before hj
  generalize rankLt cmp keys t = lo at *
  -- the keys before `lo` are below `t`, the one at `lo` is not, and those behind it are above
  split
  · rename_i h
    refine cutIdx_eq (Nat.succ_le_of_lt h.2) (fun j hj => ?_) (fun hn => ?_)
    · rw [← getD_eq_getElem]
      rcases Nat.lt_succ_iff_lt_or_eq.mp hj with hj | rfl
      · rw [hlt j hj]; rfl
      · rw [h.1]; rfl
    · rw [← getD_eq_getElem hn, hs.gt_after hl (Nat.lt_succ_self lo) hn (by rw [h.1]; decide)]; rfl
  · rename_i h
    refine cutIdx_eq hle (fun j hj => ?_) (fun hn => ?_)
    · rw [← getD_eq_getElem, hlt j hj]; rfl
    · rw [← getD_eq_getElem hn]
      cases hc : cmp (keys.getD lo []) t with
      | lt => exact absurd hc (hstop hn)
      | eq => exact absurd ⟨hc, hn⟩ h
      | gt => rfl

variable {cmp keys}

theorem lastIdx_le (hl : OrdLaws cmp) (hs : SortedKeys cmp keys) :
    lastIdx (fun k => cmp k t != .gt) keys = predPos (rankLe cmp keys t) :=
  lastIdx_eq_predPos _ _ (hs.imp fun {a b} hab hq => by
    have : cmp a t = .gt := by cases hc : cmp a t <;> simp [hc] at hq ⊢
    simp [hl.cmp3.gt_of_lt_of_not_lt hab (by rw [this]; decide)])

theorem lastIdx_lt (hl : OrdLaws cmp) (hs : SortedKeys cmp keys) :
    lastIdx (fun k => cmp k t == .lt) keys = predPos (rankLt cmp keys t) :=
  lastIdx_eq_predPos _ _ (hs.imp fun {a b} hab hq => by
    simp [hl.cmp3.gt_of_lt_of_not_lt (t := t) hab (by intro hc; simp [hc] at hq)])

variable (cmp keys)

theorem seek_rank (p : Option Nat) :
    (cursorOps cmp keys).seek t p = some (toPos (rankLt cmp keys t) keys.length) :=
  congrArg some (findIdx?_ge cmp keys t)

theorem seekGT_rank (hl : OrdLaws cmp) (hs : SortedKeys cmp keys) (p : Option Nat) :
    (cursorOps cmp keys).seekGT t p = some (toPos (rankLe cmp keys t) keys.length) := by
  have hstop := rankLt_stop cmp keys t
  unfold IterOps.seekGT
  rw [seek_rank, rankLe_eq cmp keys t hl hs]
  generalize rankLt cmp keys t = lo at hstop ⊢
  unfold toPos
  by_cases h : lo < keys.length
  · rw [if_pos h]
    show (match some (cmp (keys.getD lo []) t) with
      | none => none
      | some .eq => some (if lo + 1 < keys.length then some (lo + 1) else none)
      | some _ => some (some lo)) = _
    cases hc : cmp (keys.getD lo []) t with
    | lt => exact absurd hc (hstop h)
    | eq => simp [h]
    | gt => simp [h]
  · rw [if_neg h]
    simp [cursorOps, h]

theorem seekLE_rank (hl : OrdLaws cmp) (hs : SortedKeys cmp keys) (p : Option Nat) :
    (cursorOps cmp keys).seekLE t p = some (predPos (rankLe cmp keys t)) := by
  have hle := rankLt_le cmp keys t
  have hstop := rankLt_stop cmp keys t
  unfold IterOps.seekLE
  rw [seek_rank, rankLe_eq cmp keys t hl hs]
  generalize rankLt cmp keys t = lo at hle hstop ⊢
  unfold toPos
  by_cases h : lo < keys.length
  · rw [if_pos h]
    show (match some (cmp (keys.getD lo []) t) with
      | none => none
      | some .gt => (cursorOps cmp keys).prev (some lo)
      | some _ => some (some lo)) = _
    cases hc : cmp (keys.getD lo []) t with
    | lt => exact absurd hc (hstop h)
    | eq => simp [h, predPos]
    | gt => simpa using cursor_prev cmp keys lo
  · rw [if_neg h, if_neg (fun h' => h h'.2), show lo = keys.length by omega]
    exact cursor_last cmp keys none

theorem seekLT_rank (p : Option Nat) :
    (cursorOps cmp keys).seekLT t p = some (predPos (rankLt cmp keys t)) := by
  have hle := rankLt_le cmp keys t
  unfold IterOps.seekLT
  rw [seek_rank]
  generalize rankLt cmp keys t = lo at hle ⊢
  unfold toPos
  by_cases h : lo < keys.length
  · rw [if_pos h]; exact cursor_prev cmp keys lo
  · rw [if_neg h, show lo = keys.length by omega]; exact cursor_last cmp keys none

end Rank

theorem seek_helpers_spec (cmp : Bytes → Bytes → Ordering) (h : OrdLaws cmp) (keys : List Bytes)
    (hs : SortedKeys cmp keys) (t : Bytes) (p : Option Nat) :
    (cursorOps cmp keys).seekGE t p = some (keys.findIdx? (fun k => cmp k t != .lt)) ∧
    (cursorOps cmp keys).seekGT t p = some (keys.findIdx? (fun k => cmp k t == .gt)) ∧
    (cursorOps cmp keys).seekLE t p = some (lastIdx (fun k => cmp k t != .gt) keys) ∧
    (cursorOps cmp keys).seekLT t p = some (lastIdx (fun k => cmp k t == .lt) keys) :=
  ⟨rfl, (seekGT_rank cmp keys t h hs p).trans (congrArg some (findIdx?_gt cmp keys t).symm),
    (seekLE_rank cmp keys t h hs p).trans (congrArg some (lastIdx_le t h hs).symm),
    (seekLT_rank cmp keys t p).trans (congrArg some (lastIdx_lt t h hs).symm)⟩

theorem seekGT_cursor_spec (cmp : Bytes → Bytes → Ordering) (h : OrdLaws cmp) (keys : List Bytes)
    (hs : SortedKeys cmp keys) (t : Bytes) (p : Option Nat) :
    ∃ r, (cursorOps cmp keys).seekGT t p = some r ∧
      match r with
      | some i => i < keys.length ∧ cmp (keys.getD i []) t = .gt ∧
          ∀ j, j < i → cmp (keys.getD j []) t ≠ .gt
      | none => ∀ k ∈ keys, cmp k t ≠ .gt := by
  refine ⟨_, (seek_helpers_spec cmp h keys hs t p).2.1, ?_⟩
  cases hf : keys.findIdx? (fun k => cmp k t == .gt) with
  | none => simpa using findIdx?_eq_none_mem hf
  | some i => simpa using findIdx?_eq_some_getD hf

theorem seekLE_cursor_spec (cmp : Bytes → Bytes → Ordering) (h : OrdLaws cmp) (keys : List Bytes)
    (hs : SortedKeys cmp keys) (t : Bytes) (p : Option Nat) :
    ∃ r, (cursorOps cmp keys).seekLE t p = some r ∧
      match r with
      | some i => i < keys.length ∧ cmp (keys.getD i []) t ≠ .gt ∧
          ∀ j, i < j → j < keys.length → cmp (keys.getD j []) t = .gt
      | none => ∀ k ∈ keys, cmp k t = .gt := by
  refine ⟨_, (seek_helpers_spec cmp h keys hs t p).2.2.1, ?_⟩
  cases hf : lastIdx (fun k => cmp k t != .gt) keys with
  | none => simpa using lastIdx_eq_none hf
  | some i => simpa using lastIdx_eq_some hf

theorem seekLT_cursor_spec (cmp : Bytes → Bytes → Ordering) (h : OrdLaws cmp) (keys : List Bytes)
    (hs : SortedKeys cmp keys) (t : Bytes) (p : Option Nat) :
    ∃ r, (cursorOps cmp keys).seekLT t p = some r ∧
      match r with
      | some i => i < keys.length ∧ cmp (keys.getD i []) t = .lt ∧
          ∀ j, i < j → j < keys.length → cmp (keys.getD j []) t ≠ .lt
      | none => ∀ k ∈ keys, cmp k t ≠ .lt := by
  refine ⟨_, (seek_helpers_spec cmp h keys hs t p).2.2.2, ?_⟩
  cases hf : lastIdx (fun k => cmp k t == .lt) keys with
  | none => simpa using lastIdx_eq_none hf
  | some i => simpa using lastIdx_eq_some hf

theorem seekGE_cursor_spec (cmp : Bytes → Bytes → Ordering) (keys : List Bytes) (t : Bytes)
    (p : Option Nat) :
    ∃ r, (cursorOps cmp keys).seekGE t p = some r ∧
      match r with
      | some i => i < keys.length ∧ cmp (keys.getD i []) t ≠ .lt ∧
          ∀ j, j < i → cmp (keys.getD j []) t = .lt
      | none => ∀ k ∈ keys, cmp k t = .lt := by
  refine ⟨_, rfl, ?_⟩
  cases hf : keys.findIdx? (fun k => cmp k t != .lt) with
  | none => simpa using findIdx?_eq_none_mem hf
  | some i => simpa using findIdx?_eq_some_getD hf

section
variable {σ τ : Type} {o₁ : IterOps σ} {o₂ : IterOps τ} {R : σ → τ → Prop} {T : Bytes → Prop}

theorem IterOps.Sim.ite_valid (hsim : IterOps.Sim o₁ o₂ R T) {s : σ} {t : τ} (h : R s t)
    {a₁ b₁ : Option σ} {a₂ b₂ : Option τ}
    (hf : o₁.valid s = true → ∃ s' t', a₁ = some s' ∧ a₂ = some t' ∧ R s' t')
    (hg : o₁.valid s = false → ∃ s' t', b₁ = some s' ∧ b₂ = some t' ∧ R s' t') :
    ∃ s' t', (if o₁.valid s then a₁ else b₁) = some s' ∧
      (if o₂.valid t then a₂ else b₂) = some t' ∧ R s' t' := by
  rw [← hsim.valid s t h]
  cases hv : o₁.valid s with
  | true => exact hf hv
  | false => exact hg hv

theorem IterOps.Sim.compare_eq (hsim : IterOps.Sim o₁ o₂ R T) {s : σ} {t : τ} {x : Bytes} (h : R s t)
    (hv : o₁.valid s = true) (hx : T x) :
    ∃ ord, o₁.compare (o₁.key s) x = some ord ∧ o₂.compare (o₂.key t) x = some ord := by
  obtain ⟨hc, hsome⟩ := hsim.compare s t x h hv hx
  cases hcr : o₂.compare (o₂.key t) x with
  | none => rw [hcr] at hsome; cases hsome
  | some ord => exact ⟨ord, hc.trans hcr, rfl⟩

theorem IterOps.Sim.edge (H : IterOps.Sim o₁ o₂ R T) (w : Way) (s : σ) (t : τ) (hr : R s t) :
    ∃ s' t', o₁.edge w s = some s' ∧ o₂.edge w t = some t' ∧ R s' t' := by
  cases w
  · exact H.first s t hr
  · exact H.last s t hr

theorem IterOps.Sim.step (H : IterOps.Sim o₁ o₂ R T) (w : Way) (s : σ) (t : τ) (hr : R s t)
    (hv : o₁.valid s = true) :
    ∃ s' t', o₁.step w s = some s' ∧ o₂.step w t = some t' ∧ R s' t' := by
  cases w
  · exact H.next s t hr hv
  · exact H.prev s t hr hv

theorem IterOps.Sim.apply (hsim : IterOps.Sim o₁ o₂ R T) (op : BlockOp)
    (hop : ∀ x, op.target? = some x → T x) (s : σ) (t : τ) (h : R s t) :
    ∃ s' t', o₁.apply op s = some s' ∧ o₂.apply op t = some t' ∧ R s' t' := by
  have stay : ∀ {s t}, R s t → ∃ s' t', some s = some s' ∧ some t = some t' ∧ R s' t' :=
    fun h => ⟨_, _, rfl, rfl, h⟩
  cases op with
  | first => exact hsim.first s t h
  | last => exact hsim.last s t h
  | next => exact hsim.ite_valid h (hsim.next s t h) (fun _ => stay h)
  | prev => exact hsim.ite_valid h (hsim.prev s t h) (fun _ => stay h)
  | seek x => exact hsim.seek s t x h (hop x rfl)
  | seekGE x => exact hsim.seek s t x h (hop x rfl)
  | seekGT x =>
    obtain ⟨s1, t1, e1, e2, h1⟩ := hsim.seek s t x h (hop x rfl)
    simp only [IterOps.apply, IterOps.seekGT, e1, e2]
    refine hsim.ite_valid h1 (fun hv => ?_) (fun _ => stay h1)
    obtain ⟨ord, c1, c2⟩ := hsim.compare_eq h1 hv (hop x rfl)
    rw [c1, c2]
    cases ord with
    | eq => exact hsim.next s1 t1 h1 hv
    | lt => exact stay h1
    | gt => exact stay h1
  | seekLE x =>
    obtain ⟨s1, t1, e1, e2, h1⟩ := hsim.seek s t x h (hop x rfl)
    simp only [IterOps.apply, IterOps.seekLE, e1, e2]
    refine hsim.ite_valid h1 (fun hv => ?_) (fun _ => hsim.last s1 t1 h1)
    obtain ⟨ord, c1, c2⟩ := hsim.compare_eq h1 hv (hop x rfl)
    rw [c1, c2]
    cases ord with
    | gt => exact hsim.prev s1 t1 h1 hv
    | lt => exact stay h1
    | eq => exact stay h1
  | seekLT x =>
    obtain ⟨s1, t1, e1, e2, h1⟩ := hsim.seek s t x h (hop x rfl)
    simp only [IterOps.apply, IterOps.seekLT, e1, e2]
    exact hsim.ite_valid h1 (hsim.prev s1 t1 h1) (fun _ => hsim.last s1 t1 h1)

end

theorem IterOps.Sim.run {σ τ : Type} {o₁ : IterOps σ} {o₂ : IterOps τ} {R : σ → τ → Prop}
    {T : Bytes → Prop} (hsim : IterOps.Sim o₁ o₂ R T) (ops : List BlockOp)
    (hops : ∀ op ∈ ops, ∀ x, op.target? = some x → T x) (s : σ) (t : τ) (h : R s t) :
    ∃ s' t', o₁.run ops s = some s' ∧ o₂.run ops t = some t' ∧ R s' t' := by
  rw [IterOps.run_eq, IterOps.run_eq]
  exact Step.Sim.run hsim.apply ops hops s t h

theorem IterOps.Sim.run_observe {σ τ : Type} {o₁ : IterOps σ} {o₂ : IterOps τ} {R : σ → τ → Prop}
    {T : Bytes → Prop} (hsim : IterOps.Sim o₁ o₂ R T) (ops : List BlockOp)
    (hops : ∀ op ∈ ops, ∀ x, op.target? = some x → T x) (s : σ) (t : τ) (h : R s t) :
    ∃ s' t', o₁.run ops s = some s' ∧ o₂.run ops t = some t' ∧
      o₁.valid s' = o₂.valid t' ∧ (o₁.valid s' = true → o₁.key s' = o₂.key t') := by
  obtain ⟨s', t', e1, e2, h'⟩ := hsim.run ops hops s t h
  exact ⟨s', t', e1, e2, hsim.valid s' t' h', hsim.key s' t' h'⟩

example : lastIdx (fun k => bytesCmp k [4] != .gt) [[1], [3], [5]] = some 1 := by decide
example : lastIdx (fun k => bytesCmp k [0] != .gt) [[1], [3], [5]] = none := by decide
example : (cursorOps bytesCmp [[1], [3], [5]]).seekGE [3] none = some (some 1) := by decide
example : (cursorOps bytesCmp [[1], [3], [5]]).seekGT [3] none = some (some 2) := by decide
example : (cursorOps bytesCmp [[1], [3], [5]]).seekGT [5] (some 0) = some none := by decide
example : (cursorOps bytesCmp [[1], [3], [5]]).seekLE [4] none = some (some 1) := by decide
example : (cursorOps bytesCmp [[1], [3], [5]]).seekLE [0] none = some none := by decide
example : (cursorOps bytesCmp [[1], [3], [5]]).seekLT [3] none = some (some 0) := by decide
example : (cursorOps bytesCmp [[1], [3], [5]]).seekLT [9] none = some (some 2) := by decide
example : SortedKeys bytesCmp [[1], [3], [5]] := by
  simp [SortedKeys]; decide

end Lcdb
