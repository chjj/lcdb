/-
  Lemmas about LcdbModel.Model.Files: garbage collection of database files (`ldb_remove_obsolete_files`)
  and the file-number allocator of the version set, as a machine `runAlloc` over `new` / `reuse` / `mark`:
  runs without `reuse` hand out increasing numbers, `nextFile` only drops through a `reuse` of the number
  handed out last, and under the call discipline of db_impl.c (`Disciplined`) every `reuse` cancels the `new`
  before it.
-/
import LcdbModel.Model.Files
import LcdbModel.Lemmas.FileName
namespace Lcdb.Files
open Lcdb

theorem toDelete_eq_filter (s : GcState) (dir : List String) :
    toDelete s dir = dir.filter fun n => !(s.bgError || keep s n) := by
  unfold toDelete
  cases s.bgError
  · rfl
  · exact (List.filter_eq_nil_iff.2 fun _ _ => Bool.false_ne_true).symm

theorem mem_toDelete {s : GcState} {dir : List String} {name : String} :
    name ∈ toDelete s dir ↔ s.bgError = false ∧ name ∈ dir ∧ keep s name = false := by
  rw [toDelete_eq_filter, List.mem_filter, Bool.not_eq_true', Bool.or_eq_false_iff, and_left_comm]

theorem keep_false_of_mem_toDelete {s : GcState} {dir : List String} {name : String}
    (h : name ∈ toDelete s dir) : keep s name = false := (mem_toDelete.1 h).2.2

theorem toDelete_sublist (s : GcState) (dir : List String) : (toDelete s dir).Sublist dir := by
  rw [toDelete_eq_filter]
  exact List.filter_sublist

theorem keep_of_parse_none {s : GcState} {name : String} (h : parseFileName name = none) :
    keep s name = true := by
  simp [keep, h]

theorem keep_of_parse {s : GcState} {name : String} {ty : FileType} {n : Nat}
    (h : parseFileName name = some (ty, n)) :
    keep s name = match (motive := FileType → Bool) ty with
      | .log => decide (n ≥ s.logNumber) || n == s.prevLogNumber
      | .desc => decide (n ≥ s.manifestNumber)
      | .table | .temp => (liveSet s).contains n
      | .current | .lock | .info => true := by
  unfold keep
  rw [h]
  cases ty <;> rfl

theorem keep_eq_true_iff {s : GcState} {name : String} :
    keep s name = true ↔ parseFileName name = none ∨ ownedAndLive s name = true := by
  unfold keep ownedAndLive
  cases h : parseFileName name with
  | none => simp
  | some r =>
    obtain ⟨ty, n⟩ := r
    cases ty <;> simp

theorem mem_liveSet_iff {s : GcState} {n : Nat} :
    n ∈ liveSet s ↔ n ∈ s.pending ∨ ∃ v ∈ s.liveVersions, n ∈ v := by
  unfold liveSet
  simp [List.mem_flatten]

theorem removeObsolete_eq_filter (s : GcState) (dir : List String) :
    removeObsolete s dir = dir.filter fun n => s.bgError || keep s n := by
  refine List.filter_congr fun name hmem => ?_
  simp only [List.contains_eq_mem, mem_toDelete, hmem, true_and]
  cases s.bgError <;> cases keep s name <;> rfl

/-- The three operations of the version set on `next_file_number` (version_set.c):
    `ldb_versions_new_file_number`, `ldb_versions_reuse_file_number`, `ldb_versions_mark_file_number`. -/
inductive AllocOp where
  | new
  | reuse (n : Nat)
  | mark (n : Nat)
  deriving Repr, DecidableEq

def AllocOp.isReuse : AllocOp → Bool
  | .reuse _ => true
  | _ => false

def stepAlloc (s : GcState) : AllocOp → GcState × List Nat
  | .new => ((newFileNumber s).2, [(newFileNumber s).1])
  | .reuse n => (reuseFileNumber s n, [])
  | .mark n => (markFileNumber s n, [])

/-- the second component lists the numbers handed out by `new`, in order -/
def runAlloc : GcState → List AllocOp → GcState × List Nat
  | s, [] => (s, [])
  | s, op :: ops =>
    ((runAlloc (stepAlloc s op).1 ops).1, (stepAlloc s op).2 ++ (runAlloc (stepAlloc s op).1 ops).2)

@[simp] theorem runAlloc_nil (s : GcState) : runAlloc s [] = (s, []) := rfl

theorem runAlloc_cons (s : GcState) (op : AllocOp) (ops : List AllocOp) :
    runAlloc s (op :: ops) =
      ((runAlloc (stepAlloc s op).1 ops).1,
       (stepAlloc s op).2 ++ (runAlloc (stepAlloc s op).1 ops).2) := rfl

theorem runAlloc_append (s : GcState) (a b : List AllocOp) :
    runAlloc s (a ++ b) =
      ((runAlloc (runAlloc s a).1 b).1, (runAlloc s a).2 ++ (runAlloc (runAlloc s a).1 b).2) := by
  induction a generalizing s with
  | nil => simp
  | cons op a ih => simp [runAlloc_cons, ih]

@[simp] theorem newFileNumber_fst (s : GcState) : (newFileNumber s).1 = s.nextFile := rfl
@[simp] theorem newFileNumber_nextFile (s : GcState) :
    (newFileNumber s).2.nextFile = s.nextFile + 1 := rfl

theorem markFileNumber_nextFile (s : GcState) (n : Nat) :
    (markFileNumber s n).nextFile = max s.nextFile (n + 1) := by
  unfold markFileNumber
  split
  · simp only; omega
  · omega

theorem le_markFileNumber (s : GcState) (n : Nat) : s.nextFile ≤ (markFileNumber s n).nextFile := by
  rw [markFileNumber_nextFile]; omega

theorem reuseFileNumber_nextFile (s : GcState) (n : Nat) :
    (reuseFileNumber s n).nextFile = if s.nextFile = n + 1 then n else s.nextFile := by
  unfold reuseFileNumber
  by_cases h : s.nextFile = n + 1 <;> simp [h]

theorem reuseFileNumber_of_ne {s : GcState} {n : Nat} (h : s.nextFile ≠ n + 1) :
    reuseFileNumber s n = s := by
  simp [reuseFileNumber, h]

theorem reuseFileNumber_of_eq {s : GcState} {n : Nat} (h : s.nextFile = n + 1) :
    reuseFileNumber s n = { s with nextFile := n } := by
  simp [reuseFileNumber, h]

theorem reuse_new_cancel (s : GcState) : reuseFileNumber (newFileNumber s).2 s.nextFile = s := by
  simp [reuseFileNumber, newFileNumber]

theorem stepAlloc_nextFile_drop {s : GcState} {op : AllocOp}
    (h : (stepAlloc s op).1.nextFile < s.nextFile) :
    ∃ n, op = .reuse n ∧ s.nextFile = n + 1 ∧ (stepAlloc s op).1.nextFile = n := by
  cases op with
  | new => simp only [stepAlloc, newFileNumber_nextFile] at h; omega
  | mark n => simp only [stepAlloc, markFileNumber_nextFile] at h; omega
  | reuse n =>
    refine ⟨n, rfl, ?_⟩
    simp only [stepAlloc, reuseFileNumber_nextFile] at h ⊢
    by_cases hn : s.nextFile = n + 1
    · simp [hn]
    · simp [hn] at h

theorem runAlloc_noReuse (s : GcState) (ops : List AllocOp)
    (h : ∀ op ∈ ops, op.isReuse = false) :
    s.nextFile ≤ (runAlloc s ops).1.nextFile ∧
    (runAlloc s ops).2.Pairwise (· < ·) ∧
    ∀ x ∈ (runAlloc s ops).2, s.nextFile ≤ x ∧ x < (runAlloc s ops).1.nextFile := by
  induction ops generalizing s with
  | nil => simp
  | cons op ops ih =>
    obtain ⟨ih1, ih2, ih3⟩ := ih (stepAlloc s op).1 (fun o ho => h o (List.mem_cons_of_mem _ ho))
    rw [runAlloc_cons]
    cases op with
    | reuse n => exact absurd (h _ List.mem_cons_self) (by simp [AllocOp.isReuse])
    | mark n =>
      have hm := le_markFileNumber s n
      exact ⟨Nat.le_trans hm ih1, ih2, fun x hx => ⟨Nat.le_trans hm (ih3 x hx).1, (ih3 x hx).2⟩⟩
    | new =>
      -- `new` hands out `s.nextFile` and continues from `s.nextFile + 1`
      have hn : ∀ x ∈ (runAlloc (newFileNumber s).2 ops).2, s.nextFile < x := fun x hx => (ih3 x hx).1
      refine ⟨Nat.le_trans (Nat.le_succ _) ih1, List.pairwise_cons.2 ⟨hn, ih2⟩, fun x hx => ?_⟩
      rcases List.mem_cons.1 hx with rfl | hx
      · exact ⟨Nat.le_refl _, ih1⟩
      · exact ⟨Nat.le_of_lt (hn x hx), (ih3 x hx).2⟩

theorem runAlloc_drop_needs_reuse (s : GcState) (ops : List AllocOp) (x : Nat)
    (h1 : x < s.nextFile) (h2 : (runAlloc s ops).1.nextFile ≤ x) :
    ∃ a b, ops = a ++ AllocOp.reuse x :: b ∧ (runAlloc s a).1.nextFile = x + 1 := by
  induction ops generalizing s with
  | nil => simp at h2; omega
  | cons op ops ih =>
    rw [runAlloc_cons] at h2
    by_cases hx : x < (stepAlloc s op).1.nextFile
    · obtain ⟨a, b, hab, hs⟩ := ih _ hx h2
      exact ⟨op :: a, b, by simp [hab], by simpa [runAlloc_cons] using hs⟩
    · obtain ⟨n, hop, hn1, hn2⟩ := stepAlloc_nextFile_drop (s := s) (op := op) (by omega)
      have : n = x := by omega
      subst this
      exact ⟨[], ops, by simp [hop], by simpa using hn1⟩

/-! `ldb_versions_reuse_file_number` has a single call site (db_impl.c:1863, `ldb_make_room_for_write`):
it is called with the number returned by the directly preceding `ldb_versions_new_file_number`, when
creating the file of that number failed, so the number was never installed. -/

/-- `reuse n` occurs only directly after the `new` that returned `n`. -/
def Disciplined : GcState → List AllocOp → Prop
  | _, [] => True
  | s, .new :: .reuse n :: rest => n = s.nextFile ∧ Disciplined s rest
  | s, .new :: rest => Disciplined (newFileNumber s).2 rest
  | s, .mark n :: rest => Disciplined (markFileNumber s n) rest
  | _, .reuse _ :: _ => False

def dropCancelled : List AllocOp → List AllocOp
  | [] => []
  | .new :: .reuse _ :: rest => dropCancelled rest
  | op :: rest => op :: dropCancelled rest

theorem dropCancelled_new_cons {rest : List AllocOp} (hne : ∀ n r, rest = .reuse n :: r → False) :
    dropCancelled (.new :: rest) = .new :: dropCancelled rest := by
  cases rest with
  | nil => rfl
  | cons o r =>
    cases o with
    | reuse n => exact absurd rfl (hne n r)
    | new | mark => rfl

theorem dropCancelled_of_disciplined (s : GcState) (ops : List AllocOp) (h : Disciplined s ops) :
    (∀ op ∈ dropCancelled ops, op.isReuse = false) ∧
    (runAlloc s (dropCancelled ops)).1 = (runAlloc s ops).1 := by
  fun_induction Disciplined s ops with
  | case1 => exact ⟨fun _ h => absurd h List.not_mem_nil, rfl⟩
  | case2 s n rest ih =>
    obtain ⟨hn, hd⟩ := h
    subst hn
    simpa only [dropCancelled, runAlloc_cons, stepAlloc, reuse_new_cancel] using ih hd
  | case3 s rest hne ih =>
    rw [dropCancelled_new_cons hne]
    exact ⟨List.forall_mem_cons.2 ⟨rfl, (ih h).1⟩, (ih h).2⟩
  | case4 s n rest ih => exact ⟨List.forall_mem_cons.2 ⟨rfl, (ih h).1⟩, (ih h).2⟩
  | case5 => exact absurd h id

end Lcdb.Files
