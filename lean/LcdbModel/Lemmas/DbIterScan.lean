/-
  The loops of db_iter.c in terms of the indices of a sorted run: what each loop knows while it runs and
  what its answer is.

  An index `j` of the run is a *head* when `r[j]` is visible at sequence `s` and no earlier entry
  with the same user key is; it is *live* when it is a head and a value.  Live indices correspond
  one to one, in order, to the entries of `visibleMap c r s` (Lemmas/DbIterLive.lean).

  * `FwdInv` / `FwdPost` — the do-while loop of `find_next_user_entry` at position `p` with
    (`skipping`, `skip`): it finds the least live index at or after its start whose key is not skipped;
  * `BInv` / `BPost`     — the do-while loop of `find_prev_user_entry`: it finds the greatest live index
    below its start and parks the internal iterator before it.
-/
import LcdbModel.Lemmas.Lsm
namespace Lcdb.DbIt
open Lcdb Lcdb.Lsm Lcdb.CmpBasic

def uk (r : Run) (j : Nat) : Bytes := match r[j]? with | some e => e.ukey | none => []
def vl (r : Run) (j : Nat) : String := match r[j]? with | some e => e.val | none => ""
def knd (r : Run) (j : Nat) : Nat := match r[j]? with | some e => e.kind | none => 0
def vis (s : Nat) (r : Run) (j : Nat) : Bool := match r[j]? with | some e => decide (e.seq ≤ s) | none => false

theorem uk_of {r : Run} {j : Nat} {e : Entry} (h : r[j]? = some e) : uk r j = e.ukey := by simp [uk, h]
theorem vl_of {r : Run} {j : Nat} {e : Entry} (h : r[j]? = some e) : vl r j = e.val := by simp [vl, h]
theorem knd_of {r : Run} {j : Nat} {e : Entry} (h : r[j]? = some e) : knd r j = e.kind := by simp [knd, h]
theorem vis_of {s : Nat} {r : Run} {j : Nat} {e : Entry} (h : r[j]? = some e) :
    vis s r j = decide (e.seq ≤ s) := by simp [vis, h]

theorem vis_lt {s : Nat} {r : Run} {j : Nat} (h : vis s r j = true) : j < r.length := by
  unfold vis at h
  cases hj : r[j]? with
  | none => simp [hj] at h
  | some e => exact (List.getElem?_eq_some_iff.mp hj).1

theorem get_of_lt {r : Run} {j : Nat} (h : j < r.length) : ∃ e, r[j]? = some e ∧ e ∈ r :=
  ⟨r[j], List.getElem?_eq_getElem h, List.getElem_mem h⟩

def Head (s : Nat) (r : Run) (j : Nat) : Prop :=
  vis s r j = true ∧ ∀ i, i < j → uk r i = uk r j → vis s r i = false

def Live (s : Nat) (r : Run) (j : Nat) : Prop := Head s r j ∧ knd r j = 1

theorem Live.lt {s : Nat} {r : Run} {j : Nat} (h : Live s r j) : j < r.length := vis_lt h.1.1

theorem sorted_idx {c : Cmp} {r : Run} (hs : RunSorted c r) {i j : Nat} {a b : Entry} (hij : i < j)
    (ha : r[i]? = some a) (hb : r[j]? = some b) : entryLt c a b = true := by
  obtain ⟨hi, rfl⟩ := List.getElem?_eq_some_iff.mp ha
  obtain ⟨hj, rfl⟩ := List.getElem?_eq_some_iff.mp hb
  exact List.pairwise_iff_getElem.mp hs i j hi hj hij

theorem uk_le {c : Cmp} {r : Run} (hs : RunSorted c r) {i j : Nat} (hij : i ≤ j) (hj : j < r.length) :
    c.compare (uk r i) (uk r j) ≠ .gt := by
  rcases Nat.lt_or_eq_of_le hij with hlt | rfl
  · obtain ⟨a, ha, _⟩ := get_of_lt (Nat.lt_trans hlt hj)
    obtain ⟨b, hb, _⟩ := get_of_lt hj
    have h := sorted_idx hs hlt ha hb
    rw [uk_of ha, uk_of hb]
    exact ikLt_ne_gt h
  · rw [compare_refl]; decide

theorem cmp_eq_of_not_lt (c : Cmp) {a b : Bytes} (h1 : c.compare a b ≠ .lt) (h2 : c.compare a b ≠ .gt) : a = b := by
  cases h : c.compare a b with
  | eq => exact (compare_eq_iff c a b).mp h
  | gt => exact absurd h h2
  | lt => exact absurd h h1

theorem cmp_le_trans (c : Cmp) {a b d : Bytes} (h1 : c.compare a b ≠ .gt) (h2 : c.compare b d ≠ .gt) :
    c.compare a d ≠ .gt :=
  (cmp3_compare c).ne_gt_trans h1 h2

theorem uk_contig {c : Cmp} {r : Run} (hs : RunSorted c r) {i j k : Nat} (hij : i ≤ j) (hjk : j ≤ k)
    (hk : k < r.length) (h : uk r i = uk r k) : uk r j = uk r i := by
  have h1 := uk_le hs hij (Nat.lt_of_le_of_lt hjk hk)
  have h2 := uk_le hs hjk hk
  rw [← h] at h2
  exact (compare_antisymm c h1 h2).symm

theorem vis_mono {c : Cmp} {s : Nat} {r : Run} (hs : RunSorted c r) (hk : ∀ e ∈ r, e.kind ≤ 1)
    {i j : Nat} (hij : i < j) (hj : j < r.length) (hu : uk r i = uk r j) (hv : vis s r i = true) :
    vis s r j = true := by
  obtain ⟨a, ha, hma⟩ := get_of_lt (Nat.lt_trans hij hj)
  obtain ⟨b, hb, _⟩ := get_of_lt hj
  have h := sorted_idx hs hij ha hb
  rw [uk_of ha, uk_of hb] at hu
  rw [vis_of ha] at hv
  rw [vis_of hb]
  have := seq_le_of_entryLt h hu (hk a hma)
  simp only [decide_eq_true_eq] at hv ⊢
  omega

theorem not_head_of_vis {s : Nat} {r : Run} {i j : Nat} (hij : i < j) (hu : uk r i = uk r j)
    (hv : vis s r i = true) : ¬ Head s r j := by
  intro h
  rw [h.2 i hij hu] at hv
  cases hv

section Scans
variable {c : Cmp} {s : Nat} {r : Run}

structure FwdInv (c : Cmp) (s : Nat) (r : Run) (p : Nat) (skipping : Bool) (skip : Bytes) : Prop where
  /-- an earlier visible entry with the key of a later one exists only for the skipped key -/
  shadow : ∀ i j, i < p → p ≤ j → j < r.length → uk r i = uk r j → vis s r i = true →
    skipping = true ∧ uk r j = skip
  /-- the skipped key is not above the key of any visible entry still ahead -/
  low : skipping = true → ∀ j, p ≤ j → j < r.length → vis s r j = true → c.compare skip (uk r j) ≠ .gt

theorem FwdInv.pass {p : Nat} {skipping : Bool} {skip : Bytes}
    (h : FwdInv c s r p skipping skip) (hp : vis s r p = true → skipping = true ∧ uk r p = skip) :
    FwdInv c s r (p + 1) skipping skip := by
  refine ⟨fun i j hi hj hjl hu hvi => ?_, fun hsk j hj hjl => h.low hsk j (Nat.le_of_succ_le hj) hjl⟩
  rcases Nat.lt_or_eq_of_le (Nat.le_of_lt_succ hi) with hip | rfl
  · exact h.shadow i j hip (Nat.le_of_succ_le hj) hjl hu hvi
  · exact ⟨(hp hvi).1, hu ▸ (hp hvi).2⟩

theorem FwdInv.key_eq {p : Nat} {skipping : Bool} {skip : Bytes}
    (hs : RunSorted c r) (h : FwdInv c s r p skipping skip) (hvp : vis s r p = true) {j : Nat} (hj : p ≤ j)
    (hjl : j < r.length) (hsk : skipping = true) (hu : uk r j = skip) : uk r p = skip := by
  have h1 := h.low hsk p (Nat.le_refl p) (vis_lt hvp) hvp
  have h2 := uk_le hs hj hjl
  rw [hu] at h2
  exact (compare_antisymm c h1 h2).symm

theorem FwdInv.delete {p : Nat} {skipping : Bool} {skip : Bytes}
    (hs : RunSorted c r) (h : FwdInv c s r p skipping skip) (hvp : vis s r p = true) :
    FwdInv c s r (p + 1) true (uk r p) := by
  refine ⟨fun i j hi hj hjl hu hvi => ⟨rfl, ?_⟩, fun _ j hj hjl _ => uk_le hs (Nat.le_of_succ_le hj) hjl⟩
  rcases Nat.lt_or_eq_of_le (Nat.le_of_lt_succ hi) with hip | rfl
  · obtain ⟨hsk, hjs⟩ := h.shadow i j hip (Nat.le_of_succ_le hj) hjl hu hvi
    rw [hjs, h.key_eq hs hvp (Nat.le_of_succ_le hj) hjl hsk hjs]
  · exact hu.symm

/-- the invariant of the scan for the key after `uk r q₀`: started at `q₀ + 1`, or, coming from the
    reverse direction, at some `a ≤ q₀` with only invisible entries in between -/
theorem fwdInv_after (hs : RunSorted c r) (hk : ∀ e ∈ r, e.kind ≤ 1) {q₀ a : Nat} (ha : a ≤ q₀ + 1)
    (hinv : ∀ j, a ≤ j → j < q₀ → vis s r j = false) : FwdInv c s r a true (uk r q₀) := by
  refine ⟨fun i j hi hj hjl hu hvi => ⟨rfl, ?_⟩, fun _ j hj hjl hvj => ?_⟩
  · rcases Nat.lt_or_ge j q₀ with h | h
    · have := vis_mono hs hk (Nat.lt_of_lt_of_le hi hj) hjl hu hvi
      rw [hinv j hj h] at this; cases this
    · rw [uk_contig hs (Nat.le_of_lt_succ (Nat.lt_of_lt_of_le hi ha)) h hjl hu, hu]
  · rcases Nat.lt_or_ge j q₀ with h | h
    · rw [hinv j hj h] at hvj; cases hvj
    · exact uk_le hs h hjl

/-- under `FwdInv` a live index with the skipped key can only be the entry `next` has just left, when
    the scan starts before it after a change of direction -/
def FwdPost (s : Nat) (r : Run) (p : Nat) (skipping : Bool) (skip : Bytes) : Option Nat → Prop
  | some q => p ≤ q ∧ Live s r q ∧ ¬ (skipping = true ∧ uk r q = skip) ∧
      ∀ j, p ≤ j → j < q → Live s r j → skipping = true ∧ uk r j = skip
  | none => ∀ j, p ≤ j → Live s r j → skipping = true ∧ uk r j = skip

theorem FwdPost.pass {p : Nat} {skipping sk' : Bool} {skip skip' : Bytes}
    {res : Option Nat} (h : FwdPost s r (p + 1) sk' skip' res)
    (hp : Live s r p → skipping = true ∧ uk r p = skip)
    (hiff : ∀ j, p < j → Live s r j → ((sk' = true ∧ uk r j = skip') ↔ (skipping = true ∧ uk r j = skip))) :
    FwdPost s r p skipping skip res := by
  have hex : ∀ j, p ≤ j → Live s r j → (p < j → sk' = true ∧ uk r j = skip') →
      skipping = true ∧ uk r j = skip := by
    intro j hj hl h'
    rcases Nat.lt_or_eq_of_le hj with hlt | rfl
    · exact (hiff j hlt hl).mp (h' hlt)
    · exact hp hl
  cases res with
  | none => exact fun j hj hl => hex j hj hl (fun h' => h j h' hl)
  | some q =>
    obtain ⟨h1, h2, h3, h4⟩ := h
    exact ⟨Nat.le_of_succ_le h1, h2, fun h' => h3 ((hiff q h1 h2).mpr h'),
      fun j hj hjq hl => hex j hj hl (fun h' => h4 j h' hjq hl)⟩

theorem fwdPost_none_of_ge {s p : Nat} {skipping : Bool} {skip : Bytes} (h : r.length ≤ p) :
    FwdPost s r p skipping skip none :=
  fun _ hj hl => absurd hl.lt (Nat.not_lt.mpr (Nat.le_trans h hj))

/-- what the loop of find_prev_user_entry leaves: the number `pos` of entries at or before the internal
    iterator when it stops (it stands on index `pos - 1`; 0 = off the front) and the entry saved last: its
    kind `vt` (0 = nothing saved), user key `sk`, value `sv` -/
structure BRes where
  pos : Nat
  vt : Nat
  sk : Bytes
  sv : String

/-- loop invariant: entries `[k, hi)` have been processed.  Nothing saved: none of them is live.  Something
    saved: it is the value at some `v` in `[k, hi)`, nothing in `[k, v)` is visible (so `v` is still the
    candidate head of its key) and nothing in `(v, hi)` is live. -/
def BInv (s : Nat) (r : Run) (hi k vt : Nat) (sk : Bytes) (sv : String) : Prop :=
  (vt = 0 ∧ ∀ j, k ≤ j → j < hi → ¬ Live s r j) ∨
  (vt = 1 ∧ ∃ v, k ≤ v ∧ v < hi ∧ vis s r v = true ∧ knd r v = 1 ∧ sk = uk r v ∧ sv = vl r v ∧
    (∀ i, k ≤ i → i < v → vis s r i = false) ∧ (∀ j, v < j → j < hi → ¬ Live s r j))

def BPost (s : Nat) (r : Run) (hi : Nat) (res : BRes) : Prop :=
  (res.vt = 0 ∧ ∀ j, j < hi → ¬ Live s r j) ∨
  (res.vt = 1 ∧ ∃ q, q < hi ∧ Live s r q ∧ (∀ j, q < j → j < hi → ¬ Live s r j) ∧
    res.sk = uk r q ∧ res.sv = vl r q ∧
    res.pos ≤ q ∧ ∀ j, res.pos ≤ j → j < q → vis s r j = false)

theorem BInv.post {hi vt : Nat} {sk : Bytes} {sv : String} {pos : Nat}
    (h : BInv s r hi pos vt sk sv) (h0 : vt = 0 → pos = 0)
    (hlow : ∀ i, i < pos → uk r i ≠ sk) : BPost s r hi ⟨pos, vt, sk, sv⟩ := by
  rcases h with ⟨hvt, hn⟩ | ⟨hvt, v, hv0, hv1, hv2, hv3, hv4, hv5, hv6, hv7⟩
  · rw [h0 hvt] at hn
    exact Or.inl ⟨hvt, fun j hj => hn j (Nat.zero_le j) hj⟩
  · refine Or.inr ⟨hvt, v, hv1, ⟨⟨hv2, fun i hiv hu => ?_⟩, hv3⟩, hv7, hv4, hv5, hv0, hv6⟩
    rcases Nat.lt_or_ge i pos with hip | hip
    · exact absurd (hu.trans hv4.symm) (hlow i hip)
    · exact hv6 i hip hiv

theorem BInv.invisible {hi p vt : Nat} {sk : Bytes} {sv : String}
    (h : BInv s r hi (p + 1) vt sk sv) (hvp : vis s r p = false) : BInv s r hi p vt sk sv := by
  rcases h with ⟨hvt, hn⟩ | ⟨hvt, v, hv0, hv1, hv2, hv3, hv4, hv5, hv6, hv7⟩
  · refine Or.inl ⟨hvt, fun j hj hjh hl => ?_⟩
    rcases Nat.lt_or_eq_of_le hj with h | rfl
    · exact hn j h hjh hl
    · rw [hl.1.1] at hvp; cases hvp
  · refine Or.inr ⟨hvt, v, Nat.le_of_succ_le hv0, hv1, hv2, hv3, hv4, hv5, fun i hi1 hi2 => ?_, hv7⟩
    rcases Nat.lt_or_eq_of_le hi1 with h | rfl
    · exact hv6 i h hi2
    · exact hvp

/-- a visible entry at `p` at which the loop does not break has the saved key, if there is one: no
    entry processed so far is live -/
theorem BInv.dead {hi p vt : Nat} {sk : Bytes} {sv : String}
    (hs : RunSorted c r) (hhi : hi ≤ r.length) (h : BInv s r hi (p + 1) vt sk sv) (hvp : vis s r p = true)
    (hb : vt ≠ 0 → c.compare (uk r p) sk ≠ .lt) : ∀ j, p < j → j < hi → ¬ Live s r j := by
  rcases h with ⟨_, hn⟩ | ⟨hvt, v, hv0, hv1, hv2, hv3, hv4, hv5, hv6, hv7⟩
  · exact hn
  · have hpv : uk r p = uk r v :=
      cmp_eq_of_not_lt c (hv4 ▸ hb (by rw [hvt]; decide)) (uk_le hs (Nat.le_of_succ_le hv0) (Nat.lt_of_lt_of_le hv1 hhi))
    intro j hj hjh hl
    rcases Nat.lt_trichotomy j v with hjv | rfl | hjv
    · have := hl.1.1; rw [hv6 j hj hjv] at this; cases this
    · exact not_head_of_vis hj hpv hvp hl.1
    · exact hv7 j hjv hjh hl

end Scans

end Lcdb.DbIt
