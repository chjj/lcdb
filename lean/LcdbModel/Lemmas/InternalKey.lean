/-
  The comparator `ikeyCmp` on encoded internal keys unfolds to the same `match` as `ikCmp3` of
  the decoded user key and trailer (`ikeyCmp_eq_then`), so it has its laws from `Lemmas/IkOrder`.
  Every comparator of the model satisfies `OrdLaws`: the three user comparators of `Cmp` (the
  bytewise one among them), the internal-key comparator on top of any of them, and hence the block
  comparator the driver instantiates (`mkBlockCmp`).
-/
import LcdbModel.Lemmas.IkOrder
import LcdbModel.Lemmas.Coding
import LcdbModel.Lemmas.Cursor
namespace Lcdb

theorem ikeyUser_append8 (u t : Bytes) (ht : t.length = 8) : ikeyUser (u ++ t) = u := by
  simp [ikeyUser, ht]

theorem ikeyNum_append8 (u t : Bytes) (ht : t.length = 8) : ikeyNum (u ++ t) = fixedDec t := by
  simp [ikeyNum, ht]

theorem ikeyUser_enc (a : Bytes) (ap : Nat) : ikeyUser (a ++ fixedEnc 8 ap) = a :=
  ikeyUser_append8 a _ (fixedEnc_length 8 ap)

theorem ikeyNum_enc (a : Bytes) (ap : Nat) (h : ap < 2 ^ 64) : ikeyNum (a ++ fixedEnc 8 ap) = ap := by
  rw [ikeyNum_append8 a _ (fixedEnc_length 8 ap), fixedDec_fixedEnc]
  exact Nat.mod_eq_of_lt (by simpa using h)

section
variable (c : Cmp) (x y : Bytes)

theorem ikeyCmp_eq_then :
    ikeyCmp c x y =
      (c.compare (ikeyUser x) (ikeyUser y)).then (compare (ikeyNum y) (ikeyNum x)) :=
  Lsm.ikCmp3_eq_then c _ _ _ _

theorem ikeyCmp_lt_iff :
    ikeyCmp c x y = .lt ↔ c.compare (ikeyUser x) (ikeyUser y) = .lt ∨
      (ikeyUser x = ikeyUser y ∧ ikeyNum y < ikeyNum x) := by
  rw [ikeyCmp_eq_then, Ordering.then_eq_lt, Nat.compare_eq_lt, CmpBasic.compare_eq_iff]

theorem ikeyCmp_eq_iff (c : Cmp) (x y : Bytes) :
    ikeyCmp c x y = .eq ↔ ikeyUser x = ikeyUser y ∧ ikeyNum x = ikeyNum y := by
  rw [ikeyCmp_eq_then, Ordering.then_eq_eq, Nat.compare_eq_eq, CmpBasic.compare_eq_iff,
    @eq_comm _ (ikeyNum y)]

end

/-- `ikeyCmp` is total on all byte strings (`ikeyUser` uses truncated subtraction), so the laws
    hold without any length side condition -/
theorem cmp3_ikeyCmp (c : Cmp) : Cmp3 (ikeyCmp c) :=
  (Lsm.cmp3_ik3 c).comap fun x : Bytes => (ikeyUser x, ikeyNum x)

theorem bytesCmp_lt_iff_gt (a b : Bytes) : bytesCmp a b = .lt ↔ bytesCmp b a = .gt :=
  CmpBasic.compare_lt_iff .bytewise a b

theorem packSeek_lt : packSeqType maxSequence valtypeSeek < 2 ^ 64 := by decide

theorem ikeyUser_length (x : Bytes) : (ikeyUser x).length = x.length - 8 := by
  rw [ikeyUser, List.length_take]; exact Nat.min_eq_left (Nat.sub_le _ _)

theorem ikeyCmp_le_user {c : Cmp} {a b : Bytes} (h : ikeyCmp c a b ≠ .gt) :
    c.compare (ikeyUser a) (ikeyUser b) ≠ .gt := by
  intro hc
  apply h
  unfold ikeyCmp
  rw [hc]

/-- the shortening step shared by `ikeySeparator` and `ikeySuccessor` -/
theorem shorten_cases (c : Cmp) (x tmp r : Bytes)
    (hr : r = if !c.hasShortening then x else
      if tmp.length < (ikeyUser x).length && c.compare (ikeyUser x) tmp == .lt then
        tmp ++ fixedEnc 8 (packSeqType maxSequence valtypeSeek)
      else x) :
    r.length ≤ x.length ∧ (r = x ∨
      (c = .bytewise ∧ tmp.length < (ikeyUser x).length ∧ bytesCmp (ikeyUser x) tmp = .lt ∧
        r = ikeyEnc tmp maxSequence valtypeSeek)) := by
  subst hr
  cases c with
  | bytewise =>
    simp only [Cmp.hasShortening, Bool.not_true, Bool.false_eq_true, if_false]
    by_cases hcond : (tmp.length < (ikeyUser x).length &&
        Cmp.bytewise.compare (ikeyUser x) tmp == .lt) = true
    · have hc2 := hcond
      rw [Bool.and_eq_true, decide_eq_true_eq, beq_iff_eq] at hc2
      have hlen := hc2.1
      rw [ikeyUser_length] at hlen
      rw [if_pos hcond]
      exact ⟨by rw [List.length_append, fixedEnc_length]; omega, .inr ⟨trivial, hc2.1, hc2.2, rfl⟩⟩
    · rw [if_neg hcond]
      exact ⟨Nat.le_refl _, .inl rfl⟩
  | reverse => exact ⟨Nat.le_refl _, .inl rfl⟩
  | lenFirst => exact ⟨Nat.le_refl _, .inl rfl⟩

theorem ikeySeparator_cases (c : Cmp) (x y : Bytes) :
    (ikeySeparator c x y).length ≤ x.length ∧ (ikeySeparator c x y = x ∨
      (c = .bytewise ∧
        (shortestSeparator (ikeyUser x) (ikeyUser y)).length < (ikeyUser x).length ∧
        bytesCmp (ikeyUser x) (shortestSeparator (ikeyUser x) (ikeyUser y)) = .lt ∧
        ikeySeparator c x y
          = ikeyEnc (shortestSeparator (ikeyUser x) (ikeyUser y)) maxSequence valtypeSeek)) :=
  shorten_cases c x _ _ rfl

theorem ikeySuccessor_cases (c : Cmp) (x : Bytes) :
    (ikeySuccessor c x).length ≤ x.length ∧ (ikeySuccessor c x = x ∨
      (c = .bytewise ∧
        (shortSuccessor (ikeyUser x)).length < (ikeyUser x).length ∧
        bytesCmp (ikeyUser x) (shortSuccessor (ikeyUser x)) = .lt ∧
        ikeySuccessor c x = ikeyEnc (shortSuccessor (ikeyUser x)) maxSequence valtypeSeek)) :=
  shorten_cases c x _ _ rfl

theorem ordLaws_cmp (c : Cmp) : OrdLaws c.compare := (CmpBasic.cmp3_compare c).ordLaws

theorem ordLaws_bytesCmp : OrdLaws bytesCmp := ordLaws_cmp .bytewise

theorem ordLaws_ikeyCmp (c : Cmp) : OrdLaws (ikeyCmp c) := (cmp3_ikeyCmp c).ordLaws

theorem ordLaws_mkBlockCmp (c : Cmp) (internal : Bool) : OrdLaws (mkBlockCmp c internal).cmp := by
  cases internal
  · exact ordLaws_cmp c
  · exact ordLaws_ikeyCmp c

theorem mkBlockCmp_internal (c : Cmp) (internal : Bool) :
    (mkBlockCmp c internal).internal = internal := by
  cases internal <;> rfl

example : bytesCmp [1, 2] [1, 3] = .lt := by decide
example : Cmp.compare .reverse [1, 2] [1, 3] = .gt := by decide
example : Cmp.compare .lenFirst [9] [1, 3] = .lt := by decide

end Lcdb
