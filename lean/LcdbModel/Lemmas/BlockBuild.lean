/-
  The block builder produces well-formed blocks (`blockBuild_wf`): what its fold writes is given
  in closed form (`encAll`, `layout`, `restartsGo`), and the iterator's entry decoder reads each
  entry back (`decodeEntry_enc`).
-/
import LcdbModel.Lemmas.BlockWf
import LcdbModel.Props.CodingProps
namespace Lcdb

theorem sharedLen_spec (a b : Bytes) :
    sharedLen a b ≤ a.length ∧ sharedLen a b ≤ b.length ∧
      a.take (sharedLen a b) = b.take (sharedLen a b) := by
  induction a generalizing b with
  | nil => exact ⟨Nat.le_refl _, Nat.zero_le _, rfl⟩
  | cons x xs ih =>
    cases b with
    | nil => exact ⟨Nat.zero_le _, Nat.le_refl _, rfl⟩
    | cons y ys =>
      unfold sharedLen
      split
      · rename_i h
        obtain ⟨h1, h2, h3⟩ := ih ys
        rw [beq_iff_eq] at h
        exact ⟨Nat.succ_le_succ h1, Nat.succ_le_succ h2, by rw [List.take_succ_cons, List.take_succ_cons, h, h3]⟩
      · exact ⟨Nat.zero_le _, Nat.zero_le _, rfl⟩

/-- the `shared` field chosen by the builder in state `(cnt, pk)` for key `k` -/
def shOf (iv cnt : Nat) (pk k : Bytes) : Nat := if cnt < iv then sharedLen pk k else 0

def nextCnt (iv cnt : Nat) : Nat := (if cnt < iv then cnt else 0) + 1

theorem shOf_spec (iv cnt : Nat) (pk k : Bytes) :
    shOf iv cnt pk k ≤ pk.length ∧ shOf iv cnt pk k ≤ k.length ∧
      pk.take (shOf iv cnt pk k) ++ k.drop (shOf iv cnt pk k) = k := by
  unfold shOf; split
  · obtain ⟨h1, h2, h3⟩ := sharedLen_spec pk k
    exact ⟨h1, h2, by rw [h3, List.take_append_drop]⟩
  · exact ⟨Nat.zero_le _, Nat.zero_le _, rfl⟩

def encHdr (sh : Nat) (k v : Bytes) : Bytes :=
  varintEnc sh ++ varintEnc (k.length - sh) ++ varintEnc v.length

def encEntry (sh : Nat) (k v : Bytes) : Bytes :=
  encHdr sh k v ++ k.drop sh ++ v

theorem encHdr_length_ge (sh : Nat) (k v : Bytes) : 3 ≤ (encHdr sh k v).length := by
  have h1 := varintEnc_length_pos sh
  have h2 := varintEnc_length_pos (k.length - sh)
  have h3 := varintEnc_length_pos v.length
  simp only [encHdr, List.length_append]; omega

theorem encEntry_length (sh : Nat) (k v : Bytes) :
    (encEntry sh k v).length = (encHdr sh k v).length + (k.length - sh) + v.length := by
  simp only [encEntry, List.length_append, List.length_drop]

def encAll (iv : Nat) : Nat → Bytes → List (Bytes × Bytes) → Bytes
  | _, _, [] => []
  | cnt, pk, e :: es =>
    encEntry (shOf iv cnt pk e.1) e.1 e.2 ++ encAll iv (nextCnt iv cnt) e.1 es

/-- the entries with their offsets, builder state `(cnt, pk)`, buffer length `off` -/
def layout (iv : Nat) : Nat → Nat → Bytes → List (Bytes × Bytes) → List Ent
  | _, _, _, [] => []
  | cnt, off, pk, e :: es =>
    { off := off, sh := shOf iv cnt pk e.1, key := e.1,
      voff := off + (encHdr (shOf iv cnt pk e.1) e.1 e.2).length + (e.1.length - shOf iv cnt pk e.1),
      vlen := e.2.length }
      :: layout iv (nextCnt iv cnt) (off + (encEntry (shOf iv cnt pk e.1) e.1 e.2).length) e.1 es

def restartsGo (iv : Nat) : Nat → Nat → Bytes → List (Bytes × Bytes) → List Nat
  | _, _, _, [] => []
  | cnt, off, pk, e :: es =>
    (if cnt < iv then [] else [off])
      ++ restartsGo iv (nextCnt iv cnt) (off + (encEntry (shOf iv cnt pk e.1) e.1 e.2).length) e.1 es

theorem blockGenAdd_eq (iv : Nat) (g : BlockGen) (k v : Bytes)
    (hk : k.length < 2 ^ 32) (hv : v.length < 2 ^ 32) :
    blockGenAdd iv g k v =
      { buffer := g.buffer ++ encEntry (shOf iv g.counter g.lastKey k) k v
        restarts := g.restarts ++ (if g.counter < iv then [] else [g.buffer.length])
        counter := nextCnt iv g.counter
        lastKey := k } := by
  obtain ⟨_, hs, htd⟩ := shOf_spec iv g.counter g.lastKey k
  have m1 : shOf iv g.counter g.lastKey k % 2 ^ 32 = shOf iv g.counter g.lastKey k :=
    Nat.mod_eq_of_lt (by omega)
  have m2 : (k.length - shOf iv g.counter g.lastKey k) % 2 ^ 32
      = k.length - shOf iv g.counter g.lastKey k := Nat.mod_eq_of_lt (by omega)
  have m3 : v.length % 2 ^ 32 = v.length := Nat.mod_eq_of_lt hv
  unfold shOf at hs htd m1 m2
  unfold blockGenAdd shOf nextCnt encEntry encHdr
  by_cases h : g.counter < iv
  · simp only [h, decide_true, if_true] at hs htd m1 m2 ⊢
    rw [m1, m2, m3, htd]
    simp
  · simp only [h, decide_false, if_false] at hs htd m1 m2 ⊢
    have m2' : k.length % 2 ^ 32 = k.length := Nat.mod_eq_of_lt hk
    simp [m3, m2']

theorem blockGenAddAll_eq (iv : Nat) (es : List (Bytes × Bytes))
    (hk : ∀ e ∈ es, e.1.length < 2 ^ 32 ∧ e.2.length < 2 ^ 32) (g : BlockGen) :
    (blockGenAddAll iv g es).buffer = g.buffer ++ encAll iv g.counter g.lastKey es ∧
    (blockGenAddAll iv g es).restarts
      = g.restarts ++ restartsGo iv g.counter g.buffer.length g.lastKey es := by
  induction es generalizing g with
  | nil => simp [blockGenAddAll, encAll, restartsGo]
  | cons e es ih =>
    have he := hk e (List.mem_cons_self)
    have ih' := ih (fun e' h' => hk e' (List.mem_cons_of_mem _ h'))
      (blockGenAdd iv g e.1 e.2)
    unfold blockGenAddAll at ih' ⊢
    rw [List.foldl_cons]
    rw [ih'.1, ih'.2, blockGenAdd_eq iv g e.1 e.2 he.1 he.2]
    simp only [encAll, restartsGo, List.append_assoc, List.length_append, and_self]

/-- the slow path of decode_entry -/
def decodeSlow (hdr : Bytes) (xn : Nat) : Option (Nat × Nat × Nat × Nat) :=
  match varint32Read hdr with
  | none => none
  | some (s, r1) =>
    match varint32Read r1 with
    | none => none
    | some (ns, r2) =>
      match varint32Read r2 with
      | none => none
      | some (vl, r3) =>
        let h := hdr.length - r3.length
        if xn - h < ns + vl then none
        else some (s, ns, vl, h)

theorem decodeEntryWin_eq_slow (hdr : Bytes) (xn : Nat) (h3 : 3 ≤ hdr.length) :
    decodeEntryWin hdr xn = decodeSlow hdr xn := by
  match hdr, h3 with
  | b0 :: b1 :: b2 :: rest, _ =>
    simp only [decodeEntryWin]
    by_cases hf : (b0.toNat < 128 && b1.toNat < 128 && b2.toNat < 128) = true
    · rw [if_pos hf]
      simp only [Bool.and_eq_true, decide_eq_true_eq] at hf
      obtain ⟨⟨h0, h1⟩, h2⟩ := hf
      unfold decodeSlow
      simp only [varint32Read_small b0 _ h0, varint32Read_small b1 _ h1,
        varint32Read_small b2 _ h2, List.length_cons]
      have : rest.length + 1 + 1 + 1 - rest.length = 3 := by omega
      rw [this]
    · rw [if_neg hf]
      rfl

theorem decodeSlow_append (A B C rest : Bytes) (a b c xn : Nat)
    (hA : ∀ r, varint32Read (A ++ r) = some (a, r)) (hB : ∀ r, varint32Read (B ++ r) = some (b, r))
    (hC : ∀ r, varint32Read (C ++ r) = some (c, r))
    (hx : A.length + B.length + C.length + b + c ≤ xn) :
    decodeSlow (A ++ (B ++ (C ++ rest))) xn = some (a, b, c, A.length + B.length + C.length) := by
  unfold decodeSlow
  rw [hA]
  dsimp only
  rw [hB]
  dsimp only
  rw [hC]
  dsimp only
  rw [show (A ++ (B ++ (C ++ rest))).length - rest.length = A.length + B.length + C.length by
    simp only [List.length_append]; omega, if_neg (by omega)]

theorem decodeSlow_enc (a b c : Nat) (tail : Bytes) (xn : Nat)
    (ha : a < 2 ^ 32) (hb : b < 2 ^ 32) (hc : c < 2 ^ 32)
    (hx : (varintEnc a ++ varintEnc b ++ varintEnc c).length + b + c ≤ xn) :
    decodeEntryWin ((varintEnc a ++ varintEnc b ++ varintEnc c ++ tail).take (min xn 15)) xn
      = some (a, b, c, (varintEnc a ++ varintEnc b ++ varintEnc c).length) := by
  have la := varintEnc_length_le32 a ha
  have lb := varintEnc_length_le32 b hb
  have lc := varintEnc_length_le32 c hc
  have pa := varintEnc_length_pos a
  have pb := varintEnc_length_pos b
  have pc := varintEnc_length_pos c
  generalize hA : varintEnc a = A at *
  generalize hB : varintEnc b = B at *
  generalize hC : varintEnc c = C at *
  rw [List.length_append, List.length_append] at hx ⊢
  -- the three fields fit into the 15-byte window: truncation only shortens the tail
  rw [List.take_append, List.take_of_length_le (by rw [List.length_append, List.length_append]; omega),
    List.append_assoc, List.append_assoc,
    decodeEntryWin_eq_slow _ _ (by simp only [List.length_append]; omega)]
  exact decodeSlow_append A B C _ a b c xn (fun r => hA ▸ varint32_roundtrip a r ha)
    (fun r => hB ▸ varint32_roundtrip b r hb) (fun r => hC ▸ varint32_roundtrip c r hc) hx

theorem decodeEntry_enc (data A B : Bytes) (sh : Nat) (k v : Bytes) (limit : Nat)
    (hd : data = A ++ encEntry sh k v ++ B) (hsh : sh ≤ k.length)
    (hk : k.length < 2 ^ 32) (hv : v.length < 2 ^ 32)
    (hl1 : A.length + (encEntry sh k v).length ≤ limit) (hl2 : limit ≤ data.length) :
    decodeEntry data A.length limit
      = .ok sh (k.length - sh) v.length (A.length + (encHdr sh k v).length) := by
  have h3 := encHdr_length_ge sh k v
  have hel := encEntry_length sh k v
  unfold decodeEntry
  rw [if_neg (by omega), if_neg (by omega), if_neg (by omega)]
  have hdrop : data.drop A.length
      = varintEnc sh ++ varintEnc (k.length - sh) ++ varintEnc v.length
          ++ (k.drop sh ++ v ++ B) := by
    rw [hd]
    simp only [encEntry, encHdr, List.append_assoc, List.drop_left]
  rw [hdrop, decodeSlow_enc sh (k.length - sh) v.length _ _ (by omega) (by omega) hv
    (by unfold encHdr at hel; omega)]
  rfl

theorem sliceAt_mid (X Y Z : Bytes) (o n : Nat) (ho : o = X.length) (hn : n = Y.length) :
    sliceAt (X ++ Y ++ Z) o n = Y := by
  subst ho hn
  unfold sliceAt
  rw [List.append_assoc, List.drop_left, List.take_left]

theorem sliceAt_key (data A B : Bytes) (sh : Nat) (k v : Bytes)
    (hd : data = A ++ encEntry sh k v ++ B) :
    sliceAt data (A.length + (encHdr sh k v).length) (k.length - sh) = k.drop sh := by
  have : data = (A ++ encHdr sh k v) ++ k.drop sh ++ (v ++ B) := by
    rw [hd]; simp only [encEntry, List.append_assoc]
  rw [this]
  exact sliceAt_mid _ _ _ _ _ (by simp only [List.length_append]) (by simp only [List.length_drop])

theorem sliceAt_value (data A B : Bytes) (sh : Nat) (k v : Bytes)
    (hd : data = A ++ encEntry sh k v ++ B) :
    sliceAt data (A.length + (encHdr sh k v).length + (k.length - sh)) v.length = v := by
  have : data = (A ++ encHdr sh k v ++ k.drop sh) ++ v ++ B := by
    rw [hd]; simp only [encEntry, List.append_assoc]
  rw [this]
  exact sliceAt_mid _ _ _ _ _ (by simp only [List.length_append, List.length_drop]) rfl

theorem layout_spec (iv : Nat) (data : Bytes) (es : List (Bytes × Bytes))
    (hk : ∀ e ∈ es, e.1.length < 2 ^ 32 ∧ e.2.length < 2 ^ 32) :
    ∀ (A : Bytes) (cnt : Nat) (pk T : Bytes), data = A ++ encAll iv cnt pk es ++ T →
      Chain data (A.length + (encAll iv cnt pk es).length) pk A.length
        (layout iv cnt A.length pk es) ∧
      entriesOf data (layout iv cnt A.length pk es) = es := by
  induction es with
  | nil => intro A cnt pk T _; exact ⟨rfl, rfl⟩
  | cons e es ih =>
    intro A cnt pk T hd
    obtain ⟨k, v⟩ := e
    have he := hk (k, v) List.mem_cons_self
    obtain ⟨hshp, hshk, htd⟩ := shOf_spec iv cnt pk k
    simp only [encAll, layout] at hd ⊢
    generalize shOf iv cnt pk k = sh at *
    rw [List.length_append, ← Nat.add_assoc]
    have hd' : data = A ++ encEntry sh k v ++ (encAll iv (nextCnt iv cnt) k es ++ T) := by
      rw [hd]; simp only [List.append_assoc]
    have h3 := encHdr_length_ge sh k v
    have hel := encEntry_length sh k v
    obtain ⟨hc, hent⟩ := ih (fun e' h' => hk e' (List.mem_cons_of_mem _ h'))
      (A ++ encEntry sh k v) (nextCnt iv cnt) k T (by rw [hd]; simp only [List.append_assoc])
    rw [List.length_append] at hc hent
    have hkey := sliceAt_key data A _ sh k v hd'
    have hdec := decodeEntry_enc data A _ sh k v
      (A.length + (encEntry sh k v).length + (encAll iv (nextCnt iv cnt) k es).length) hd' hshk
      he.1 he.2 (by omega) (by rw [hd]; simp only [List.length_append]; omega)
    refine ⟨?_, ?_⟩
    · simp only [Chain]
      refine ⟨trivial, by omega, ⟨k.length - sh, A.length + (encHdr sh k v).length, hdec, hshp,
        ?_, ?_, rfl, by omega⟩, ?_⟩
      · rw [hkey, htd]
      · rw [hkey, List.length_drop]
      · rw [show A.length + (encHdr sh k v).length + (k.length - sh) + v.length
            = A.length + (encEntry sh k v).length by omega]
        exact hc
    · show (k, sliceAt data _ _) :: entriesOf data _ = (k, v) :: es
      rw [sliceAt_value data A _ sh k v hd', hent]

theorem restartAt_built (buf tail : Bytes) (rs : List Nat) (j : Nat) (h : j < rs.length) :
    restartAt (buf ++ (rs.map (fixedEnc 4)).flatten ++ tail) buf.length j = rs[j] % 2 ^ 32 := by
  rw [← List.flatMap_def]
  exact fixedDec_word buf tail rs j h

theorem blockNumRestarts_built (X : Bytes) (n : Nat) :
    blockNumRestarts (X ++ fixedEnc 4 n) = n % 2 ^ 32 := by
  unfold blockNumRestarts
  have : (X ++ fixedEnc 4 n).length - 4 = X.length := by
    rw [List.length_append, fixedEnc_length]; omega
  rw [this, List.drop_left, fixedDec_fixedEnc]

theorem WfBlock.of_parts (data buf : Bytes) (rs : List Nat) (L : List Ent)
    (hd : data = buf ++ ((0 :: rs).map (fixedEnc 4)).flatten ++ fixedEnc 4 (rs.length + 1))
    (hsz : data.length < 2 ^ 32) (hchain : Chain data buf.length [] 0 L)
    (hpw : (0 :: rs).Pairwise (· < ·)) (hlt : ∀ x ∈ rs, x < 2 ^ 32)
    (hent : ∀ x ∈ rs, ∃ e, e ∈ L ∧ e.off = x ∧ e.sh = 0) :
    WfBlock data buf.length (rs.length + 1) L := by
  have hlen : data.length = buf.length + 4 * (rs.length + 1) + 4 := by
    rw [hd]
    simp only [List.length_append, ← List.flatMap_def, flatMap_fixedEnc4_length, fixedEnc_length,
      List.length_cons]
  have hra : ∀ (j : Nat) (h : j < (0 :: rs).length),
      restartAt data buf.length j = (0 :: rs)[j] := by
    intro j h
    rw [hd, restartAt_built buf _ _ j h]
    refine Nat.mod_eq_of_lt ?_
    rcases List.mem_cons.mp (List.getElem_mem h) with h0 | hm
    · rw [h0]; exact Nat.two_pow_pos 32
    · exact hlt _ hm
  refine ⟨hlen.symm, Nat.succ_pos _, ?_, hchain, hra 0 (Nat.succ_pos _), fun j hj => ?_,
    fun j hj0 hj => ?_⟩
  · rw [hd, blockNumRestarts_built]
    exact Nat.mod_eq_of_lt (by omega)
  · rw [hra j (Nat.lt_of_succ_lt hj), hra (j + 1) hj]
    exact List.pairwise_iff_getElem.mp hpw j (j + 1) _ _ (Nat.lt_succ_self j)
  · cases j with
    | zero => exact absurd hj0 (Nat.lt_irrefl 0)
    | succ j =>
      rw [hra (j + 1) hj, List.getElem_cons_succ]
      exact hent _ (List.getElem_mem _)

theorem restartsGo_spec (iv : Nat) (es : List (Bytes × Bytes)) :
    ∀ (cnt off : Nat) (pk : Bytes), (restartsGo iv cnt off pk es).Pairwise (· < ·) ∧
      ∀ x ∈ restartsGo iv cnt off pk es,
        off ≤ x ∧ (cnt < iv → off < x) ∧ x < off + (encAll iv cnt pk es).length ∧
        ∃ e, e ∈ layout iv cnt off pk es ∧ e.off = x ∧ e.sh = 0 := by
  induction es with
  | nil => intro cnt off pk; exact ⟨.nil, nofun⟩
  | cons e es ih =>
    intro cnt off pk
    have h3 := encHdr_length_ge (shOf iv cnt pk e.1) e.1 e.2
    have hel := encEntry_length (shOf iv cnt pk e.1) e.1 e.2
    obtain ⟨hp, hm⟩ := ih (nextCnt iv cnt) (off + (encEntry (shOf iv cnt pk e.1) e.1 e.2).length) e.1
    simp only [restartsGo, encAll, layout, List.length_append]
    -- the restart points of the tail lie behind this entry
    have ht : ∀ x ∈ restartsGo iv (nextCnt iv cnt)
        (off + (encEntry (shOf iv cnt pk e.1) e.1 e.2).length) e.1 es, off < x := fun x hx => by
      have := (hm x hx).1
      omega
    refine ⟨List.pairwise_append.mpr ⟨?_, hp, fun a ha b hb => ?_⟩, fun x hx => ?_⟩
    · split
      · exact .nil
      · exact List.pairwise_singleton _ _
    · split at ha
      · cases ha
      · rw [List.mem_singleton.mp ha]; exact ht b hb
    · rcases List.mem_append.mp hx with hx | hx
      · split at hx
        · cases hx
        · rename_i hc
          rw [List.mem_singleton.mp hx]
          exact ⟨Nat.le_refl _, fun h => absurd h hc, by omega, _, List.mem_cons_self, rfl,
            if_neg hc⟩
      · obtain ⟨_, _, h2, e', he', h4⟩ := hm x hx
        exact ⟨Nat.le_of_lt (ht x hx), fun _ => ht x hx, by omega, e',
          List.mem_cons_of_mem _ he', h4⟩

theorem blockBuild_eq (iv : Nat) (es : List (Bytes × Bytes))
    (hk : ∀ e ∈ es, e.1.length < 2 ^ 32 ∧ e.2.length < 2 ^ 32) :
    blockBuild iv es = encAll iv 0 [] es
      ++ (((0 :: restartsGo iv 0 0 [] es).map (fixedEnc 4)).flatten
      ++ fixedEnc 4 (0 :: restartsGo iv 0 0 [] es).length) := by
  have h := blockGenAddAll_eq iv es hk blockGenInit
  unfold blockBuild blockGenFinish
  rw [h.1, h.2]
  simp only [blockGenInit, List.nil_append, List.length_nil, List.singleton_append,
    List.append_assoc]

theorem blockBuild_wf (iv : Nat) (es : List (Bytes × Bytes)) (hiv : 1 ≤ iv)
    (hk : ∀ e ∈ es, e.1.length < 2 ^ 32 ∧ e.2.length < 2 ^ 32)
    (hsz : (blockBuild iv es).length < 2 ^ 32) :
    WfBlock (blockBuild iv es) (encAll iv 0 [] es).length
        ((restartsGo iv 0 0 [] es).length + 1) (layout iv 0 0 [] es) ∧
      entriesOf (blockBuild iv es) (layout iv 0 0 [] es) = es := by
  have hd := blockBuild_eq iv es hk
  generalize blockBuild iv es = data at hd hsz ⊢
  obtain ⟨hchain, hents⟩ := layout_spec iv data es hk [] 0 [] _ hd
  rw [List.length_nil, Nat.zero_add] at hchain
  have hle : (encAll iv 0 [] es).length ≤ data.length := by
    rw [hd, List.length_append]; omega
  have hbnd : ∀ x ∈ restartsGo iv 0 0 [] es, 0 < x ∧ x < 2 ^ 32 := fun x hx => by
    have := (restartsGo_spec iv es 0 0 []).2 x hx
    exact ⟨this.2.1 hiv, by omega⟩
  exact ⟨WfBlock.of_parts data _ _ _ (hd.trans (List.append_assoc _ _ _).symm) hsz hchain
    (List.pairwise_cons.mpr ⟨fun x hx => (hbnd x hx).1, (restartsGo_spec iv es 0 0 []).1⟩)
    (fun x hx => (hbnd x hx).2) (fun x hx => ((restartsGo_spec iv es 0 0 []).2 x hx).2.2.2), hents⟩

theorem blockGenAdd_buffer_ne (iv : Nat) (g : BlockGen) (k v : Bytes) :
    (blockGenAdd iv g k v).buffer.isEmpty = false := by
  have h := varintEnc_length_pos ((if decide (g.counter < iv) = true then sharedLen g.lastKey k else 0) % 2 ^ 32)
  cases hb : (blockGenAdd iv g k v).buffer with
  | nil =>
    have hl : (blockGenAdd iv g k v).buffer.length = 0 := by rw [hb]; rfl
    simp only [blockGenAdd, List.length_append] at hl
    omega
  | cons a as => rfl

theorem blockGenAddAll_snoc (iv : Nat) (g : BlockGen) (cur : List (Bytes × Bytes)) (e : Bytes × Bytes) :
    blockGenAddAll iv g (cur ++ [e]) = blockGenAdd iv (blockGenAddAll iv g cur) e.1 e.2 := by
  unfold blockGenAddAll
  rw [List.foldl_append]; rfl

theorem blockGenAddAll_cons (iv : Nat) (g : BlockGen) (e : Bytes × Bytes) (es : List (Bytes × Bytes)) :
    blockGenAddAll iv g (e :: es) = blockGenAddAll iv (blockGenAdd iv g e.1 e.2) es := rfl

theorem blockGenAddAll_buffer_ne (iv : Nat) (cur : List (Bytes × Bytes)) (h : cur ≠ []) :
    (blockGenAddAll iv blockGenInit cur).buffer.isEmpty = false := by
  rcases List.eq_nil_or_concat cur with h' | ⟨l, e, rfl⟩
  · exact absurd h' h
  · rw [List.concat_eq_append, blockGenAddAll_snoc]; exact blockGenAdd_buffer_ne _ _ _ _

theorem blockGenAdd_interval_irrel (iv iv' : Nat) (g : BlockGen) (k v : Bytes)
    (h : g.counter < iv) (h' : g.counter < iv') :
    blockGenAdd iv g k v = blockGenAdd iv' g k v ∧ (blockGenAdd iv g k v).counter = g.counter + 1 := by
  simp only [blockGenAdd, h, h', decide_true, if_true, and_self]

theorem blockGenAddAll_interval_irrel (iv iv' : Nat) (es : List (Bytes × Bytes)) :
    ∀ g : BlockGen, g.counter + es.length ≤ iv → g.counter + es.length ≤ iv' →
      blockGenAddAll iv g es = blockGenAddAll iv' g es := by
  induction es with
  | nil => intro g _ _; rfl
  | cons e es ih =>
    intro g h h'
    simp only [List.length_cons] at h h'
    obtain ⟨h1, h2⟩ := blockGenAdd_interval_irrel iv iv' g e.1 e.2 (by omega) (by omega)
    rw [blockGenAddAll_cons, blockGenAddAll_cons, ← h1]
    exact ih _ (by rw [h2]; omega) (by rw [h2]; omega)

/-- per entry at most 15 bytes of header (three varint32 of at most 5 bytes: shared, non-shared and
    value length) and 4 bytes of restart point (at most one per entry); 8 = the first restart point
    and the count -/
def blockSizeBound (es : List (Bytes × Bytes)) : Nat :=
  (es.map (fun e => e.1.length + e.2.length + 19)).sum + 8

theorem encEntry_length_le (sh : Nat) (k v : Bytes) (hsh : sh ≤ k.length)
    (hk : k.length < 2 ^ 32) (hv : v.length < 2 ^ 32) :
    (encEntry sh k v).length ≤ k.length + v.length + 15 := by
  have h1 := varintEnc_length_le32 sh (by omega)
  have h2 := varintEnc_length_le32 (k.length - sh) (by omega)
  have h3 := varintEnc_length_le32 v.length hv
  rw [encEntry_length]
  simp only [encHdr, List.length_append]
  omega

theorem encAll_restartsGo_length_le (iv : Nat) (es : List (Bytes × Bytes))
    (hk : ∀ e ∈ es, e.1.length < 2 ^ 32 ∧ e.2.length < 2 ^ 32) :
    ∀ (cnt off : Nat) (pk : Bytes),
      (encAll iv cnt pk es).length + 4 * (restartsGo iv cnt off pk es).length
        ≤ (es.map (fun e => e.1.length + e.2.length + 19)).sum := by
  induction es with
  | nil => intro cnt off pk; exact Nat.le_refl 0
  | cons e es ih =>
    intro cnt off pk
    have he := hk e (List.mem_cons_self)
    have ih' := ih (fun e' h' => hk e' (List.mem_cons_of_mem _ h')) (nextCnt iv cnt)
      (off + (encEntry (shOf iv cnt pk e.1) e.1 e.2).length) e.1
    have h1 := encEntry_length_le (shOf iv cnt pk e.1) e.1 e.2 (shOf_spec iv cnt pk e.1).2.1
      he.1 he.2
    have h2 : (if cnt < iv then [] else [off]).length ≤ 1 := by
      split
      · exact Nat.zero_le 1
      · exact Nat.le_refl 1
    simp only [encAll, restartsGo, List.length_append, List.map_cons, List.sum_cons]
    omega

theorem blockBuild_length_le (iv : Nat) (es : List (Bytes × Bytes))
    (hk : ∀ e ∈ es, e.1.length < 2 ^ 32 ∧ e.2.length < 2 ^ 32) :
    (blockBuild iv es).length ≤ blockSizeBound es := by
  have h := encAll_restartsGo_length_le iv es hk 0 0 []
  rw [blockBuild_eq iv es hk]
  unfold blockSizeBound
  simp only [List.length_append, ← List.flatMap_def, flatMap_fixedEnc4_length, fixedEnc_length,
    List.length_cons]
  omega

theorem blockBuild_small (iv : Nat) (es : List (Bytes × Bytes))
    (hk : ∀ e ∈ es, e.1.length < 2 ^ 32 ∧ e.2.length < 2 ^ 32)
    (h : blockSizeBound es < 2 ^ 32) :
    (blockBuild iv es).length < 2 ^ 32 :=
  Nat.lt_of_le_of_lt (blockBuild_length_le iv es hk) h

example : (blockBuild 2 [([1], [2]), ([1, 2], [3, 4]), ([2], [])]).length < 2 ^ 32 :=
  blockBuild_small 2 _ (by decide) (by decide)

end Lcdb
