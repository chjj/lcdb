/-
  Three-way comparisons that are total preorders (`Cmp3`), on any type, and the constructions that
  keep the laws (reversal, pulling back along a function, lexicographic combination).
  The comparators of the model are built by these constructions from `bytesCmp` and the order of `Nat`
  (`Cmp3.nat`; `ite_lt_gt_eq_then` brings the C idiom for comparing two numbers to that form).
-/
namespace Lcdb

structure Cmp3 {α : Type} (cmp : α → α → Ordering) : Prop where
  refl : ∀ a, cmp a a = .eq
  swap : ∀ a b, cmp b a = (cmp a b).swap
  lt_trans : ∀ a b c, cmp a b = .lt → cmp b c = .lt → cmp a c = .lt
  eq_left : ∀ a b c, cmp a b = .eq → cmp a c = cmp b c

namespace Cmp3
variable {α β : Type} {cmp : α → α → Ordering}

theorem gt_iff (h : Cmp3 cmp) (a b : α) : cmp a b = .gt ↔ cmp b a = .lt := by
  rw [h.swap a b, Ordering.swap_eq_lt]

theorem lt_iff_gt (h : Cmp3 cmp) (a b : α) : cmp a b = .lt ↔ cmp b a = .gt :=
  (h.gt_iff b a).symm

theorem eq_symm (h : Cmp3 cmp) {a b : α} (hab : cmp a b = .eq) : cmp b a = .eq := by
  rw [h.swap a b, hab]; rfl

theorem eq_right (h : Cmp3 cmp) {a b : α} (c : α) (hab : cmp a b = .eq) : cmp c a = cmp c b := by
  rw [h.swap a c, h.swap b c, h.eq_left a b c hab]

theorem flip (h : Cmp3 cmp) : Cmp3 (fun a b => cmp b a) where
  refl := h.refl
  swap := fun a b => h.swap b a
  lt_trans := fun a b c h1 h2 => h.lt_trans c b a h2 h1
  eq_left := fun _ _ c hab => (h.eq_right c hab).symm

theorem eq_trans (h : Cmp3 cmp) {a b c : α} (hab : cmp a b = .eq) (hbc : cmp b c = .eq) :
    cmp a c = .eq := by
  rw [h.eq_left a b c hab]; exact hbc

theorem lt_of_eq_of_lt (h : Cmp3 cmp) {a b c : α} (hab : cmp a b = .eq) (hbc : cmp b c = .lt) :
    cmp a c = .lt := by
  rw [h.eq_left a b c hab]; exact hbc

theorem lt_of_lt_of_eq (h : Cmp3 cmp) {a b c : α} (hab : cmp a b = .lt) (hbc : cmp b c = .eq) :
    cmp a c = .lt :=
  h.flip.lt_of_eq_of_lt hbc hab

theorem gt_trans (h : Cmp3 cmp) {a b c : α} (hab : cmp a b = .gt) (hbc : cmp b c = .gt) :
    cmp a c = .gt :=
  (h.gt_iff a c).mpr (h.lt_trans c b a ((h.gt_iff b c).mp hbc) ((h.gt_iff a b).mp hab))

theorem lt_irrefl (h : Cmp3 cmp) (a : α) : cmp a a ≠ .lt := by
  rw [h.refl a]; decide

theorem lt_asymm (h : Cmp3 cmp) {a b : α} (hab : cmp a b = .lt) : cmp b a ≠ .lt := by
  rw [(h.lt_iff_gt a b).mp hab]; decide

theorem gt_of_lt_of_not_lt (h : Cmp3 cmp) {a b t : α} (hab : cmp a b = .lt) (hat : cmp a t ≠ .lt) :
    cmp b t = .gt := by
  cases hbt : cmp b t with
  | gt => rfl
  | lt => exact absurd (h.lt_trans a b t hab hbt) hat
  | eq => exact absurd (h.lt_of_lt_of_eq hab hbt) hat

theorem lt_of_ne_gt_of_lt (h : Cmp3 cmp) {a b c : α} (hab : cmp a b ≠ .gt) (hbc : cmp b c = .lt) :
    cmp a c = .lt := by
  cases hc : cmp a b with
  | lt => exact h.lt_trans a b c hc hbc
  | eq => exact h.lt_of_eq_of_lt hc hbc
  | gt => exact absurd hc hab

theorem lt_of_lt_of_ne_gt (h : Cmp3 cmp) {a b c : α} (hab : cmp a b = .lt) (hbc : cmp b c ≠ .gt) :
    cmp a c = .lt :=
  h.flip.lt_of_ne_gt_of_lt hbc hab

theorem ne_gt_trans (h : Cmp3 cmp) {a b c : α} (hab : cmp a b ≠ .gt) (hbc : cmp b c ≠ .gt) :
    cmp a c ≠ .gt := by
  cases hc : cmp b c with
  | lt => rw [h.lt_of_ne_gt_of_lt hab hc]; decide
  | eq => rw [← h.eq_right a hc]; exact hab
  | gt => exact absurd hc hbc

theorem comap (h : Cmp3 cmp) (f : β → α) : Cmp3 (fun x y => cmp (f x) (f y)) where
  refl := fun x => h.refl (f x)
  swap := fun x y => h.swap (f x) (f y)
  lt_trans := fun x y z => h.lt_trans (f x) (f y) (f z)
  eq_left := fun x y z => h.eq_left (f x) (f y) (f z)

theorem lex {cmp' : β → β → Ordering} (h : Cmp3 cmp) (h' : Cmp3 cmp') :
    Cmp3 (fun (p q : α × β) => (cmp p.1 q.1).then (cmp' p.2 q.2)) where
  refl := fun p => by rw [h.refl, h'.refl]; rfl
  swap := fun p q => by rw [Ordering.swap_then, ← h.swap, ← h'.swap]
  lt_trans := fun p q r h1 h2 => by
    rw [Ordering.then_eq_lt] at *
    rcases h1 with h1 | ⟨e1, h1⟩ <;> rcases h2 with h2 | ⟨e2, h2⟩
    · exact .inl (h.lt_trans _ _ _ h1 h2)
    · exact .inl (h.lt_of_lt_of_eq h1 e2)
    · exact .inl (h.lt_of_eq_of_lt e1 h2)
    · exact .inr ⟨h.eq_trans e1 e2, h'.lt_trans _ _ _ h1 h2⟩
  eq_left := fun p q r hpq => by
    obtain ⟨e1, e2⟩ := Ordering.then_eq_eq.mp hpq
    rw [h.eq_left _ _ _ e1, h'.eq_left _ _ _ e2]

theorem nat : Cmp3 (compare : Nat → Nat → Ordering) where
  refl := fun _ => Nat.compare_eq_eq.mpr rfl
  swap := fun a b => (Nat.compare_swap a b).symm
  lt_trans := fun _ _ _ h1 h2 =>
    Nat.compare_eq_lt.mpr (Nat.lt_trans (Nat.compare_eq_lt.mp h1) (Nat.compare_eq_lt.mp h2))
  eq_left := fun _ _ _ h => by rw [Nat.compare_eq_eq.mp h]

end Cmp3

theorem ite_lt_gt_eq_then (m n : Nat) (o : Ordering) :
    (if m < n then .lt else if n < m then .gt else o) = (compare m n).then o := by
  split
  · rename_i h; rw [Nat.compare_eq_lt.mpr h]; rfl
  · split
    · rename_i h; rw [Nat.compare_eq_gt.mpr h]; rfl
    · rw [Nat.compare_eq_eq.mpr (by omega)]; rfl

end Lcdb
