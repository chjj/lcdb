/-
  The 15-byte header window handed to `decodeEntryWin` is unobservable.
-/
import LcdbModel.Lemmas.BlockBuild
import LcdbModel.Props.CodingProps
namespace Lcdb

/-- 15: three varint reads of at most five bytes each -/
theorem decodeSlow_take (win : Bytes) (n xn : Nat) (hn : 15 ≤ n) :
    decodeSlow (win.take n) xn = decodeSlow win xn := by
  by_cases hle : win.length ≤ n
  · rw [List.take_of_length_le hle]
  obtain ⟨d, hd⟩ : ∃ d, win.length = n + d := ⟨win.length - n, by omega⟩
  rw [show n = win.length - d by omega]
  unfold decodeSlow
  rw [varint32Read_dropEnd win d (by omega)]
  cases h1 : varint32Read win with
  | none => rfl
  | some p1 =>
    obtain ⟨s, r1⟩ := p1
    obtain ⟨u1, c1⟩ := varint32Read_used win s r1 h1
    dsimp only [Option.map_some]
    rw [varint32Read_dropEnd r1 d (by omega)]
    cases h2 : varint32Read r1 with
    | none => rfl
    | some p2 =>
      obtain ⟨ns, r2⟩ := p2
      obtain ⟨u2, c2⟩ := varint32Read_used r1 ns r2 h2
      dsimp only [Option.map_some]
      rw [varint32Read_dropEnd r2 d (by omega)]
      cases h3 : varint32Read r2 with
      | none => rfl
      | some p3 =>
        obtain ⟨vl, r3⟩ := p3
        obtain ⟨u3, c3⟩ := varint32Read_used r2 vl r3 h3
        dsimp only [Option.map_some]
        rw [List.length_take_of_le (Nat.sub_le _ d), List.length_take_of_le (Nat.sub_le _ d),
          Nat.sub_sub_sub_cancel_right (by omega : d ≤ r3.length)]

theorem decodeEntryWin_take (win : Bytes) (n xn : Nat) (hn : 15 ≤ n) :
    decodeEntryWin (win.take n) xn = decodeEntryWin win xn := by
  by_cases h3 : 3 ≤ win.length
  · rw [decodeEntryWin_eq_slow _ _ (by rw [List.length_take]; omega),
      decodeEntryWin_eq_slow _ _ h3, decodeSlow_take win n xn hn]
  · rw [List.take_of_length_le (by omega)]

theorem decodeEntry_eq_whole (data : Bytes) (p limit : Nat) :
    decodeEntry data p limit =
      if limit < p then .bad
      else if limit - p < 3 then .bad
      else if data.length < limit then .fault
      else
        match decodeEntryWin ((data.drop p).take (limit - p)) (limit - p) with
        | none => .bad
        | some (s, ns, vl, hdr) => .ok s ns vl (p + hdr) := by
  unfold decodeEntry
  by_cases h1 : limit < p
  · simp only [h1, if_true]
  · by_cases h2 : limit - p < 3
    · simp only [h1, h2, if_true, if_false]
    · by_cases h3 : data.length < limit
      · simp only [h1, h2, h3, if_true, if_false]
      · simp only [h1, h2, h3, if_false]
        have ht : decodeEntryWin ((data.drop p).take (min (limit - p) 15)) (limit - p)
            = decodeEntryWin ((data.drop p).take (limit - p)) (limit - p) := by
          by_cases h15 : limit - p ≤ 15
          · rw [Nat.min_eq_left h15]
          · rw [← decodeEntryWin_take ((data.drop p).take (limit - p)) 15 _ (Nat.le_refl _), List.take_take,
              Nat.min_eq_right (Nat.le_of_not_le h15), Nat.min_eq_left (Nat.le_of_not_le h15)]
        rw [ht]
        cases decodeEntryWin ((data.drop p).take (limit - p)) (limit - p) with
        | none => rfl
        | some q => obtain ⟨s, ns, vl, hdr⟩ := q; rfl

end Lcdb
