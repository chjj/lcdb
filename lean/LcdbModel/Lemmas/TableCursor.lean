/-
  Readers of a well-formed table file (`TableWF o file es`) behave like a cursor / lookup over
  the entry list `es` — for any block partition, compression choice and valid separators.
  What `tableLayout` and `Layout.Good` say about the blocks makes a well-formed file an instance
  of the two-level context (`Layout.Good.twoCtx`).

  (lookups: TableCursorGet.lean)
-/
import LcdbModel.Lemmas.TableTwoLevel
import LcdbModel.Lemmas.TableRead
import LcdbModel.Lemmas.TableSep
import LcdbModel.Lemmas.TableSafety
namespace Lcdb

theorem blkInfo_some {file : Bytes} {ie : Bytes × Bytes} {b : BlkInfo}
    (h : blkInfo file ie = some b) :
    b.sep = ie.1 ∧ b.hv = ie.2 ∧ (∃ r, handleRead b.hv = some (b.handle, r)) ∧
      readBlock file b.handle.offset b.handle.size true = .ok b.contents ∧
      blockParse b.contents = some b.entries := by
  unfold blkInfo at h
  split at h
  · cases h
  · rename_i hd r h1
    split at h
    · cases h
    · rename_i c h2
      split at h
      · cases h
      · rename_i es h3
        cases h
        exact ⟨rfl, rfl, ⟨r, h1⟩, h2, h3⟩

theorem blkInfos_some {file : Bytes} {ixs : List (Bytes × Bytes)} {bs : List BlkInfo}
    (h : blkInfos file ixs = some bs) :
    ixs = ixsOf bs ∧ ∀ b ∈ bs, blkInfo file (b.sep, b.hv) = some b := by
  fun_induction blkInfos file ixs generalizing bs with
  | case1 => cases h; exact ⟨rfl, fun b hb => by cases hb⟩
  | case2 ie rest b bs' h2 h1 ih =>
    cases h
    obtain ⟨e1, e2⟩ := ih h2
    obtain ⟨s1, s2, _⟩ := blkInfo_some h1
    have hie : ie = (b.sep, b.hv) := by rw [s1, s2]
    refine ⟨by rw [e1, hie]; rfl, fun b' hb' => ?_⟩
    rcases List.mem_cons.mp hb' with rfl | hb'
    · rw [← hie]; exact h1
    · exact e2 b' hb'
  | case3 => cases h

theorem tableLayout_some {file : Bytes} {L : Layout} (h : tableLayout file = some L) :
    ¬ file.length < footerSize ∧
    footerDecode (pread file (file.length - footerSize) footerSize) = some L.footer ∧
    readBlock file L.footer.index.offset L.footer.index.size true = .ok L.index ∧
    ∃ ixs, blockParse L.index = some ixs ∧ blkInfos file ixs = some L.blocks := by
  unfold tableLayout at h
  split at h
  · cases h
  · rename_i h0
    split at h
    · cases h
    · rename_i ft h1
      split at h
      · cases h
      · rename_i idx h2
        split at h
        · cases h
        · rename_i ixs h3
          split at h
          · cases h
          · rename_i bs h4
            cases h
            exact ⟨h0, h1, h2, ixs, h3, h4⟩

theorem tableLayout_blocks {file : Bytes} {L : Layout} (h : tableLayout file = some L) :
    ∀ b ∈ L.blocks, blkInfo file (b.sep, b.hv) = some b := by
  obtain ⟨_, _, _, ixs, _, h4⟩ := tableLayout_some h
  exact (blkInfos_some h4).2

theorem blkInfo_hv_inj {file : Bytes} {b b' : BlkInfo}
    (h : blkInfo file (b.sep, b.hv) = some b) (h' : blkInfo file (b'.sep, b'.hv) = some b')
    (heq : b.hv = b'.hv) : b.contents = b'.contents ∧ b.entries = b'.entries := by
  obtain ⟨_, _, ⟨r, hr⟩, hrd, hp⟩ := blkInfo_some h
  obtain ⟨_, _, ⟨r', hr'⟩, hrd', hp'⟩ := blkInfo_some h'
  rw [heq, hr'] at hr
  simp only [Option.some.injEq, Prod.mk.injEq] at hr
  obtain ⟨hh, _⟩ := hr
  rw [← hh, hrd'] at hrd
  simp only [Except.ok.injEq] at hrd
  rw [← hrd, hp'] at hp
  simp only [Option.some.injEq] at hp
  exact ⟨hrd.symm, hp.symm⟩

theorem blockReader_of_blkInfo {t : Table} {b : BlkInfo} (verify : Bool)
    (h : blkInfo t.file (b.sep, b.hv) = some b) :
    blockReader t verify b.hv = some (.opened (blockIterCreate b.contents)) := by
  obtain ⟨_, _, ⟨r, hr⟩, hrd, _⟩ := blkInfo_some h
  unfold blockReader
  simp only [hr, readBlock_any_verify hrd verify]

theorem sepsOk_getElem {c : Cmp} {bs : List BlkInfo} {i : Nat} {b : BlkInfo}
    (h : sepsOk c bs) (hb : bs[i]? = some b) :
    sepOk c (lastKeyOf b.entries) b.sep ((bs[i + 1]?).map fun b' => firstKeyOf b'.entries) := by
  fun_induction sepsOk c bs generalizing i with
  | case1 => cases hb
  | case2 b0 =>
    cases i with
    | zero => cases hb; exact h
    | succ i => cases hb
  | case3 b0 b1 rest ih =>
    cases i with
    | zero => cases hb; exact h.1
    | succ i => exact ih h.2 hb

section
variable {o : TableOpts} {file : Bytes} {es : List (Bytes × Bytes)} {L : Layout}

theorem Layout.Good.index_canon (hg : L.Good o file es) :
    CanonBlock L.index (L.blocks.map fun b => (b.sep, b.hv)) := hg.1

theorem Layout.Good.index_size (hg : L.Good o file es) : L.index.length < 2 ^ 32 := hg.2.1

theorem Layout.Good.hv_size (hg : L.Good o file es) {b : BlkInfo} (hb : b ∈ L.blocks) :
    b.hv.length < 2 ^ 32 := (hg.2.2.1 b hb).1

theorem Layout.Good.block_canon (hg : L.Good o file es) {b : BlkInfo} (hb : b ∈ L.blocks) :
    CanonBlock b.contents b.entries := (hg.2.2.1 b hb).2.1

theorem Layout.Good.nonempty (hg : L.Good o file es) {b : BlkInfo} (hb : b ∈ L.blocks) :
    b.entries ≠ [] := (hg.2.2.1 b hb).2.2.1

theorem Layout.Good.block_size (hg : L.Good o file es) {b : BlkInfo} (hb : b ∈ L.blocks) :
    b.contents.length < 2 ^ 32 := (hg.2.2.1 b hb).2.2.2

theorem Layout.Good.entries_eq (hg : L.Good o file es) : es = L.blocks.flatMap (·.entries) :=
  hg.2.2.2.1

theorem Layout.Good.entry_sizes (hg : L.Good o file es) {e : Bytes × Bytes} (he : e ∈ es) :
    8 ≤ e.1.length ∧ e.1.length < 2 ^ 32 ∧ e.2.length < 2 ^ 32 := hg.2.2.2.2.1 e he

theorem Layout.Good.sorted (hg : L.Good o file es) : SortedKeys (ikeyCmp o.cmp) (es.map (·.1)) :=
  hg.2.2.2.2.2.1

theorem Layout.Good.seps (hg : L.Good o file es) : sepsOk o.cmp L.blocks := hg.2.2.2.2.2.2.1

theorem Layout.Good.meta_readable (hg : L.Good o file es) : metaReadable o file L :=
  hg.2.2.2.2.2.2.2.1

theorem Layout.Good.filter_covers (hg : L.Good o file es) :
    ∀ paranoid, filterCovers o file L paranoid
  | true => hg.2.2.2.2.2.2.2.2.1
  | false => hg.2.2.2.2.2.2.2.2.2

theorem Layout.Good.es_eq (hg : L.Good o file es) : es = (partsOf L.blocks).flatten := by
  rw [hg.entries_eq, List.flatMap_def]; rfl

theorem Layout.Good.mem_es (hg : L.Good o file es) {b : BlkInfo} (hb : b ∈ L.blocks)
    {e : Bytes × Bytes} (he : e ∈ b.entries) : e ∈ es := by
  rw [hg.entries_eq]
  exact List.mem_flatMap.mpr ⟨b, hb, he⟩

theorem Layout.Good.block_sorted (hg : L.Good o file es) {b : BlkInfo} (hb : b ∈ L.blocks) :
    SortedKeys (ikeyCmp o.cmp) (b.entries.map (·.1)) := by
  have hsub : b.entries.Sublist es := by
    rw [hg.es_eq]
    exact List.sublist_flatten_of_mem (List.mem_map.mpr ⟨b, hb, rfl⟩)
  exact List.Pairwise.sublist (hsub.map _) hg.sorted

theorem Layout.Good.sepOk_at (hg : L.Good o file es) {i : Nat} {b : BlkInfo}
    (hb : L.blocks[i]? = some b) :
    sepOk o.cmp (lastKeyOf b.entries) b.sep
      ((L.blocks[i + 1]?).map fun b' => firstKeyOf b'.entries) :=
  sepsOk_getElem hg.seps hb

theorem Layout.Good.le_sep (hg : L.Good o file es) {b : BlkInfo} (hb : b ∈ L.blocks)
    {e : Bytes × Bytes} (he : e ∈ b.entries) : ikeyCmp o.cmp e.1 b.sep ≠ .gt := by
  obtain ⟨i, hi, rfl⟩ := List.getElem_of_mem hb
  have h1 := (hg.sepOk_at (List.getElem?_eq_getElem hi)).2.2.1
  exact (cmp3_ikeyCmp o.cmp).ne_gt_trans
    (le_lastKeyOf (ordLaws_ikeyCmp o.cmp) (hg.block_sorted hb) he) h1

theorem Layout.Good.sep_lt_head (hg : L.Good o file es) {i : Nat} {b b' : BlkInfo}
    (hb : L.blocks[i]? = some b) (hb' : L.blocks[i + 1]? = some b') {e : Bytes × Bytes}
    (he : b'.entries.head? = some e) : ikeyCmp o.cmp b.sep e.1 = .lt := by
  have h1 := (hg.sepOk_at hb).2.2.2.1 (firstKeyOf b'.entries) (by simp [hb'])
  rw [firstKeyOf_head he] at h1
  exact h1

theorem Layout.Good.index_sorted (hg : L.Good o file es) :
    SortedKeys (ikeyCmp o.cmp) ((ixsOf L.blocks).map (·.1)) := by
  have hl := ordLaws_ikeyCmp o.cmp
  have hp : L.blocks.Pairwise fun b b' => ikeyCmp o.cmp b.sep b'.sep = .lt := by
    refine pairwise_of_neighbours (fun a b c => hl.lt_trans a.sep b.sep c.sep) fun i b b' hb hb' => ?_
    have hne := hg.nonempty (List.mem_of_getElem? hb')
    exact hl.cmp3.lt_of_lt_of_ne_gt (hg.sep_lt_head hb hb' (List.head?_eq_some_head hne))
      (hg.le_sep (List.mem_of_getElem? hb') (List.head_mem hne))
  rw [SortedKeys, ixsOf, List.map_map]
  exact List.pairwise_map.mpr hp

theorem Layout.Good.twoCtx (hL : tableLayout file = some L) (hg : L.Good o file es) (t : Table)
    (htf : t.file = file) (verify : Bool) :
    TwoCtx (mkBlockCmp o.cmp true) (blockReader t verify) L.index L.blocks := by
  have hblk := tableLayout_blocks hL
  refine
    { ictx := ?_, bctx := ?_, nonempty := fun b hb => hg.nonempty hb, read := ?_, hvinj := ?_,
      le_sep := fun b hb e he => hg.le_sep hb he,
      sep_lt := fun i b b' hb hb' e he => hg.sep_lt_head hb hb' he,
      keys8 := fun b hb e he => (hg.entry_sizes (hg.mem_es hb he)).1 }
  · refine
      { canon := hg.index_canon, sizes := ?_, total := hg.index_size, laws := ordLaws_ikeyCmp o.cmp,
        sorted := hg.index_sorted, ikeys := ?_ }
    · intro e he
      obtain ⟨b, hb, rfl⟩ := List.mem_map.mp he
      obtain ⟨i, hi, rfl⟩ := List.getElem_of_mem hb
      exact ⟨(hg.sepOk_at (List.getElem?_eq_getElem hi)).2.1, hg.hv_size hb⟩
    · intro _ e he
      obtain ⟨b, hb, rfl⟩ := List.mem_map.mp he
      obtain ⟨i, hi, rfl⟩ := List.getElem_of_mem hb
      exact (hg.sepOk_at (List.getElem?_eq_getElem hi)).1
  · intro b hb
    exact
      { canon := hg.block_canon hb
        sizes := fun e he => (hg.entry_sizes (hg.mem_es hb he)).2
        total := hg.block_size hb
        laws := ordLaws_ikeyCmp o.cmp
        sorted := hg.block_sorted hb
        ikeys := fun _ e he => (hg.entry_sizes (hg.mem_es hb he)).1 }
  · intro b hb
    exact blockReader_of_blkInfo verify (by rw [htf]; exact hblk b hb)
  · intro b hb b' hb' heq
    exact blkInfo_hv_inj (hblk b hb) (hblk b' hb') heq

end

theorem table_open_wf (o : TableOpts) (file : Bytes) (es : List (Bytes × Bytes))
    (hwf : TableWF o file es) (paranoid : Bool) :
    ∃ t L, tableLayout file = some L ∧ L.Good o file es ∧ tableOpen o file paranoid = .ok t ∧
      t.opts = o ∧ t.file = file ∧ t.index = L.index ∧
      readMeta o file paranoid L.footer = .ok t.filter := by
  unfold TableWF at hwf
  cases hL : tableLayout file with
  | none => simp [hL] at hwf
  | some L =>
    simp only [hL] at hwf
    obtain ⟨h0, h1, h2, _⟩ := tableLayout_some hL
    obtain ⟨flt, hflt⟩ := readMeta_ok o file paranoid L.footer
    refine ⟨{ opts := o, file := file, index := L.index, filter := flt,
              metaindex := L.footer.metaindex }, L, rfl, hwf, ?_, rfl, rfl, rfl, hflt⟩
    unfold tableOpen
    simp only [h0, if_false, h1, readBlock_any_verify h2 paranoid, hflt]

theorem TableWF.nofilter {o : TableOpts} {file : Bytes} {es : List (Bytes × Bytes)}
    (hwf : TableWF o file es) : TableWF { o with filterBits := none } file es := by
  unfold TableWF at hwf ⊢
  cases hL : tableLayout file with
  | none => rw [hL] at hwf; exact hwf.elim
  | some L =>
    rw [hL] at hwf
    obtain ⟨h1, h2, h3, h4, h5, h6, h7, h8, _, _⟩ := hwf
    have hff : findFilterHandle { o with filterBits := none } file true L.footer = .ok none := rfl
    refine ⟨h1, h2, h3, h4, h5, h6, h7, ⟨h8.1, ?_⟩, ?_, ?_⟩
    · rw [hff]; trivial
    · unfold filterCovers; exact trivial
    · unfold filterCovers; exact trivial

theorem table_ctx {o : TableOpts} {file : Bytes} {es : List (Bytes × Bytes)}
    (hwf : TableWF o file es) {t : Table} {paranoid : Bool} (verify : Bool)
    (ht : tableOpen o file paranoid = .ok t) :
    ∃ L, tableLayout file = some L ∧ L.Good o file es ∧ t.opts = o ∧
      t.index = L.index ∧ readMeta o file paranoid L.footer = .ok t.filter ∧
      TwoCtx (mkBlockCmp o.cmp true) (blockReader t verify) L.index L.blocks ∧
      tableIterOps t verify
        = twoIterOps (mkBlockCmp o.cmp true) (blockReader t verify) (L.index.length + 2) ∧
      TwoR L.index L.blocks (tableIterCreate t) none ∧
      keysOf L.blocks = es.map (·.1) := by
  obtain ⟨t', L, hL, hg, ht', ho, hf, hi, hm⟩ := table_open_wf o file es hwf paranoid
  rw [ht] at ht'
  cases ht'
  have hctx := hg.twoCtx hL t hf verify
  refine ⟨L, hL, hg, ho, hi, hm, hctx, ?_, ?_, ?_⟩
  · unfold tableIterOps Table.cmpB skipFuel
    rw [ho, hi]
  · refine ⟨rfl, ?_, rfl⟩
    show BlockAt L.index (ixsOf L.blocks) (blockIterCreate t.index) none
    rw [hi]
    exact hctx.ictx.create
  · unfold keysOf
    rw [← hg.es_eq]

theorem table_is_cursor (o : TableOpts) (file : Bytes) (es : List (Bytes × Bytes))
    (hwf : TableWF o file es) (t : Table) (paranoid verify : Bool)
    (ht : tableOpen o file paranoid = .ok t) (ops : List BlockOp) (hops : TOpsOk ops) :
    ∃ it p, (tableIterOps t verify).run ops (tableIterCreate t) = some it ∧
      (cursorOps (ikeyCmp o.cmp) (es.map (·.1))).run ops none = some p ∧
      it.getStatus = .ok ∧ OnPosT es it p := by
  obtain ⟨L, hL, hg, ho, hi, _, hctx, hops', hinit, hkeys⟩ := table_ctx hwf verify ht
  obtain ⟨it, p, h1, h2, hr⟩ := (hctx.sim L.index.length).run ops hops _ _ hinit
  obtain ⟨hst, hpos⟩ := hr.obs hctx
  rw [← hg.es_eq] at hpos
  rw [hkeys] at h2
  exact ⟨it, p, by rw [hops']; exact h1, h2, hst, hpos⟩

theorem table_seek_first_ge (o : TableOpts) (file : Bytes) (es : List (Bytes × Bytes))
    (hwf : TableWF o file es) (t : Table) (paranoid verify : Bool)
    (ht : tableOpen o file paranoid = .ok t) (ops : List BlockOp) (hops : TOpsOk ops)
    (target : Bytes) (ht8 : 8 ≤ target.length) :
    ∃ it, (tableIterOps t verify).run (ops ++ [.seek target]) (tableIterCreate t) = some it ∧
      it.getStatus = .ok ∧
      OnPosT es it ((es.map (·.1)).findIdx? (fun k => ikeyCmp o.cmp k target != .lt)) := by
  obtain ⟨L, hL, hg, ho, hi, _, hctx, hops', hinit, hkeys⟩ := table_ctx hwf verify ht
  obtain ⟨it1, p1, h1, _, hr1⟩ := (hctx.sim L.index.length).run ops hops _ _ hinit
  obtain ⟨it2, h2, hr2⟩ := hctx.seek_sim L.index.length hr1 target ht8
  obtain ⟨hst, hpos⟩ := hr2.obs hctx
  rw [← hg.es_eq, hkeys] at hpos
  refine ⟨it2, ?_, hst, hpos⟩
  rw [IterOps.run_append, hops', h1]
  simp only [Option.bind, IterOps.run, IterOps.apply, twoIterOps, h2]

theorem scanGo_spec {o : TableOpts} {es : List (Bytes × Bytes)} {t : Table} {verify : Bool}
    {L : Layout}
    (hctx : TwoCtx (mkBlockCmp o.cmp true) (blockReader t verify) L.index L.blocks)
    (hops : tableIterOps t verify
        = twoIterOps (mkBlockCmp o.cmp true) (blockReader t verify) (L.index.length + 2))
    (hes : es = (partsOf L.blocks).flatten) :
    ∀ (fuel k : Nat) (it : TwoIter) (acc : List (Bytes × Bytes)), k ≤ es.length →
      es.length < k + fuel →
      TwoR L.index L.blocks it (if k < es.length then some k else none) →
      scanGo t verify fuel it acc
        = some { entries := acc.reverse ++ es.drop k, status := .ok, complete := true } := by
  intro fuel
  induction fuel with
  | zero => intro k it acc hk hf _; omega
  | succ fuel ih =>
    intro k it acc hk hf hr
    obtain ⟨hst, hpos⟩ := hr.obs hctx
    rw [← hes] at hpos
    unfold scanGo
    by_cases hkl : k < es.length
    · simp only [hkl, if_true] at hr hpos
      obtain ⟨_, hv, hkey, hval⟩ := hpos
      obtain ⟨it', e1, hr'⟩ := hctx.step_sim .fwd L.index.length hr
      have hlen : (keysOf L.blocks).length = es.length := by
        unfold keysOf; rw [List.length_map, hes]
      rw [hlen] at hr'
      have e1' : (tableIterOps t verify).next it = some it' := by rw [hops]; exact e1
      simp only [hv, if_true, e1']
      rw [ih (k + 1) it' _ (by omega) (by omega) hr']
      rw [hkey, hval]
      simp only [List.reverse_cons, List.append_assoc, List.singleton_append]
      rw [List.drop_eq_getElem_cons hkl]
    · simp only [hkl, if_false] at hr hpos
      have hv : it.valid = false := hpos
      have : k = es.length := by omega
      simp [hv, hst, this]

theorem table_scan (o : TableOpts) (file : Bytes) (es : List (Bytes × Bytes))
    (hwf : TableWF o file es) (t : Table) (paranoid verify : Bool)
    (ht : tableOpen o file paranoid = .ok t) (n : Nat) (hn : es.length < n) :
    tableIterAll t verify n = some { entries := es, status := .ok, complete := true } := by
  obtain ⟨L, hL, hg, ho, hi, _, hctx, hops', hinit, hkeys⟩ := table_ctx hwf verify ht
  obtain ⟨it, e1, hr⟩ := hctx.edge_sim .fwd L.index.length hinit
  have e1' : (tableIterOps t verify).first (tableIterCreate t) = some it := by
    rw [hops']; exact e1
  unfold tableIterAll
  simp only [e1']
  have hr' : TwoR L.index L.blocks it (if 0 < es.length then some 0 else none) := by
    rw [hkeys, List.length_map] at hr
    -- `Way.edge` tests `length = 0`
    cases es with
    | nil => exact hr
    | cons e es => exact hr
  rw [scanGo_spec hctx hops' hg.es_eq n 0 it [] (by omega) (by omega) hr']
  simp

theorem tOpsOk_first_nexts (k : Nat) : TOpsOk (.first :: List.replicate k .next) := by
  intro op hop x hx
  simp only [List.mem_cons, List.mem_replicate] at hop
  rcases hop with rfl | ⟨_, rfl⟩ <;> cases hx

theorem table_scan_status (o : TableOpts) (file : Bytes) (es : List (Bytes × Bytes))
    (hwf : TableWF o file es) (t : Table) (paranoid verify : Bool)
    (ht : tableOpen o file paranoid = .ok t) (n : Nat) (r : ScanResult)
    (h : tableIterAll t verify n = some r) : r.status = .ok := by
  obtain ⟨k, hk⟩ := tableIterAll_status_run t verify n
  obtain ⟨it, p, h1, _, hst, _⟩ := table_is_cursor o file es hwf t paranoid verify ht
    (.first :: List.replicate k .next) (tOpsOk_first_nexts k)
  rw [h, h1] at hk
  exact (Option.some.inj hk).trans hst

end Lcdb
