/-
  The merging iterator (`Model/MergeIter.lean`, merger.c) over children that are cursors over
  strictly sorted runs with pairwise distinct internal keys IS a cursor over the sorted union
  `mergedRun c runs`.

  One argument serves both directions.  A cut is a down-closed set of entries; in a sorted run it
  is the first `cutIdx` entries (`cutIdx`, `toPos`, `predPos`: Lemmas/ListBasic.lean; the run cursor
  in these terms: Lemmas/IterSim.lean).  A forward cursor at a cut stands on the first entry after
  it, a reverse cursor on the last entry before it (`cutPos`).  The invariant `MergeRel`: every child
  stands at the cut at the current entry, and so does the reference cursor over the merged run;
  every operation moves all of them to one new cut, and the picker (find_smallest / find_largest)
  then selects the child that shows what the reference cursor shows (`establish`).

  Whatever the children hold, the merging iterator never faults (`CurValid`).

  The picker compares by `entryCmp`, sortedness is stated in `entryLt`; `Lemmas/IkOrder` has both as
  one order, with the lemmas that pass between them.
-/
import LcdbModel.Lemmas.LsmSteps
import LcdbModel.Lemmas.IterSim
namespace Lcdb.Merge
open Lcdb Lcdb.Lsm Lcdb.CmpBasic Lcdb.RunCursor

theorem mergedRun_perm (c : Cmp) (runs : List Run) : (mergedRun c runs).Perm runs.flatten :=
  foldl_insert_perm (runInsert_perm c) runs.flatten []

theorem mergedRun_length (c : Cmp) (runs : List Run) :
    (mergedRun c runs).length = (runs.map List.length).sum := by
  rw [(mergedRun_perm c runs).length_eq, List.length_flatten]

theorem mergedRun_sorted (c : Cmp) (runs : List Run) (hd : DistinctKeys c runs) :
    RunSorted c (mergedRun c runs) := by
  unfold mergedRun mkRun
  exact foldl_runInsert_sorted .nil
    (hd.imp fun hne hlt => Bool.of_not_eq_false fun h => hne ((entryCmp_eq_iff c _ _).mpr ⟨h, hlt⟩)) nofun

theorem mem_mergedRun {c : Cmp} {runs : List Run} {e : Entry} :
    e ∈ mergedRun c runs ↔ ∃ r ∈ runs, e ∈ r := by
  rw [(mergedRun_perm c runs).mem_iff, List.mem_flatten]

def flip : Dir → Dir
  | .forward => .reverse
  | .reverse => .forward

def cutPos : Dir → Nat → Nat → Option Nat
  | .forward, n, len => toPos n len
  | .reverse, n, _ => predPos n

/-- the cut at which a cursor of direction `d` showing `E` stands: the entries before `E`, and `E`
    itself when the cursor moves in reverse -/
def cutAt (c : Cmp) : Dir → Entry → Entry → Bool
  | .forward, E, e => entryLt c e E
  | .reverse, E, e => !entryLt c E e

def dirLt (c : Cmp) : Dir → Entry → Entry → Bool
  | .forward, a, b => entryLt c a b
  | .reverse, a, b => entryLt c b a

def movePos : Dir → Run → Option Nat → Option (Option Nat)
  | .forward => runNext
  | .reverse => runPrev

theorem runFirst_cut (r : Run) : runFirst r = cutPos .forward (cutIdx (fun _ => false) r) r.length := by
  cases r <;> simp [runFirst, cutPos, toPos, cutIdx, List.findIdx_cons]

theorem runLast_cut (r : Run) : runLast r = cutPos .reverse (cutIdx (fun _ => true) r) r.length := by
  rw [cutIdx_eq (Nat.le_refl _) (fun _ _ => rfl) (fun h => absurd h (Nat.lt_irrefl _))]
  exact runLast_eq r

theorem entry_cutPos {d : Dir} {P : Entry → Bool} {r : Run} {e : Entry}
    (h : runEntry r (cutPos d (cutIdx P r) r.length) = some e) : e ∈ r ∧ (P e = true ↔ d = .reverse) := by
  obtain ⟨n, hn, hp, rfl⟩ := runEntry_eq_some h
  refine ⟨List.getElem_mem _, ?_⟩
  cases d with
  | forward =>
    have hat := cutIdx_at (P := P) ((toPos_eq_some.mp hp).1 ▸ hn)
    simp only [(toPos_eq_some.mp hp).1] at hat
    simp [hat]
  | reverse =>
    have hlt : n < cutIdx P r := by rw [predPos_eq_some.mp hp]; exact Nat.lt_succ_self n
    simp [cutIdx_before hlt]

theorem cutPos_of_entry_none {d : Dir} {P : Entry → Bool} {r : Run}
    (h : runEntry r (cutPos d (cutIdx P r) r.length) = none) : cutPos d (cutIdx P r) r.length = none := by
  cases hp : cutPos d (cutIdx P r) r.length with
  | none => rfl
  | some n =>
    have hn : n < r.length := by
      cases d with
      | forward => exact (toPos_eq_some.mp hp).2
      | reverse =>
        have := predPos_eq_some.mp hp
        have := cutIdx_le (P := P) (l := r)
        omega
    rw [hp, runEntry, Option.bind_some, List.getElem?_eq_getElem hn] at h
    cases h

theorem cutIdx_below_self {c : Cmp} {r : Run} (hs : RunSorted c r) {n : Nat} (hn : n < r.length) :
    cutIdx (cutAt c .forward r[n]) r = n :=
  cutIdx_eq (Nat.le_of_lt hn) (fun _ hj => (sorted_lt_iff hs _ _).mpr hj)
    (fun _ => entryLt_irrefl _ _)

theorem cutIdx_upto_self {c : Cmp} {r : Run} (hs : RunSorted c r) {n : Nat} (hn : n < r.length) :
    cutIdx (cutAt c .reverse r[n]) r = n + 1 := by
  apply cutIdx_eq hn
  · intro j hj
    have : entryLt c r[n] (r[j]'(by omega)) = false := (sorted_not_lt_iff hs _ _).mpr (by omega)
    simp [cutAt, this]
  · intro h
    have : entryLt c r[n] r[n + 1] = true := (sorted_lt_iff hs _ _).mpr (by omega)
    simp [cutAt, this]

theorem entry_cutAt_self {c : Cmp} {r : Run} (hs : RunSorted c r) {E : Entry} (hE : E ∈ r) (d : Dir) :
    runEntry r (cutPos d (cutIdx (cutAt c d E) r) r.length) = some E := by
  obtain ⟨n, hn, rfl⟩ := List.mem_iff_getElem.mp hE
  cases d with
  | forward => rw [cutIdx_below_self hs hn]; simp [cutPos, toPos, hn, runEntry]
  | reverse => rw [cutIdx_upto_self hs hn]; simp [cutPos, predPos, hn, runEntry]

theorem movePos_at {c : Cmp} {r : Run} (hs : RunSorted c r) {n : Nat} (hn : n < r.length) (d : Dir) :
    movePos d r (some n) = some (cutPos d (cutIdx (cutAt c (flip d) r[n]) r) r.length) := by
  cases d with
  | forward => rw [flip, cutIdx_upto_self hs hn]; simp [movePos, runNext, hn, cutPos, toPos]
  | reverse =>
    rw [flip, cutIdx_below_self hs hn]
    simp only [movePos, runPrev, hn, if_true, cutPos]
    cases n <;> rfl

theorem cutAt_down (c : Cmp) (d : Dir) (E : Entry) {a b : Entry} (hab : entryLt c a b = true)
    (hb : cutAt c d E b = true) : cutAt c d E a = true := by
  cases d with
  | forward => exact Lsm.entryLt_trans c hab hb
  | reverse =>
    simp only [cutAt, Bool.not_eq_true'] at hb ⊢
    cases h : entryLt c E a with
    | false => rfl
    | true => rw [Lsm.entryLt_trans c h hab] at hb; cases hb

theorem cutAt_other {c : Cmp} {E : Entry} {r : Run} (hne : ∀ e ∈ r, entryCmp c E e ≠ .eq) (d d' : Dir) :
    cutIdx (cutAt c d E) r = cutIdx (cutAt c d' E) r := by
  apply cutIdx_congr
  intro e he
  have h : entryLt c e E = !entryLt c E e := by
    cases h1 : entryLt c E e with
    | true => exact entryLt_asymm c h1
    | false =>
      cases h2 : entryLt c e E with
      | true => rfl
      | false => exact absurd ((entryCmp_eq_iff c E e).mpr ⟨h1, h2⟩) (hne e he)
  cases d <;> cases d'
  · rfl
  · exact h
  · exact h.symm
  · rfl

section downClosed
variable {c : Cmp} {r : Run} (hs : RunSorted c r) {P : Entry → Bool}
  (hP : ∀ a b, entryLt c a b = true → P b = true → P a = true)
include hs hP

theorem cut_least {d : Dir} {e : Entry} (he : e ∈ r) (hPe : P e = true ↔ d = .reverse) :
    ∃ E, runEntry r (cutPos d (cutIdx P r) r.length) = some E ∧ dirLt c d e E = false := by
  obtain ⟨m, hm, rfl⟩ := List.mem_iff_getElem.mp he
  rw [lt_cutIdx_iff (hs.imp (hP _ _)) hm] at hPe
  cases d with
  | forward =>
    have hle : cutIdx P r ≤ m := Nat.le_of_not_lt (fun h => nomatch hPe.mp h)
    have hlt : cutIdx P r < r.length := Nat.lt_of_le_of_lt hle hm
    exact ⟨r[cutIdx P r], by simp [cutPos, toPos, hlt, runEntry], (sorted_not_lt_iff hs hm hlt).mpr hle⟩
  | reverse =>
    have hlt : m < cutIdx P r := hPe.mpr rfl
    obtain ⟨n, hn⟩ : ∃ n, cutIdx P r = n + 1 := ⟨cutIdx P r - 1, by omega⟩
    have hnl : n < r.length := by have := cutIdx_le (P := P) (l := r); omega
    exact ⟨r[n], by simp [cutPos, predPos, hn, hnl, runEntry], (sorted_not_lt_iff hs hnl hm).mpr (by omega)⟩

theorem cut_eq_cutAt {d : Dir} {E : Entry} (hE : runEntry r (cutPos d (cutIdx P r) r.length) = some E) :
    ∀ e ∈ r, P e = cutAt c d E e := by
  obtain ⟨n, hn, hp, rfl⟩ := runEntry_eq_some hE
  intro e he
  obtain ⟨j, hj, rfl⟩ := List.mem_iff_getElem.mp he
  rw [Bool.eq_iff_iff, lt_cutIdx_iff (hs.imp (hP _ _)) hj]
  cases d with
  | forward => rw [(toPos_eq_some.mp hp).1]; exact (sorted_lt_iff hs hj hn).symm
  | reverse =>
    rw [predPos_eq_some.mp hp]
    show j < n + 1 ↔ (!entryLt c r[n] r[j]) = true
    rw [Bool.not_eq_true', sorted_not_lt_iff hs hn hj]
    omega

end downClosed

theorem distinct_cross {c : Cmp} {runs : List Run} (hd : DistinctKeys c runs) {i j : Nat}
    {r r' : Run} (hi : runs[i]? = some r) (hj : runs[j]? = some r') (hne : i ≠ j) {a b : Entry}
    (ha : a ∈ r) (hb : b ∈ r') : entryCmp c a b ≠ .eq := by
  have hp := List.pairwise_iff_getElem.mp (List.pairwise_flatten.mp hd).2
  obtain ⟨hi', rfl⟩ := List.getElem?_eq_some_iff.mp hi
  obtain ⟨hj', rfl⟩ := List.getElem?_eq_some_iff.mp hj
  rcases Nat.lt_or_gt_of_ne hne with h | h
  · exact hp i j hi' hj' h a ha b hb
  · exact entryCmp_ne_symm c (hp j i hj' hi' h b hb a ha)

theorem pickGo_append (better : Entry → Entry → Bool) (l' : List (Nat × MChild)) :
    ∀ (l : List (Nat × MChild)) (acc : Option (Nat × Entry)),
      pickGo better (l ++ l') acc = pickGo better l' (pickGo better l acc)
  | [], _ => rfl
  | (_, _) :: l, _ => pickGo_append better l' l _

/-- Stated for the scan of `l.reverse`, so that the induction on `l` adds the child visited last and the accumulator
    need not be generalised: what was picked before stays the best unless the new child is strictly `better`. -/
theorem pickGo_spec {better : Entry → Entry → Bool} (irrefl : ∀ a, better a a = false)
    (trans : ∀ a b d, better a b = true → better b d = true → better a d = true) (l : List (Nat × MChild)) :
    match pickGo better l.reverse none with
    | none => ∀ p ∈ l, p.2.entry = none
    | some (i, e) => (∃ ch, (i, ch) ∈ l ∧ ch.entry = some e) ∧
        ∀ p ∈ l, ∀ e', p.2.entry = some e' → better e' e = false := by
  induction l with
  | nil => exact nofun
  | cons p l ih =>
    obtain ⟨i0, ch⟩ := p
    rw [List.reverse_cons, pickGo_append]
    simp only [pickGo]
    generalize pickGo better l.reverse none = r at ih ⊢
    have hcons : ∀ {i e}, (∃ ch', (i, ch') ∈ l ∧ ch'.entry = some e) →
        ∃ ch', (i, ch') ∈ (i0, ch) :: l ∧ ch'.entry = some e :=
      fun ⟨ch', hm, he'⟩ => ⟨ch', List.mem_cons_of_mem _ hm, he'⟩
    cases he : ch.entry with
    | none =>
      rcases r with _ | ⟨j, m⟩
      · exact List.forall_mem_cons.mpr ⟨he, ih⟩
      · exact ⟨hcons ih.1, List.forall_mem_cons.mpr ⟨fun _ h' => (nomatch he.symm.trans h'), ih.2⟩⟩
    | some e0 =>
      have hhead : ∀ {e}, better e0 e = false → ∀ e', ch.entry = some e' → better e' e = false :=
        fun h0 e' h' => by rw [he] at h'; cases h'; exact h0
      have hsrc : ∃ ch', (i0, ch') ∈ (i0, ch) :: l ∧ ch'.entry = some e0 := ⟨ch, List.mem_cons_self, he⟩
      rcases r with _ | ⟨j, m⟩
      · exact ⟨hsrc, List.forall_mem_cons.mpr ⟨hhead (irrefl e0), fun p hp _ h' => nomatch (ih p hp).symm.trans h'⟩⟩
      · by_cases hb : better e0 m = true
        · simp only [hb, if_true]
          refine ⟨hsrc, List.forall_mem_cons.mpr ⟨hhead (irrefl e0), fun p hp e' h' => ?_⟩⟩
          cases hlt : better e' e0 with
          | false => rfl
          | true => rw [← ih.2 p hp e' h', trans _ _ _ hlt hb]
        · simp only [hb]
          exact ⟨hcons ih.1, List.forall_mem_cons.mpr ⟨hhead (Bool.eq_false_iff.mpr hb), ih.2⟩⟩

theorem getElem?_indexed (chs : List MChild) (i : Nat) :
    (indexed chs)[i]? = chs[i]?.map (fun ch => (i, ch)) := by
  cases h : chs[i]? with
  | none =>
    rw [Option.map_none, List.getElem?_eq_none_iff] at *
    simp only [indexed, List.length_zip, List.length_range]
    omega
  | some ch =>
    rw [Option.map_some]
    have hlt : i < chs.length := getElem?_lt h
    unfold indexed
    rw [List.getElem?_zip_eq_some]
    exact ⟨by simp [List.getElem?_range hlt], h⟩

theorem mem_indexed {chs : List MChild} {i : Nat} {ch : MChild} :
    (i, ch) ∈ indexed chs ↔ chs[i]? = some ch := by
  simp only [List.mem_iff_getElem?, getElem?_indexed, Option.map_eq_some_iff, Prod.mk.injEq]
  constructor
  · rintro ⟨n, ch', h, rfl, rfl⟩
    exact h
  · intro h
    exact ⟨i, ch, h, rfl, rfl⟩

def pick (c : Cmp) : Dir → List MChild → Option Nat
  | .forward => findSmallest c
  | .reverse => findLargest c

/-- Both directions are one `pickGo` over the indexed children, one of them from the other end.  `pickGo_spec` speaks of a
    reversed list and its users read members only, hence `∃ l` with the same members. -/
theorem pick_eq (c : Cmp) (d : Dir) (chs : List MChild) :
    ∃ l, (∀ p, p ∈ l ↔ p ∈ indexed chs) ∧ pick c d chs = (pickGo (dirLt c d) (List.reverse l) none).map (·.1) := by
  cases d with
  | forward =>
    have h : dirLt c .forward = fun e m => entryCmp c e m == .lt :=
      funext fun e => funext fun m => entryLt_eq_cmp c e m
    exact ⟨(indexed chs).reverse, fun _ => List.mem_reverse, by rw [h, List.reverse_reverse]; rfl⟩
  | reverse =>
    have h : dirLt c .reverse = fun e m => entryCmp c e m == .gt :=
      funext fun e => funext fun m => entryLt_swap_eq_cmp c e m
    exact ⟨indexed chs, fun _ => Iff.rfl, by rw [h]; rfl⟩

theorem dirLt_irrefl (c : Cmp) (d : Dir) (a : Entry) : dirLt c d a a = false := by
  cases d <;> exact entryLt_irrefl c a

theorem dirLt_trans (c : Cmp) (d : Dir) (a b e : Entry) (h1 : dirLt c d a b = true)
    (h2 : dirLt c d b e = true) : dirLt c d a e = true := by
  cases d with
  | forward => exact Lsm.entryLt_trans c h1 h2
  | reverse => exact Lsm.entryLt_trans c h2 h1

theorem pick_none {c : Cmp} {d : Dir} {chs : List MChild} (h : pick c d chs = none) :
    ∀ ch ∈ chs, ch.entry = none := by
  obtain ⟨l, hl, hp⟩ := pick_eq c d chs
  have hs := pickGo_spec (dirLt_irrefl c d) (dirLt_trans c d) l
  rw [hp, Option.map_eq_none_iff] at h
  rw [h] at hs
  intro ch hch
  obtain ⟨i, hi⟩ := List.getElem?_of_mem hch
  exact hs (i, ch) ((hl _).mpr (mem_indexed.mpr hi))

theorem pick_some {c : Cmp} {d : Dir} {chs : List MChild} {i : Nat} (h : pick c d chs = some i) :
    ∃ ch e, chs[i]? = some ch ∧ ch.entry = some e ∧
      ∀ ch' ∈ chs, ∀ e', ch'.entry = some e' → dirLt c d e' e = false := by
  obtain ⟨l, hl, hp⟩ := pick_eq c d chs
  have hs := pickGo_spec (dirLt_irrefl c d) (dirLt_trans c d) l
  rw [hp, Option.map_eq_some_iff] at h
  obtain ⟨⟨i', e⟩, h, rfl⟩ := h
  rw [h] at hs
  obtain ⟨⟨ch, hm, he⟩, hbest⟩ := hs
  refine ⟨ch, e, mem_indexed.mp ((hl _).mp hm), he, fun ch' hch' e' he' => ?_⟩
  obtain ⟨j, hj⟩ := List.getElem?_of_mem hch'
  exact hbest (j, ch') ((hl _).mpr (mem_indexed.mpr hj)) e' he'

/-- relation between a merging-iterator state and a position in `mergedRun c runs`.
    Invalid cursor: `current = none` (only first/last/seek apply, they re-position every child).
    Cursor on `E = (mergedRun c runs)[g]`: `current` is a child whose entry is `E`, and every child stands at the cut
    at `E` of the direction: forward at its first entry not before `E`, in reverse at its last entry
    not after `E`. -/
def MergeRel (c : Cmp) (runs : List Run) (mi : MergeIter) (p : Option Nat) : Prop :=
  mi.children.map (·.run) = runs ∧ (∀ ch ∈ mi.children, ch.st = .ok) ∧
  match p with
  | none => mi.current = none
  | some g => ∃ E i0 ch0, (mergedRun c runs)[g]? = some E ∧ mi.current = some i0 ∧
      mi.children[i0]? = some ch0 ∧ ch0.entry = some E ∧
      ∀ ch ∈ mi.children, ch.pos = cutPos mi.dir (cutIdx (cutAt c mi.dir E) ch.run) ch.run.length

theorem mergeRel_create (c : Cmp) (runs : List Run) :
    MergeRel c runs (mergeCreate (runs.map fun r => { run := r, st := .ok, pos := none })) none := by
  refine ⟨?_, ?_, rfl⟩
  · simp [mergeCreate, List.map_map, Function.comp_def]
  · intro ch hch
    simp only [mergeCreate, List.mem_map] at hch
    obtain ⟨r, _, rfl⟩ := hch
    rfl

section ctx
variable {c : Cmp} {runs : List Run}

theorem child_run_idx {chs : List MChild} (hruns : chs.map (·.run) = runs) {i : Nat} {ch : MChild}
    (h : chs[i]? = some ch) : runs[i]? = some ch.run := by
  rw [← hruns, List.getElem?_map, h]; rfl

theorem child_run_mem {chs : List MChild} (hruns : chs.map (·.run) = runs) {ch : MChild}
    (h : ch ∈ chs) : ch.run ∈ runs := by
  rw [← hruns]; exact List.mem_map_of_mem h

theorem child_sub {chs : List MChild} (hruns : chs.map (·.run) = runs) {ch : MChild}
    (h : ch ∈ chs) {e : Entry} (he : e ∈ ch.run) : e ∈ mergedRun c runs :=
  mem_mergedRun.mpr ⟨_, child_run_mem hruns h, he⟩

theorem child_has {chs : List MChild} (hruns : chs.map (·.run) = runs) {E : Entry}
    (hE : E ∈ mergedRun c runs) : ∃ (i0 : Nat) (ch0 : MChild), chs[i0]? = some ch0 ∧ E ∈ ch0.run := by
  obtain ⟨r, hr, hEr⟩ := mem_mergedRun.mp hE
  rw [← hruns, List.mem_map] at hr
  obtain ⟨ch0, hch0, rfl⟩ := hr
  obtain ⟨i0, hi0⟩ := List.getElem?_of_mem hch0
  exact ⟨i0, ch0, hi0, hEr⟩

theorem establish (hs : ∀ r ∈ runs, RunSorted c r) (hd : DistinctKeys c runs) (d : Dir)
    (P : Entry → Bool) (hP : ∀ a b, entryLt c a b = true → P b = true → P a = true)
    (chs : List MChild) (hruns : chs.map (·.run) = runs) (hst : ∀ ch ∈ chs, ch.st = .ok)
    (hpos : ∀ ch ∈ chs, ch.pos = cutPos d (cutIdx P ch.run) ch.run.length) :
    MergeRel c runs { children := chs, current := pick c d chs, dir := d }
      (cutPos d (cutIdx P (mergedRun c runs)) (mergedRun c runs).length) := by
  have hU := mergedRun_sorted c runs hd
  refine ⟨hruns, hst, ?_⟩
  have hc : ∀ E, runEntry (mergedRun c runs) (cutPos d (cutIdx P (mergedRun c runs))
      (mergedRun c runs).length) = some E → ∀ ch ∈ chs, cutIdx P ch.run = cutIdx (cutAt c d E) ch.run :=
    fun E hE ch hch => cutIdx_congr fun e he => cut_eq_cutAt hU hP hE e (child_sub hruns hch he)
  have hshow : ∀ E, runEntry (mergedRun c runs) (cutPos d (cutIdx P (mergedRun c runs))
      (mergedRun c runs).length) = some E → ∃ ch0 ∈ chs, ch0.entry = some E := by
    intro E hE
    obtain ⟨i0, ch0, hi0, hE0⟩ := child_has hruns (entry_cutPos hE).1
    have hch0 := List.mem_of_getElem? hi0
    refine ⟨ch0, hch0, ?_⟩
    rw [MChild.entry, hpos ch0 hch0, hc E hE ch0 hch0]
    exact entry_cutAt_self (hs _ (child_run_mem hruns hch0)) hE0 d
  cases hf : pick c d chs with
  | none =>
    cases hE : runEntry (mergedRun c runs) (cutPos d (cutIdx P (mergedRun c runs)) (mergedRun c runs).length) with
    | none => rw [cutPos_of_entry_none hE]
    | some E =>
      obtain ⟨ch0, hch0, h0⟩ := hshow E hE
      rw [pick_none hf ch0 hch0] at h0; cases h0
  | some i1 =>
    -- the entry picked is on the cursor's side of the cut, so the merged cursor shows an entry, which
    -- is not after it; some child shows that entry, so it is not before the one picked either
    obtain ⟨ch1, e1, hi1, he1, hmin⟩ := pick_some hf
    have hch1 := List.mem_of_getElem? hi1
    have he1' := he1
    rw [MChild.entry, hpos ch1 hch1] at he1'
    obtain ⟨hmem1, hP1⟩ := entry_cutPos he1'
    have hU1 := child_sub (c := c) hruns hch1 hmem1
    obtain ⟨E, hE, hle⟩ := cut_least hU hP hU1 hP1
    obtain ⟨ch0, hch0, h0⟩ := hshow E hE
    obtain ⟨a, ha, rfl⟩ := List.mem_iff_getElem.mp hU1
    obtain ⟨b, hb, hpb, rfl⟩ := runEntry_eq_some hE
    have hab : a = b := by
      have h2 := hmin ch0 hch0 _ h0
      cases d with
      | forward =>
        exact Nat.le_antisymm ((sorted_not_lt_iff hU hb ha).mp h2) ((sorted_not_lt_iff hU ha hb).mp hle)
      | reverse =>
        exact Nat.le_antisymm ((sorted_not_lt_iff hU hb ha).mp hle) ((sorted_not_lt_iff hU ha hb).mp h2)
    subst hab
    rw [hpb]
    exact ⟨_, i1, ch1, List.getElem?_eq_getElem ha, rfl, hi1, he1, fun ch hch => by
      rw [hpos ch hch, hc _ hE ch hch]⟩

theorem set_run_eq {chs : List MChild} (hruns : chs.map (·.run) = runs) {i0 : Nat} {ch0 ch0' : MChild}
    (h0 : chs[i0]? = some ch0) (hr : ch0'.run = ch0.run) : (chs.set i0 ch0').map (·.run) = runs := by
  rw [← hruns]
  apply List.ext_getElem?
  intro j
  rw [List.getElem?_map, List.getElem?_map, List.getElem?_set]
  split
  · rename_i hij
    subst hij
    obtain ⟨hlt, hget⟩ := List.getElem?_eq_some_iff.mp h0
    simp [hlt, hr, hget]
  · rfl

theorem getElem?_set_cases {chs : List MChild} {i0 j : Nat} {ch0' ch : MChild}
    (h : (chs.set i0 ch0')[j]? = some ch) : (j = i0 ∧ ch = ch0') ∨ (j ≠ i0 ∧ chs[j]? = some ch) := by
  rw [List.getElem?_set] at h
  split at h
  · rename_i hij
    split at h
    · cases h; exact .inl ⟨hij.symm, rfl⟩
    · cases h
  · rename_i hij
    exact .inr ⟨fun h' => hij h'.symm, h⟩

def childMove : Dir → MChild → Option MChild
  | .forward => MChild.next
  | .reverse => MChild.prev

theorem childMove_eq (d : Dir) (ch : MChild) :
    childMove d ch = (movePos d ch.run ch.pos).map fun p => { ch with pos := p } := by
  cases d <;> rfl

theorem childMove_some (d : Dir) {ch : MChild} {e : Entry} (h : ch.entry = some e) :
    ∃ ch', childMove d ch = some ch' := by
  obtain ⟨i, hi, hp, _⟩ := runEntry_eq_some h
  cases d <;> simp [childMove, MChild.next, MChild.prev, runNext, runPrev, hp, hi]

theorem mapOthers_eq (f : MChild → Option MChild) (g : MChild → MChild) (cur : Nat)
    (l : List (Nat × MChild)) (h : ∀ p ∈ l, p.1 ≠ cur → f p.2 = some (g p.2)) :
    MergeIter.mapOthers f cur l = some (l.map fun p => if p.1 = cur then p.2 else g p.2) := by
  induction l with
  | nil => rfl
  | cons p rest ih =>
    obtain ⟨i, ch⟩ := p
    have ih' := ih (fun p hp => h p (List.mem_cons_of_mem _ hp))
    simp only [MergeIter.mapOthers, ih', List.map_cons]
    by_cases hi : i = cur
    · simp [hi]
    · have := h (i, ch) List.mem_cons_self hi
      simp only at this
      simp [hi, this]

theorem mapOthers_eq_set (f : MChild → Option MChild) (g : MChild → MChild) {cur : Nat}
    {chs : List MChild} {ch0 : MChild} (h0 : chs[cur]? = some ch0)
    (h : ∀ i ch, chs[i]? = some ch → i ≠ cur → f ch = some (g ch)) :
    MergeIter.mapOthers f cur (indexed chs) = some ((chs.map g).set cur ch0) := by
  rw [mapOthers_eq f g cur _ fun p hp hne => h p.1 p.2 (mem_indexed.mp hp) hne]
  congr 1
  apply List.ext_getElem?
  intro i
  rw [List.getElem?_map, getElem?_indexed, List.getElem?_set, List.getElem?_map]
  by_cases hi : cur = i
  · subst hi
    obtain ⟨hlt, hget⟩ := List.getElem?_eq_some_iff.mp h0
    simp [hlt, hget]
  · have hi' : i ≠ cur := fun h' => hi h'.symm
    cases chs[i]? <;> simp [hi, hi']

def repos (c : Cmp) : Dir → Entry → MChild → Option MChild
  | .forward => MergeIter.reposFwd c
  | .reverse => MergeIter.reposRev c

/-- the `== .eq` branch of `reposFwd` cannot fire under distinctness -/
theorem repos_eq (d : Dir) {E : Entry} {ch : MChild} (hne : ∀ e ∈ ch.run, entryCmp c E e ≠ .eq) :
    repos c d E ch =
      some { ch with pos := cutPos d (cutIdx (cutAt c .forward E) ch.run) ch.run.length } := by
  have hseek : ch.seek c E.ukey E.packed =
      { ch with pos := cutPos .forward (cutIdx (cutAt c .forward E) ch.run) ch.run.length } :=
    congrArg (fun p => { ch with pos := p }) (runSeekIdx_eq c E.ukey E.packed ch.run)
  cases d with
  | forward =>
    simp only [repos, MergeIter.reposFwd]
    split
    · rename_i e he
      obtain ⟨n, hn, _, hnE⟩ := runEntry_eq_some he
      have hmem : e ∈ ch.run := hnE ▸ List.getElem_mem (l := (MChild.seek c E.ukey E.packed ch).run) hn
      simp [hne e hmem, hseek]
    · rw [hseek]
  | reverse =>
    simp only [repos, MergeIter.reposRev, hseek, MChild.valid, MChild.entry, cutPos]
    by_cases hlt : cutIdx (cutAt c .forward E) ch.run < ch.run.length
    · have hv : (runEntry ch.run (toPos (cutIdx (cutAt c .forward E) ch.run) ch.run.length)).isSome
          = true := by
        simp [toPos, hlt, runEntry]
      rw [if_pos hv]
      simp only [MChild.prev, toPos, hlt, if_true, runPrev, Option.map_some]
      cases cutIdx (cutAt c .forward E) ch.run <;> rfl
    · have hv : (runEntry ch.run (toPos (cutIdx (cutAt c .forward E) ch.run) ch.run.length)).isSome
          = false := by
        simp [toPos, hlt, runEntry]
      rw [hv, Nat.le_antisymm cutIdx_le (Nat.le_of_not_lt hlt)]
      simp only [Bool.false_eq_true, if_false, MChild.last, runLast]
      cases ch.run <;> rfl

def move (c : Cmp) : Dir → MergeIter → Option MergeIter
  | .forward => MergeIter.next c
  | .reverse => MergeIter.prev c

theorem move_eq (d : Dir) {mi : MergeIter} {cur : Nat} {key : Entry} (hcur : mi.current = some cur)
    (hkey : mi.entry = some key) {chs1 chs2 : List MChild}
    (h1 : (if mi.dir = d then some mi.children
      else MergeIter.mapOthers (repos c d key) cur (indexed mi.children)) = some chs1)
    (h2 : MergeIter.stepChild (childMove d) cur chs1 = some chs2) :
    move c d mi = some { children := chs2, current := pick c d chs2, dir := d } := by
  -- `h1`, read for each value of `mi.dir`, is the outcome of the direction test and the re-positioning
  -- in `MergeIter.next` / `MergeIter.prev`
  cases d with
  | forward =>
    have h2' : MergeIter.stepChild MChild.next cur chs1 = some chs2 := h2
    cases hdir : mi.dir <;> simp [hdir, repos] at h1 <;>
      simp [move, MergeIter.next, hcur, hkey, hdir, h1, h2', pick]
  | reverse =>
    have h2' : MergeIter.stepChild MChild.prev cur chs1 = some chs2 := h2
    cases hdir : mi.dir <;> simp [hdir, repos] at h1 <;>
      simp [move, MergeIter.prev, hcur, hkey, hdir, h1, h2', pick]

theorem move_fn (d : Dir) {mi : MergeIter} {cur : Nat} {ch0 : MChild} {E : Entry}
    (hcur : mi.current = some cur) (h0 : mi.children[cur]? = some ch0) (he0 : ch0.entry = some E)
    (g : MChild → MChild)
    (hg : ∀ i ch, mi.children[i]? = some ch → i ≠ cur → repos c d E ch = some (g ch)) :
    ∃ ch0' chs2, childMove d ch0 = some ch0' ∧
      chs2 = (if mi.dir = d then mi.children else mi.children.map g).set cur ch0' ∧
      move c d mi = some { children := chs2, current := pick c d chs2, dir := d } := by
  obtain ⟨ch0', hn⟩ := childMove_some d he0
  have hent : mi.entry = some E := by simp [MergeIter.entry, MergeIter.cur, hcur, h0, he0]
  refine ⟨ch0', _, hn, rfl, ?_⟩
  by_cases hdir : mi.dir = d
  · rw [if_pos hdir]
    exact move_eq d hcur hent (if_pos hdir) (by simp [MergeIter.stepChild, h0, hn])
  · rw [if_neg hdir]
    have hlen : cur < (mi.children.map g).length := by rw [List.length_map]; exact getElem?_lt h0
    refine move_eq d hcur hent ((if_neg hdir).trans (mapOthers_eq_set (repos c d E) g h0 hg)) ?_
    rw [MergeIter.stepChild, List.getElem?_set_self hlen]
    simp only [hn, Option.map_some, List.set_set]

end ctx

theorem mergeRel_observe {c : Cmp} {runs : List Run} {mi : MergeIter} {p : Option Nat}
    (h : MergeRel c runs mi p) :
    mi.valid = (runEntry (mergedRun c runs) p).isSome ∧ mi.entry = runEntry (mergedRun c runs) p ∧
      mi.status = .ok := by
  obtain ⟨_, hst, hp⟩ := h
  have hstatus : mi.status = .ok := by
    unfold MergeIter.status
    have : mi.children.find? (fun ch => ch.st != .ok) = none := by
      rw [List.find?_eq_none]
      intro ch hch
      simp [hst ch hch]
    rw [this]
  cases p with
  | none =>
    simp only at hp
    simp [MergeIter.valid, MergeIter.entry, MergeIter.cur, hp, runEntry, hstatus]
  | some g =>
    obtain ⟨E, i0, ch0, hE, hcur, h0, he0, _⟩ := hp
    simp [MergeIter.valid, MergeIter.entry, MergeIter.cur, hcur, h0, he0, runEntry, hE, hstatus]

section sim
variable {c : Cmp} {runs : List Run} (hs : ∀ r ∈ runs, RunSorted c r) (hd : DistinctKeys c runs)
include hs hd

theorem establish_map (d : Dir) (P : Entry → Bool)
    (hP : ∀ a b, entryLt c a b = true → P b = true → P a = true) (f : MChild → MChild)
    (pos : Run → Option Nat) (hf : ∀ ch, f ch = { ch with pos := pos ch.run })
    (hpos : ∀ r, pos r = cutPos d (cutIdx P r) r.length) {mi : MergeIter} {p : Option Nat}
    (h : MergeRel c runs mi p) :
    MergeRel c runs { children := mi.children.map f, current := pick c d (mi.children.map f), dir := d }
      (pos (mergedRun c runs)) := by
  rw [hpos]
  apply establish hs hd d P hP
  · rw [List.map_map, ← h.1]
    exact List.map_congr_left fun ch _ => by rw [Function.comp_apply, hf]
  · intro ch hch
    obtain ⟨ch0, hch0, rfl⟩ := List.mem_map.mp hch
    rw [hf]
    exact h.2.1 ch0 hch0
  · intro ch hch
    obtain ⟨ch0, _, rfl⟩ := List.mem_map.mp hch
    rw [hf]
    exact hpos ch0.run

theorem move_sim (d : Dir) {mi : MergeIter} {p : Option Nat} (h : MergeRel c runs mi p)
    (hv : mi.valid = true) :
    ∃ mi' p', move c d mi = some mi' ∧ movePos d (mergedRun c runs) p = some p' ∧
      MergeRel c runs mi' p' := by
  obtain ⟨hruns, hst, hp⟩ := h
  cases p with
  | none => rw [MergeIter.valid, show mi.current = none from hp] at hv; cases hv
  | some g =>
    obtain ⟨E, i0, ch0, hE, hcur, h0, he0, hpos⟩ := hp
    obtain ⟨hg, hgE⟩ := List.getElem?_eq_some_iff.mp hE
    obtain ⟨n, hn, hpos0, hnE⟩ := runEntry_eq_some he0
    have hch0 := List.mem_of_getElem? h0
    have hE0 : E ∈ ch0.run := hnE ▸ List.getElem_mem _
    have hoth : ∀ i ch, mi.children[i]? = some ch → i ≠ i0 → ∀ e ∈ ch.run, entryCmp c E e ≠ .eq :=
      fun i ch hi hne e he =>
        distinct_cross hd (child_run_idx hruns h0) (child_run_idx hruns hi) (Ne.symm hne) hE0 he
    -- on a change of direction the other children are brought to the cut below `E` (they stand
    -- there already when the direction is kept)
    obtain ⟨ch0', chs2, hmv, rfl, hm⟩ := move_fn d hcur h0 he0
      (fun ch => { ch with pos := cutPos d (cutIdx (cutAt c .forward E) ch.run) ch.run.length })
      (fun i ch hi hne => repos_eq d (hoth i ch hi hne))
    -- the current child steps off `E`, to the cut just past it
    have hch0' : ch0' =
        { ch0 with pos := cutPos d (cutIdx (cutAt c (flip d) E) ch0.run) ch0.run.length } := by
      have hm0 := movePos_at (hs _ (child_run_mem hruns hch0)) hn d
      rw [hnE] at hm0
      rw [childMove_eq, hpos0, hm0] at hmv
      exact (Option.some.inj hmv).symm
    subst hch0'
    have hmU := movePos_at (mergedRun_sorted c runs hd) hg d
    rw [hgE] at hmU
    refine ⟨_, _, hm, hmU, ?_⟩
    -- every other child also stands at the cut just past `E`: it does not hold `E`
    apply establish hs hd d (cutAt c (flip d) E) (fun _ _ => cutAt_down c _ _)
    · split
      · exact set_run_eq hruns h0 rfl
      · refine set_run_eq (i0 := i0)
          (ch0 := { ch0 with pos := cutPos d (cutIdx (cutAt c .forward E) ch0.run) ch0.run.length }) ?_
          (by rw [List.getElem?_map, h0]; rfl) rfl
        rw [List.map_map]
        exact hruns
    · intro ch hch
      rcases List.mem_or_eq_of_mem_set hch with h | rfl
      · split at h
        · exact hst ch h
        · obtain ⟨ch1, hch1, rfl⟩ := List.mem_map.mp h
          exact hst ch1 hch1
      · exact hst ch0 hch0
    · intro ch hch
      obtain ⟨j, hj⟩ := List.getElem?_of_mem hch
      rcases getElem?_set_cases hj with ⟨_, rfl⟩ | ⟨hne, hj'⟩
      · rfl
      · split at hj'
        · rename_i hdir
          rw [hpos ch (List.mem_of_getElem? hj'), hdir, cutAt_other (hoth j ch hj' hne) d (flip d)]
        · rw [List.getElem?_map] at hj'
          obtain ⟨ch1, hj1, rfl⟩ := Option.map_eq_some_iff.mp hj'
          show cutPos d (cutIdx (cutAt c .forward E) ch1.run) _ = _
          rw [cutAt_other (hoth j ch1 hj1 hne) .forward (flip d)]

end sim

theorem merge_sim (c : Cmp) (runs : List Run) (hs : ∀ r ∈ runs, RunSorted c r)
    (hd : DistinctKeys c runs) :
    InternalIter.Sim (mergeIterI c) (runIter c (mergedRun c runs)) (MergeRel c runs) where
  valid _ _ h := (mergeRel_observe h).1
  entry _ _ h := (mergeRel_observe h).2.1
  status _ _ h := (mergeRel_observe h).2.2
  first _ _ h := ⟨_, _, rfl, rfl, establish_map hs hd .forward (fun _ => false) (fun _ _ _ h => h)
    MChild.first runFirst (fun _ => rfl) runFirst_cut h⟩
  last _ _ h := ⟨_, _, rfl, rfl, establish_map hs hd .reverse (fun _ => true) (fun _ _ _ _ => rfl)
    MChild.last runLast (fun _ => rfl) runLast_cut h⟩
  seek k pk _ _ h := ⟨_, _, rfl, rfl, establish_map hs hd .forward (fun e => ikLt c e.ukey e.packed k pk)
    (fun _ _ h1 h2 => Lsm.ikLt_trans c h1 h2) (MChild.seek c k pk) (runSeekIdx c · k pk) (fun _ => rfl)
    (runSeekIdx_eq c k pk) h⟩
  next _ _ h hv := move_sim hs hd .forward h hv
  prev _ _ h hv := move_sim hs hd .reverse h hv

/-
  The merging iterator never faults, whatever its children hold (unsorted runs, the same key in
  several children, error children): `current`, when set, always designates a valid child, so the
  `ldb_wrapiter_next/prev(mi->current)` and `key()` uses of merger.c are safe, and the
  re-positioning of the other children only calls `next`/`prev` on children it has just found valid.
-/

def CurValid (mi : MergeIter) : Prop :=
  ∀ i, mi.current = some i → ∃ ch e, mi.children[i]? = some ch ∧ ch.entry = some e

theorem curValid_pick (c : Cmp) (d : Dir) {chs : List MChild} {d' : Dir} :
    CurValid { children := chs, current := pick c d chs, dir := d' } := by
  intro i h
  obtain ⟨ch, e, h1, h2, _⟩ := pick_some (c := c) h
  exact ⟨ch, e, h1, h2⟩

theorem repos_some (c : Cmp) (d : Dir) (E : Entry) (ch : MChild) : ∃ ch', repos c d E ch = some ch' := by
  cases d with
  | forward =>
    simp only [repos, MergeIter.reposFwd]
    cases he : (MChild.seek c E.ukey E.packed ch).entry with
    | none => exact ⟨_, rfl⟩
    | some e =>
      simp only
      split
      · exact childMove_some .forward he
      · exact ⟨_, rfl⟩
  | reverse =>
    simp only [repos, MergeIter.reposRev]
    by_cases hv : (MChild.seek c E.ukey E.packed ch).valid = true
    · obtain ⟨e, he⟩ := Option.isSome_iff_exists.mp hv
      rw [if_pos hv]
      exact childMove_some .reverse he
    · exact ⟨_, if_neg hv⟩

theorem move_total (c : Cmp) (d : Dir) (mi : MergeIter) (h : CurValid mi) (hv : mi.valid = true) :
    ∃ mi', move c d mi = some mi' ∧ CurValid mi' := by
  obtain ⟨cur, hc⟩ := Option.isSome_iff_exists.mp hv
  obtain ⟨ch, e, h1, h2⟩ := h cur hc
  obtain ⟨_, _, _, _, hm⟩ := move_fn (c := c) d hc h1 h2 (fun ch => (repos c d e ch).getD ch)
    (fun _ ch' _ _ => by obtain ⟨ch'', h⟩ := repos_some c d e ch'; simp [h])
  exact ⟨_, hm, curValid_pick c d⟩

/-- `CurValid` is kept and nothing faults: the iterator simulates itself on the states satisfying it -/
theorem total_sim (c : Cmp) :
    InternalIter.Sim (mergeIterI c) (mergeIterI c) (fun a b => a = b ∧ CurValid a) where
  valid _ _ h := by rw [h.1]
  entry _ _ h := by rw [h.1]
  status _ _ h := by rw [h.1]
  first _ _ h := ⟨_, _, rfl, h.1 ▸ rfl, rfl, curValid_pick c .forward⟩
  last _ _ h := ⟨_, _, rfl, h.1 ▸ rfl, rfl, curValid_pick c .reverse⟩
  seek _ _ _ _ h := ⟨_, _, rfl, h.1 ▸ rfl, rfl, curValid_pick c .forward⟩
  next a _ h hv := by
    obtain ⟨mi', h1, h2⟩ := move_total c .forward a h.2 hv
    exact ⟨mi', mi', h1, h.1 ▸ h1, rfl, h2⟩
  prev a _ h hv := by
    obtain ⟨mi', h1, h2⟩ := move_total c .reverse a h.2 hv
    exact ⟨mi', mi', h1, h.1 ▸ h1, rfl, h2⟩

end Lcdb.Merge
