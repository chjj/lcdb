/-
  Runs of a step function that may fault (`Step.run`) and the two ways a fact about single steps
  extends to them: a simulation (`Step.Sim.run`) and an invariant (`Step.run_keeps`).
  The generic seek helpers of iterator.c (`IterOps.apply`) are built from five primitive
  operations.  A property of the primitives that composes along a run extends to every operation
  (`Prims.apply`) and to every sequence of operations (`Prims.run_total`).
-/
import LcdbModel.Model.Block
import LcdbModel.Lemmas.ListBasic
namespace Lcdb

namespace Step
variable {α σ τ : Type}

def run (f : α → σ → Option σ) (ops : List α) (s : σ) : Option σ := ops.foldlM (fun s a => f a s) s

def Sim (f₁ : α → σ → Option σ) (f₂ : α → τ → Option τ) (R : σ → τ → Prop) (A : α → Prop) : Prop :=
  ∀ a, A a → ∀ s t, R s t → ∃ s' t', f₁ a s = some s' ∧ f₂ a t = some t' ∧ R s' t'

theorem Sim.run {f₁ : α → σ → Option σ} {f₂ : α → τ → Option τ} {R : σ → τ → Prop} {A : α → Prop}
    (h : Sim f₁ f₂ R A) (ops : List α) (hops : ∀ a ∈ ops, A a) (s : σ) (t : τ) (hr : R s t) :
    ∃ s' t', run f₁ ops s = some s' ∧ run f₂ ops t = some t' ∧ R s' t' := by
  induction ops generalizing s t with
  | nil => exact ⟨s, t, rfl, rfl, hr⟩
  | cons a ops ih =>
    obtain ⟨s1, t1, e1, e2, h1⟩ := h a (hops a List.mem_cons_self) s t hr
    obtain ⟨s2, t2, e3, e4, h2⟩ := ih (fun b hb => hops b (List.mem_cons_of_mem _ hb)) s1 t1 h1
    refine ⟨s2, t2, ?_, ?_, h2⟩
    · simp only [Step.run, List.foldlM_cons, e1]; exact e3
    · simp only [Step.run, List.foldlM_cons, e2]; exact e4

theorem run_keeps {f : α → σ → Option σ} {P : σ → Prop}
    (step : ∀ a s, P s → ∃ s', f a s = some s' ∧ P s') (ops : List α) {s : σ} (h : P s) :
    ∃ s', run f ops s = some s' ∧ P s' := by
  induction ops generalizing s with
  | nil => exact ⟨s, rfl, h⟩
  | cons a ops ih =>
    obtain ⟨s1, e1, h1⟩ := step a s h
    obtain ⟨s2, e2, h2⟩ := ih h1
    exact ⟨s2, by simp only [Step.run, List.foldlM_cons, e1]; exact e2, h2⟩

end Step

namespace IterOps
variable {σ : Type}

theorem run_eq (o : IterOps σ) (ops : List BlockOp) (s : σ) : o.run ops s = Step.run o.apply ops s := by
  induction ops generalizing s with
  | nil => rfl
  | cons op ops ih =>
    simp only [IterOps.run, Step.run, List.foldlM_cons]
    cases o.apply op s with
    | none => rfl
    | some s' => exact ih s'

theorem run_append (o : IterOps σ) (a b : List BlockOp) (s : σ) :
    o.run (a ++ b) s = (o.run a s).bind (o.run b) := by
  rw [run_eq, run_eq, Step.run, List.foldlM_append]
  exact congrArg _ (funext fun s' => (run_eq o b s').symm)

/-- `first` or `last` -/
def edge (o : IterOps σ) : Way → σ → Option σ
  | .fwd => o.first
  | .bwd => o.last

/-- `next` or `prev` -/
def step (o : IterOps σ) : Way → σ → Option σ
  | .fwd => o.next
  | .bwd => o.prev

/-- `next` and `prev` are only issued on valid iterators -/
structure Prims (o : IterOps σ) (P : σ → Prop) (Q : σ → Option σ → Prop) : Prop where
  first : ∀ s, P s → Q s (o.first s)
  last : ∀ s, P s → Q s (o.last s)
  next : ∀ s, P s → o.valid s = true → Q s (o.next s)
  prev : ∀ s, P s → o.valid s = true → Q s (o.prev s)
  seek : ∀ t s, P s → Q s (o.seek t s)

theorem Prims.mono {o : IterOps σ} {P P' : σ → Prop} {Q Q' : σ → Option σ → Prop}
    (H : o.Prims P Q) (hP : ∀ s, P' s → P s) (hQ : ∀ s r, P' s → Q s r → Q' s r) :
    o.Prims P' Q' :=
  { first := fun s hs => hQ _ _ hs (H.first s (hP s hs))
    last := fun s hs => hQ _ _ hs (H.last s (hP s hs))
    next := fun s hs hv => hQ _ _ hs (H.next s (hP s hs) hv)
    prev := fun s hs hv => hQ _ _ hs (H.prev s (hP s hs) hv)
    seek := fun t s hs => hQ _ _ hs (H.seek t s (hP s hs)) }

/-- `cmp` is asked only where the comparator may fault: after a `seek` that ended valid -/
theorem Prims.apply {o : IterOps σ} {P : σ → Prop} {Q : σ → Option σ → Prop} (H : o.Prims P Q)
    (ret : ∀ s, P s → Q s (some s))
    (seq : ∀ s s1 r, Q s (some s1) → Q s1 r → Q s r)
    (post : ∀ s s1, P s → Q s (some s1) → P s1)
    (cmp : ∀ t s s1, P s → o.seek t s = some s1 → o.valid s1 = true →
      o.compare (o.key s1) t = none → Q s1 none)
    (op : BlockOp) (s : σ) (hs : P s) : Q s (o.apply op s) := by
  -- a compound seek is `seek` followed by a tail `f`
  have tail : ∀ t (f : σ → Option σ), (∀ s1, o.seek t s = some s1 → P s1 → Q s1 (f s1)) →
      Q s (match o.seek t s with | none => none | some s1 => f s1) := by
    intro t f hf
    have h0 := H.seek t s hs
    cases e : o.seek t s with
    | none => rw [e] at h0; exact h0
    | some s1 =>
      rw [e] at h0
      exact seq s s1 _ h0 (hf s1 e (post s s1 hs h0))
  cases op with
  | first => exact H.first s hs
  | last => exact H.last s hs
  | next =>
    dsimp only [IterOps.apply]
    split
    · rename_i hv; exact H.next s hs hv
    · exact ret s hs
  | prev =>
    dsimp only [IterOps.apply]
    split
    · rename_i hv; exact H.prev s hs hv
    · exact ret s hs
  | seek t => exact H.seek t s hs
  | seekGE t => exact H.seek t s hs
  | seekGT t =>
    refine tail t _ (fun s1 e1 h1 => ?_)
    split
    · rename_i hv
      split
      · rename_i hc; exact cmp t s s1 hs e1 hv hc
      · exact H.next s1 h1 hv
      · exact ret s1 h1
    · exact ret s1 h1
  | seekLE t =>
    refine tail t _ (fun s1 e1 h1 => ?_)
    split
    · rename_i hv
      split
      · rename_i hc; exact cmp t s s1 hs e1 hv hc
      · exact H.prev s1 h1 hv
      · exact ret s1 h1
    · exact H.last s1 h1
  | seekLT t =>
    refine tail t _ (fun s1 e1 h1 => ?_)
    split
    · rename_i hv; exact H.prev s1 h1 hv
    · exact H.last s1 h1

theorem Prims.apply_rel {o : IterOps σ} {P : σ → Prop} {R : σ → σ → Prop}
    (H : o.Prims P (fun s r => ∀ s', r = some s' → R s s')) (refl : ∀ s, P s → R s s)
    (trans : ∀ a b d, R a b → R b d → R a d) (post : ∀ a b, R a b → P b)
    {op : BlockOp} {s s' : σ} (hs : P s) (h : o.apply op s = some s') : R s s' :=
  H.apply (fun s hs s' e => by cases e; exact refl s hs)
    (fun s s1 r h1 h2 s' e => trans _ _ _ (h1 s1 rfl) (h2 s' e)) (fun s s1 _ h1 => post _ _ (h1 s1 rfl))
    (fun _ _ _ _ _ _ _ s' e => nomatch e) op s hs s' h

theorem Prims.apply_total {o : IterOps σ} {P : σ → Prop} {G : σ → σ → Prop}
    (H : o.Prims P (fun s r => ∃ s', r = some s' ∧ G s s')) (refl : ∀ s, P s → G s s)
    (trans : ∀ a b d, G a b → G b d → G a d) (post : ∀ a b, G a b → P b)
    (cmp : ∀ t s s1, P s → o.seek t s = some s1 → o.valid s1 = true →
      ∃ x, o.compare (o.key s1) t = some x)
    (op : BlockOp) {s : σ} (hs : P s) : ∃ s', o.apply op s = some s' ∧ G s s' :=
  H.apply (fun s hs => ⟨s, rfl, refl s hs⟩)
    (fun s s1 r ⟨_, e, g⟩ ⟨s', e', g'⟩ => by cases e; exact ⟨s', e', trans _ _ _ g g'⟩)
    (fun s s1 _ ⟨_, e, g⟩ => by cases e; exact post _ _ g)
    (fun t s s1 hs e hv hc => by obtain ⟨x, hx⟩ := cmp t s s1 hs e hv; cases hx.symm.trans hc)
    op s hs

theorem Prims.run_total {o : IterOps σ} {P : σ → Prop} {G : σ → σ → Prop}
    (H : o.Prims P (fun s r => ∃ s', r = some s' ∧ G s s')) (refl : ∀ s, P s → G s s)
    (trans : ∀ a b d, G a b → G b d → G a d) (post : ∀ a b, G a b → P b)
    (cmp : ∀ t s s1, P s → o.seek t s = some s1 → o.valid s1 = true →
      ∃ x, o.compare (o.key s1) t = some x)
    (ops : List BlockOp) {s : σ} (hs : P s) : ∃ s', o.run ops s = some s' ∧ G s s' := by
  rw [run_eq]
  refine Step.run_keeps (P := G s) (fun op s1 h01 => ?_) ops (refl s hs)
  obtain ⟨s2, e, h12⟩ := H.apply_total refl trans post cmp op (post _ _ h01)
  exact ⟨s2, e, trans _ _ _ h01 h12⟩

end IterOps
end Lcdb
