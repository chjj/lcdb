/-
  Shared definitions for the block-iterator theorems: order laws for comparators, the reference
  cursor over a sorted key list, and simulation between two iterators behind `IterOps`.
  (Definitions only; the lemmas are in Lemmas/Cursor.lean, Lemmas/InternalKey.lean.)
-/
import LcdbModel.Model.Block
namespace Lcdb

/-- what the iterator theorems need from a three-way comparator -/
structure OrdLaws (cmp : Bytes → Bytes → Ordering) : Prop where
  refl : ∀ a, cmp a a = .eq
  gt_iff : ∀ a b, cmp a b = .gt ↔ cmp b a = .lt
  lt_trans : ∀ a b c, cmp a b = .lt → cmp b c = .lt → cmp a c = .lt
  eq_left : ∀ a b c, cmp a b = .eq → cmp a c = cmp b c

/-- strictly increasing w.r.t. `cmp` -/
def SortedKeys (cmp : Bytes → Bytes → Ordering) (keys : List Bytes) : Prop :=
  keys.Pairwise (fun a b => cmp a b = .lt)

/-- index of the last element satisfying `p` -/
def lastIdx (p : Bytes → Bool) : List Bytes → Option Nat
  | [] => none
  | k :: ks =>
    match lastIdx p ks with
    | some i => some (i + 1)
    | none => if p k then some 0 else none

/-- the reference iterator: a cursor over the key list; `some i` = on `keys[i]`, `none` = invalid.
    It never faults. -/
def cursorOps (cmp : Bytes → Bytes → Ordering) (keys : List Bytes) : IterOps (Option Nat) :=
  { valid := fun p => p.isSome
    key := fun p => match p with
      | some i => keys.getD i []
      | none => []
    compare := fun a b => some (cmp a b)
    first := fun _ => some (if keys.isEmpty then none else some 0)
    last := fun _ => some (if keys.isEmpty then none else some (keys.length - 1))
    next := fun p => some (match p with
      | some i => if i + 1 < keys.length then some (i + 1) else none
      | none => none)
    prev := fun p => some (match p with
      | some (i + 1) => some i
      | _ => none)
    seek := fun t _ => some (keys.findIdx? (fun k => cmp k t != .lt)) }

/-- targets an operation mentions -/
def BlockOp.target? : BlockOp → Option Bytes
  | .seek t | .seekGE t | .seekGT t | .seekLE t | .seekLT t => some t
  | _ => none

/-- `o₁` (states `σ`) simulates `o₂` (states `τ`) through `R`, for seek targets satisfying `T` -/
structure IterOps.Sim {σ τ : Type} (o₁ : IterOps σ) (o₂ : IterOps τ) (R : σ → τ → Prop)
    (T : Bytes → Prop) : Prop where
  valid : ∀ s t, R s t → o₁.valid s = o₂.valid t
  key : ∀ s t, R s t → o₁.valid s = true → o₁.key s = o₂.key t
  compare : ∀ s t x, R s t → o₁.valid s = true → T x →
    o₁.compare (o₁.key s) x = o₂.compare (o₂.key t) x ∧ (o₂.compare (o₂.key t) x).isSome
  first : ∀ s t, R s t → ∃ s' t', o₁.first s = some s' ∧ o₂.first t = some t' ∧ R s' t'
  last : ∀ s t, R s t → ∃ s' t', o₁.last s = some s' ∧ o₂.last t = some t' ∧ R s' t'
  next : ∀ s t, R s t → o₁.valid s = true →
    ∃ s' t', o₁.next s = some s' ∧ o₂.next t = some t' ∧ R s' t'
  prev : ∀ s t, R s t → o₁.valid s = true →
    ∃ s' t', o₁.prev s = some s' ∧ o₂.prev t = some t' ∧ R s' t'
  seek : ∀ s t x, R s t → T x → ∃ s' t', o₁.seek x s = some s' ∧ o₂.seek x t = some t' ∧ R s' t'

end Lcdb
