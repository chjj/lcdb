/-
  Lemmas about LcdbModel.Model.WriteBatch.  `OpsWF` (key and value lengths fit the varint32 prefix) is the
  hypothesis under which encoded records read back; `batchIterate_eq` states `batchIterate` through the record
  loop `iterateGo`, which is how the proofs of Props/C04.lean enter.
-/
import LcdbModel.Model.WriteBatch
import LcdbModel.Props.CodingProps
namespace Lcdb

/-- key / value lengths fit the varint32 length prefix -/
def OpWF : BOp → Prop
  | .put k v => k.length < 2 ^ 32 ∧ v.length < 2 ^ 32
  | .del k => k.length < 2 ^ 32

def OpsWF (ops : List BOp) : Prop := ∀ op ∈ ops, OpWF op

theorem OpsWF.tail {op : BOp} {ops : List BOp} (h : OpsWF (op :: ops)) : OpsWF ops :=
  fun o ho => h o (List.mem_cons_of_mem _ ho)

theorem OpsWF.head {op : BOp} {ops : List BOp} (h : OpsWF (op :: ops)) : OpWF op :=
  h op List.mem_cons_self

theorem OpsWF.append {a b : List BOp} (ha : OpsWF a) (hb : OpsWF b) : OpsWF (a ++ b) := by
  intro o ho
  rcases List.mem_append.mp ho with h | h
  · exact ha o h
  · exact hb o h

theorem encodeOps_nil : encodeOps [] = [] := rfl

theorem encodeOps_cons (op : BOp) (ops : List BOp) :
    encodeOps (op :: ops) = encodeOp op ++ encodeOps ops := by
  simp [encodeOps]

theorem encodeOps_append (a b : List BOp) : encodeOps (a ++ b) = encodeOps a ++ encodeOps b := by
  simp [encodeOps]

theorem length_le_encodeOps (ops : List BOp) : ops.length ≤ (encodeOps ops).length := by
  induction ops with
  | nil => exact Nat.le_refl 0
  | cons op ops ih =>
    have : 1 ≤ (encodeOp op).length := by cases op <;> exact Nat.succ_le_succ (Nat.zero_le _)
    rw [encodeOps_cons, List.length_append, List.length_cons]; omega

theorem encodeBatch_length (seq : Nat) (ops : List BOp) :
    (encodeBatch seq ops).length = 12 + (encodeOps ops).length := by
  simp only [encodeBatch, List.length_append, fixedEnc_length]

theorem encodeBatch_take8 (seq : Nat) (ops : List BOp) :
    (encodeBatch seq ops).take 8 = fixedEnc 8 seq := by
  rw [encodeBatch, List.append_assoc]
  exact List.take_left' (fixedEnc_length 8 seq)

theorem encodeBatch_drop12 (seq : Nat) (ops : List BOp) :
    (encodeBatch seq ops).drop 12 = encodeOps ops := by
  rw [encodeBatch]
  exact List.drop_left' (by simp [fixedEnc_length])

theorem batchSeq_encodeBatch (seq : Nat) (ops : List BOp) :
    batchSeq (encodeBatch seq ops) = seq % 2 ^ 64 := by
  rw [batchSeq, encodeBatch_take8, fixedDec_fixedEnc]

theorem batchCount_encodeBatch (seq : Nat) (ops : List BOp) :
    batchCount (encodeBatch seq ops) = ops.length % 2 ^ 32 := by
  rw [batchCount, encodeBatch, List.append_assoc, List.drop_left' (fixedEnc_length 8 seq),
    List.take_left' (fixedEnc_length 4 _), fixedDec_fixedEnc]

theorem batchCount_take (rep : Bytes) (n : Nat) (h : 12 ≤ n) :
    batchCount (rep.take n) = batchCount rep := by
  unfold batchCount
  rw [List.drop_take, List.take_take, Nat.min_eq_left (by omega)]

theorem batchSeq_take (rep : Bytes) (n : Nat) (h : 8 ≤ n) :
    batchSeq (rep.take n) = batchSeq rep := by
  unfold batchSeq
  rw [List.take_take, Nat.min_eq_left h]

theorem iterateGo_put (fuel : Nat) (rest : Bytes) (acc : List BOp) (found : Nat) :
    iterateGo (fuel + 1) (UInt8.ofNat typeValue :: rest) acc found =
      match sliceRead rest with
      | none => (acc, found + 1, false)
      | some (k, rest1) =>
        match sliceRead rest1 with
        | none => (acc, found + 1, false)
        | some (v, rest2) => iterateGo fuel rest2 (acc ++ [BOp.put k v]) (found + 1) := rfl

theorem iterateGo_del (fuel : Nat) (rest : Bytes) (acc : List BOp) (found : Nat) :
    iterateGo (fuel + 1) (UInt8.ofNat typeDeletion :: rest) acc found =
      match sliceRead rest with
      | none => (acc, found + 1, false)
      | some (k, rest1) => iterateGo fuel rest1 (acc ++ [BOp.del k]) (found + 1) := rfl

theorem iterateGo_encodeOp (op : BOp) (h : OpWF op) (fuel : Nat) (rest : Bytes)
    (acc : List BOp) (found : Nat) :
    iterateGo (fuel + 1) (encodeOp op ++ rest) acc found
      = iterateGo fuel rest (acc ++ [op]) (found + 1) := by
  cases op with
  | put k v =>
    rw [encodeOp, List.cons_append, List.append_assoc, iterateGo_put, sliceRead_sliceEnc k _ h.1]
    dsimp only
    rw [sliceRead_sliceEnc v _ h.2]
  | del k => rw [encodeOp, List.cons_append, iterateGo_del, sliceRead_sliceEnc k _ h]

theorem iterateGo_encodeOps_nil (ops : List BOp) (hwf : OpsWF ops) (fuel : Nat)
    (hf : ops.length < fuel) (acc : List BOp) (found : Nat) :
    iterateGo fuel (encodeOps ops) acc found = (acc ++ ops, found + ops.length, true) := by
  obtain ⟨fuel, rfl⟩ : ∃ k, fuel = k + 1 := ⟨fuel - 1, by omega⟩
  induction ops generalizing fuel acc found with
  | nil =>
    rw [encodeOps_nil, iterateGo, List.append_nil]
    rfl
  | cons op ops ih =>
    obtain ⟨fuel, rfl⟩ : ∃ k, fuel = k + 1 := ⟨fuel - 1, by rw [List.length_cons] at hf; omega⟩
    rw [encodeOps_cons, iterateGo_encodeOp op hwf.head, ih hwf.tail _ _ fuel (by rw [List.length_cons] at hf; omega),
      List.append_assoc, List.length_cons, Nat.add_assoc, Nat.add_comm 1]
    rfl

theorem iterateGo_take_encodeOp (op : BOp) (h : OpWF op) (m : Nat) (hm0 : 0 < m)
    (hm : m < (encodeOp op).length) (fuel : Nat) (acc : List BOp) (found : Nat) :
    iterateGo (fuel + 1) ((encodeOp op).take m) acc found = (acc, found + 1, false) := by
  obtain ⟨m, rfl⟩ : ∃ k, m = k + 1 := ⟨m - 1, by omega⟩
  cases op with
  | put k v =>
    rw [encodeOp, List.length_cons, List.length_append] at hm
    rw [encodeOp, List.take_succ_cons, iterateGo_put]
    by_cases hc : m < (sliceEnc k).length
    · rw [List.take_append_of_le_length (by omega), sliceRead_take_none k h.1 m hc]
    · have hm' : m = (sliceEnc k).length + (m - (sliceEnc k).length) := by omega
      rw [hm', List.take_length_add_append, sliceRead_sliceEnc k _ h.1]
      dsimp only
      rw [sliceRead_take_none v h.2 _ (by omega)]
  | del k =>
    rw [encodeOp, List.length_cons] at hm
    rw [encodeOp, List.take_succ_cons, iterateGo_del, sliceRead_take_none k h m (by omega)]

theorem iterateGo_take_encodeOps (ops : List BOp) (hwf : OpsWF ops) :
    ∀ (m fuel : Nat) (acc : List BOp) (found : Nat), m < (encodeOps ops).length →
      ∃ ops', (iterateGo fuel ((encodeOps ops).take m) acc found).1 = acc ++ ops' ∧ ops' <+: ops ∧
        ((iterateGo fuel ((encodeOps ops).take m) acc found).2.2 = false ∨
         (iterateGo fuel ((encodeOps ops).take m) acc found).2.1 < found + ops.length) := by
  induction ops with
  | nil => intro m fuel acc found hm; simp [encodeOps] at hm
  | cons op ops ih =>
    intro m fuel acc found hm
    cases fuel with
    | zero => exact ⟨[], (List.append_nil _).symm, List.nil_prefix, .inl rfl⟩
    | succ fuel =>
      rw [encodeOps_cons] at hm ⊢
      by_cases hc : m < (encodeOp op).length
      · rw [List.take_append_of_le_length (by omega)]
        by_cases hm0 : m = 0
        · subst hm0
          exact ⟨[], (List.append_nil _).symm, List.nil_prefix,
            .inr (Nat.lt_add_of_pos_right (Nat.succ_pos _))⟩
        · rw [iterateGo_take_encodeOp op hwf.head m (by omega) hc]
          exact ⟨[], (List.append_nil _).symm, List.nil_prefix, .inl rfl⟩
      · have hm' : m = (encodeOp op).length + (m - (encodeOp op).length) := by omega
        rw [List.length_append] at hm
        rw [hm', List.take_length_add_append, iterateGo_encodeOp op hwf.head]
        obtain ⟨ops', h1, h2, h3⟩ :=
          ih hwf.tail (m - (encodeOp op).length) fuel (acc ++ [op]) (found + 1) (by omega)
        refine ⟨op :: ops', by rw [h1]; simp, ?_, ?_⟩
        · exact List.cons_prefix_cons.mpr ⟨rfl, h2⟩
        · rcases h3 with h3 | h3
          · exact Or.inl h3
          · exact Or.inr (by rw [List.length_cons]; omega)

theorem iterateGo_count (fuel : Nat) (bs : Bytes) (acc : List BOp) (found : Nat) :
    (iterateGo fuel bs acc found).2.2 = true →
      (iterateGo fuel bs acc found).1.length + found
        = acc.length + (iterateGo fuel bs acc found).2.1 := by
  fun_induction iterateGo fuel bs acc found <;> intro h
  case case2 => rfl
  case case5 ih | case7 ih =>
    have := ih h
    simp only [List.length_append, List.length_cons, List.length_nil] at this
    omega
  all_goals cases h

/-- `batchIterate` without the destructuring `let` -/
theorem batchIterate_eq (rep : Bytes) (h : 12 ≤ rep.length) :
    batchIterate rep =
      { applied := (iterateGo (rep.length + 1) (rep.drop 12) [] 0).1,
        ok := (iterateGo (rep.length + 1) (rep.drop 12) [] 0).2.2
              && ((iterateGo (rep.length + 1) (rep.drop 12) [] 0).2.1 == batchCount rep) } := by
  fun_cases batchIterate rep
  case case1 hlt => exact absurd hlt (Nat.not_lt.2 h)
  all_goals
    rename_i ops found ok hr hok
    have hr : iterateGo (rep.length + 1) (rep.drop 12) [] 0 = (ops, found, ok) := hr
    rw [hr]
    cases ok <;> simp at hok ⊢

end Lcdb
