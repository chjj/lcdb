/-
  Lemmas about Model/WFile.lean.  Each retry loop meets a contract (`WriteFacts` for `ldb_write`, `LoopFacts` for the
  loops around a single call), and so do, under every oracle, the directory sync (`DirFacts`) and flush / append0 /
  sync0 (`OpFacts`: bytes are lost only by a failed write, and that write is reported).  A sequence of operations keeps
  `Inv`, and `Clean` ("nothing lost so far") as long as every status is OK.
  There are two levels of "no fault": `Oracle.WNoFault` (no write fails: nothing is lost) and `Oracle.IoNoFault` (no
  write, fsync or open fails: every status is OK).
-/
import LcdbModel.Model.WFile
namespace Lcdb.WFile

def Sys.isWrite : Sys → Bool
  | .write _ _ => true
  | .writeErr _ _ => true
  | _ => false

def Oracle.WNoFault (orc : Oracle) : Prop := ∀ a ∈ orc.w, a.isFault = false

theorem transferred_append (a b : List Sys) : transferred (a ++ b) = transferred a ++ transferred b := by
  induction a with
  | nil => rfl
  | cons x t ih => cases x <;> simp only [List.cons_append, transferred, ih, List.append_assoc]

theorem transferred_nil : transferred [] = [] := rfl

theorem transferred_of_not_write : ∀ (t : List Sys), (∀ e ∈ t, e.isWrite = false) → transferred t = []
  | [], _ => rfl
  | x :: t, h => by
    have ht := transferred_of_not_write t (fun e he => h e (List.mem_cons_of_mem _ he))
    have hx := h x (List.mem_cons_self ..)
    cases x with
    | write _ _ => cases hx
    | _ => exact ht

/-- what `ldb_write` guarantees about a request `data` answered by the script `s` -/
structure WriteFacts (data : Bytes) (s : List WAns) (r : WRes) : Prop where
  pre : transferred r.ev <+: data
  ok : r.rc = .ok → transferred r.ev = data
  nf : (∀ a ∈ s, a.isFault = false) → r.rc = .ok
  err : ∀ e, r.rc = .err e → e ≠ .eintr ∧ ∃ pre req, r.ev = pre ++ [.writeErr req e]
  isWrite : ∀ e ∈ r.ev, e.isWrite = true
  rest : r.rest <:+ s

theorem WriteFacts.nil (s : List WAns) : WriteFacts [] s ⟨[], .ok, s⟩ :=
  ⟨List.nil_prefix, fun _ => rfl, fun _ => rfl, (fun _ h => nomatch h), (fun _ h => nomatch h), List.suffix_refl _⟩

/-- one more call `x` in front, which consumes the script from `s'` down to `s` -/
theorem WriteFacts.cons {data rest : Bytes} {s s' : List WAns} {r : WRes} {x : Sys} (F : WriteFacts rest s r)
    (hx : x.isWrite = true) (hd : transferred [x] ++ rest = data) (hs : s <:+ s') : WriteFacts data s' ⟨x :: r.ev, r.rc, r.rest⟩ :=
  have ht : transferred (x :: r.ev) = transferred [x] ++ transferred r.ev := transferred_append [x] r.ev
  ⟨hd ▸ ht ▸ (List.prefix_append_right_inj _).mpr F.pre, fun h => by rw [ht, F.ok h, hd],
    fun h => F.nf (fun b hb => h b (hs.subset hb)),
    fun e he => let ⟨h1, pre, q, h2⟩ := F.err e he; ⟨h1, x :: pre, q, congrArg _ h2⟩,
    List.forall_mem_cons.mpr ⟨hx, F.isWrite⟩, F.rest.trans hs⟩

/-- the arm of `osWrite` whose script is exhausted: every remaining write is accepted in full -/
theorem drainGo_facts (fuel : Nat) (data : Bytes) (h : data.length ≤ fuel) : WriteFacts data [] ⟨drainGo fuel data, .ok, []⟩ := by
  fun_induction drainGo fuel data with
  | case1 data => exact List.eq_nil_of_length_eq_zero (Nat.le_zero.mp h) ▸ .nil []
  | case2 fuel data he => exact List.isEmpty_iff.mp he ▸ .nil []
  | case3 fuel data he req ih =>
    have hpos : 0 < data.length := List.length_pos_iff.mpr (fun h => he (List.isEmpty_iff.mpr h))
    have := maxReq_pos
    exact (ih (by rw [List.length_drop]; omega)).cons rfl ((List.append_assoc ..).trans (List.take_append_drop ..)) (List.suffix_refl _)

theorem osWrite_facts (data : Bytes) (s : List WAns) : WriteFacts data s (osWrite data s) := by
  fun_induction osWrite data s with
  | case1 data => exact drainGo_facts _ data (Nat.le_refl _)
  | case2 data a rest h => exact List.isEmpty_iff.mp h ▸ .nil _
  | case3 data rest _ req r ih =>
    -- EINTR: the call is repeated with the same request
    exact ih.cons rfl rfl (List.suffix_cons _ _)
  | case4 data rest _ req e hne =>
    refine ⟨List.nil_prefix, (fun h => nomatch h), fun h => ?_, fun e' he => ?_, List.forall_mem_cons.mpr ⟨rfl, (fun _ h => nomatch h)⟩, List.suffix_cons _ _⟩
    · have := h _ (List.mem_cons_self ..)
      simp [WAns.isFault, hne] at this
    · cases he; exact ⟨hne, [], _, rfl⟩
  | case5 data a rest _ req _ r ih =>
    -- a (possibly short) transfer: the loop goes on with what is left of the request
    exact ih.cons rfl ((List.append_assoc ..).trans (List.take_append_drop ..)) (List.suffix_cons _ _)

theorem osWrite_nil (s : List WAns) : (osWrite [] s).ev = [] ∧ (osWrite [] s).rc = .ok ∧ (osWrite [] s).rest = s := by
  cases s <;> exact ⟨rfl, rfl, rfl⟩

def Rc.errno : Rc → Option Errno
  | .ok => none
  | .err e => some e

theorem Rc.errno_eq_none {rc : Rc} : rc.errno = none ↔ rc = .ok := by
  cases rc <;> simp [Rc.errno]

/-- what a loop that retries the single call `mk` guarantees, answered by the script `s` -/
structure LoopFacts (mk : Option Errno → Sys) (s : List Ans) (ev : List Sys) (r : Option Errno) (rest : List Ans) : Prop where
  shape : ∃ pre, ev = pre ++ [mk r] ∧ ∀ y ∈ pre, ∃ x, y = mk (some x)
  nf : (∀ a ∈ s, a.isFault = false) → r = none
  rest : rest <:+ s

section
variable {mk : Option Errno → Sys} {s rest : List Ans} {ev : List Sys} {r : Option Errno}

theorem LoopFacts.nil : LoopFacts mk [] [mk none] none [] :=
  ⟨⟨[], rfl, fun _ h => nomatch h⟩, fun _ => rfl, List.suffix_refl _⟩

theorem LoopFacts.last {a : Ans} (h : a.isFault = false → r = none) : LoopFacts mk (a :: s) [mk r] r s :=
  ⟨⟨[], rfl, fun _ h => nomatch h⟩, fun hn => h (hn a (List.mem_cons_self ..)), List.suffix_cons _ _⟩

theorem LoopFacts.retry (F : LoopFacts mk s ev r rest) (a : Ans) (x : Errno) :
    LoopFacts mk (a :: s) (mk (some x) :: ev) r rest :=
  let ⟨pre, h1, h2⟩ := F.shape
  ⟨⟨_ :: pre, congrArg _ h1, List.forall_mem_cons.mpr ⟨⟨x, rfl⟩, h2⟩⟩,
    fun h => F.nf fun b hb => h b (List.mem_cons_of_mem _ hb), F.rest.trans (List.suffix_cons _ _)⟩

theorem LoopFacts.mem (F : LoopFacts mk s ev r rest) : ∀ e ∈ ev, ∃ r, e = mk r := by
  obtain ⟨pre, h1, h2⟩ := F.shape
  rw [h1]
  exact List.forall_mem_append.mpr ⟨fun e he => let ⟨_, hx⟩ := h2 e he; ⟨_, hx⟩, List.forall_mem_singleton.mpr ⟨_, rfl⟩⟩

theorem LoopFacts.ok (F : LoopFacts mk s ev r rest) (h : ∀ a ∈ s, a.isFault = false) :
    r = none ∧ ∀ a ∈ rest, a.isFault = false :=
  ⟨F.nf h, fun a ha => h a (F.rest.subset ha)⟩
end

theorem osFsync_facts (dir : Bool) (s : List Ans) :
    LoopFacts (.fsync dir) s (osFsync dir s).ev (osFsync dir s).rc.errno (osFsync dir s).rest := by
  fun_induction osFsync dir s with
  | case1 => exact .nil
  | case2 => exact .last fun _ => rfl
  | case3 rest r ih => exact ih.retry _ _
  | case4 rest e hne => exact .last fun h => absurd (by simpa [Ans.isFault] using h) hne

theorem osOpen_facts (mk : Option Errno → Sys) (s : List Ans) :
    LoopFacts mk s (osOpen mk s).ev (osOpen mk s).r (osOpen mk s).rest := by
  fun_induction osOpen mk s with
  | case1 => exact .nil
  | case2 => exact .last fun _ => rfl
  | case3 rest r ih => exact ih.retry _ _
  -- EINVAL: `ldb_try_open` calls once more, without O_CLOEXEC
  | case4 => exact LoopFacts.nil.retry _ _
  | case5 => exact (LoopFacts.last fun _ => rfl).retry _ _
  | case6 rest r ih => exact (ih.retry _ _).retry _ _
  | case7 e rest h1 => exact (LoopFacts.last fun h => absurd (by simpa [Ans.isFault] using h) h1).retry _ _
  | case8 e rest h1 h2 => exact .last fun h => absurd (by simpa [Ans.isFault] using h) h1

theorem osOpen_err (mk : Option Errno → Sys) (s : List Ans) (e : Errno) : (osOpen mk s).r = some e →
    ∃ pre, (osOpen mk s).ev = pre ++ [mk (some e)] ∧ ∀ y ∈ pre, ∃ x, y = mk (some x) :=
  fun h => h ▸ (osOpen_facts mk s).shape

theorem wfWrite_ev (data : Bytes) (orc : Oracle) : (wfWrite data orc).ev = (osWrite data orc.w).ev := rfl
theorem wfWrite_rc (data : Bytes) (orc : Oracle) : (wfWrite data orc).rc = (osWrite data orc.w).rc := rfl
theorem wfWrite_w (data : Bytes) (orc : Oracle) : (wfWrite data orc).orc.w = (osWrite data orc.w).rest := rfl

theorem wfWrite_wnofault (data : Bytes) (orc : Oracle) (h : orc.WNoFault) :
    (wfWrite data orc).rc = .ok ∧ (wfWrite data orc).orc.WNoFault :=
  ⟨(osWrite_facts data orc.w).nf h, fun a ha => h a ((osWrite_facts data orc.w).rest.subset ha)⟩

/-- the system calls of `ldb_sync_dir` -/
def Sys.isDirEv : Sys → Bool
  | .openDir _ => true
  | .fsync true _ => true
  | .close true _ => true
  | _ => false

/-- events that happen "inside" the file open for writing: they keep it open and only append to it -/
def Sys.isBody : Sys → Bool
  | .write _ _ => true
  | .writeErr _ _ => true
  | .fsync _ _ => true
  | .openDir _ => true
  | .close true _ => true
  | _ => false

theorem isWrite_false_of_isDirEv {e : Sys} (h : e.isDirEv = true) : e.isWrite = false := by
  cases e <;> first | rfl | cases h

theorem transferred_of_isDirEv {t : List Sys} (h : ∀ e ∈ t, e.isDirEv = true) : transferred t = [] :=
  transferred_of_not_write t (fun e he => isWrite_false_of_isDirEv (h e he))

theorem isBody_of_isWrite {e : Sys} (h : e.isWrite = true) : e.isBody = true := by
  cases e <;> first | rfl | cases h

theorem isBody_of_isDirEv {e : Sys} (h : e.isDirEv = true) : e.isBody = true := by
  cases e with
  | close d r => cases d <;> first | rfl | cases h
  | _ => first | rfl | cases h

/-- the part of `Oracle.NoFault` (Props/WFileProps.lean: no script holds a fault) that append / flush / sync depend on -/
def Oracle.IoNoFault (orc : Oracle) : Prop :=
  orc.WNoFault ∧ (∀ a ∈ orc.s, a.isFault = false) ∧ (∀ a ∈ orc.o, a.isFault = false)

theorem syncDir_fail (orc : Oracle) (e : Errno) (h : (osOpen Sys.openDir orc.o).r = some e) :
    syncDir orc = ⟨(osOpen Sys.openDir orc.o).ev, .err e, { orc with o := (osOpen Sys.openDir orc.o).rest }⟩ := by
  simp only [syncDir, h]

theorem syncDir_opened (orc : Oracle) (h : (osOpen Sys.openDir orc.o).r = none) :
    syncDir orc = ⟨(osOpen Sys.openDir orc.o).ev ++ (osFsync true orc.s).ev ++ [.close true (popAns orc.c).1],
      ignoreBadf (osFsync true orc.s).rc,
      { orc with o := (osOpen Sys.openDir orc.o).rest, s := (osFsync true orc.s).rest, c := (popAns orc.c).2 }⟩ := by
  simp only [syncDir, h]

structure DirFacts (orc : Oracle) (d : FRes) : Prop where
  dirEv : ∀ e ∈ d.ev, e.isDirEv = true
  wnf : orc.WNoFault → d.orc.WNoFault
  io : orc.IoNoFault → d.rc = .ok ∧ d.orc.IoNoFault

theorem syncDir_facts (orc : Oracle) : DirFacts orc (syncDir orc) := by
  have O := osOpen_facts Sys.openDir orc.o
  have S := osFsync_facts true orc.s
  cases h : (osOpen Sys.openDir orc.o).r with
  | some x =>
    rw [syncDir_fail orc x h]
    exact ⟨fun e he => by obtain ⟨r, rfl⟩ := O.mem e he; rfl, id, fun hn => nomatch h.symm.trans (O.nf hn.2.2)⟩
  | none =>
    rw [syncDir_opened orc h]
    refine ⟨List.forall_mem_append.mpr ⟨List.forall_mem_append.mpr ⟨fun e he => ?_, fun e he => ?_⟩,
      List.forall_mem_singleton.mpr rfl⟩, id, fun hn => ?_⟩
    · obtain ⟨r, rfl⟩ := O.mem e he; rfl
    · obtain ⟨r, rfl⟩ := S.mem e he; rfl
    · have hs := S.ok hn.2.1
      rw [Rc.errno_eq_none.mp hs.1]
      exact ⟨rfl, hn.1, hs.2, (O.ok hn.2.2).2⟩

theorem syncDir_ok (orc : Oracle) (h : (syncDir orc).rc = .ok) :
    Sys.openDir none ∈ (syncDir orc).ev ∧
    ∃ r, Sys.fsync true r ∈ (syncDir orc).ev ∧ (r = none ∨ r = some .ebadf ∨ r = some .einval) := by
  cases hopen : (osOpen Sys.openDir orc.o).r with
  | some x => rw [syncDir_fail orc x hopen] at h; cases h
  | none =>
    rw [syncDir_opened orc hopen] at h ⊢
    obtain ⟨pre, h1, _⟩ := (osOpen_facts Sys.openDir orc.o).shape
    obtain ⟨p2, h2, _⟩ := (osFsync_facts true orc.s).shape
    rw [hopen] at h1
    refine ⟨by simp [h1], (osFsync true orc.s).rc.errno, by simp [h2], ?_⟩
    -- the status of the fsync is the outcome of its last call, and `ignoreBadf` made it OK
    generalize (osFsync true orc.s).rc = rc at h ⊢
    cases rc with
    | ok => exact Or.inl rfl
    | err e => cases e <;> cases h <;> first | exact Or.inr (Or.inl rfl) | exact Or.inr (Or.inr rfl)

/-- what every file operation guarantees, whatever the environment answers: `d` is the data handed to it -/
structure OpFacts (cap : Nat) (f : WF) (orc : Oracle) (d : Bytes) (r : Res) : Prop where
  buf_le : r.f.buf.length ≤ cap
  /-- bytes are lost only by a failed write(2) -/
  acct : transferred r.ev ++ r.f.buf = f.buf ++ d ∨
    (transferred r.ev <+: f.buf ++ d ∧ r.f.buf = [] ∧ r.rc ≠ .ok ∧ ¬ orc.WNoFault)
  wnf : orc.WNoFault → r.orc.WNoFault
  io : orc.IoNoFault → r.rc = .ok ∧ r.orc.IoNoFault
  body : ∀ e ∈ r.ev, e.isBody = true

section
variable {cap : Nat} {f : WF} {orc : Oracle} {d : Bytes} {r : Res} (F : OpFacts cap f orc d r)
include F

theorem OpFacts.pre : transferred r.ev <+: f.buf ++ d :=
  F.acct.elim (fun h => h ▸ List.prefix_append _ _) (·.1)

theorem OpFacts.sub : (transferred r.ev ++ r.f.buf).Sublist (f.buf ++ d) :=
  F.acct.elim (fun h => h ▸ List.Sublist.refl _) fun h => by rw [h.2.1, List.append_nil]; exact h.1.sublist

theorem OpFacts.ok (h : r.rc = .ok) : transferred r.ev ++ r.f.buf = f.buf ++ d :=
  F.acct.resolve_right fun h' => h'.2.2.1 h

theorem OpFacts.nf (h : orc.WNoFault) : transferred r.ev ++ r.f.buf = f.buf ++ d :=
  F.acct.resolve_right fun h' => h'.2.2.2 h
end

theorem OpFacts.prepend {cap : Nat} {f : WF} {orc : Oracle} {dir : FRes} {d : Bytes} {r : Res} (F : OpFacts cap f dir.orc d r)
    (D : DirFacts orc dir) : OpFacts cap f orc d ⟨dir.ev ++ r.ev, r.rc, r.orc, r.f⟩ := by
  have ht : transferred (dir.ev ++ r.ev) = transferred r.ev := by rw [transferred_append, transferred_of_isDirEv D.dirEv]; rfl
  exact ⟨F.buf_le, ht ▸ F.acct.imp_right fun h => ⟨h.1, h.2.1, h.2.2.1, fun hw => h.2.2.2 (D.wnf hw)⟩, fun h => F.wnf (D.wnf h),
    fun h => F.io (D.io h).2, fun e he => (List.mem_append.mp he).elim (fun h => isBody_of_isDirEv (D.dirEv e h)) (F.body e)⟩

theorem flush_buf (f : WF) (orc : Oracle) : (flush f orc).f.buf = [] := rfl

theorem flush_nil (f : WF) (orc : Oracle) (h : f.buf = []) : (flush f orc).ev = [] ∧ (flush f orc).rc = .ok := by
  have := osWrite_nil orc.w
  simp [flush, wfWrite, h, this.1, this.2.1]

theorem flush_facts (cap : Nat) (f : WF) (orc : Oracle) : OpFacts cap f orc [] (flush f orc) := by
  have W := osWrite_facts f.buf orc.w
  have hn := wfWrite_wnofault f.buf orc
  refine ⟨Nat.zero_le _, ?_, fun h => (hn h).2, fun h => ⟨(hn h.1).1, (hn h.1).2, h.2⟩, fun e he => isBody_of_isWrite (W.isWrite e he)⟩
  by_cases h : (flush f orc).rc = .ok
  · exact Or.inl (congrArg (· ++ []) (W.ok h))
  · exact Or.inr ⟨(List.append_nil _).symm ▸ W.pre, rfl, h, fun hw => h (hn hw).1⟩

theorem append0_facts (cap : Nat) (f : WF) (hf : f.buf.length ≤ cap) (data : Bytes) (orc : Oracle) :
    OpFacts cap f orc data (append0 cap f data orc) := by
  unfold append0
  generalize hc : min data.length (cap - f.buf.length) = copy
  by_cases hrest : (data.drop copy).isEmpty
  · -- the data fits into the buffer
    have hlen : data.length ≤ copy := List.drop_eq_nil_iff.mp (List.isEmpty_iff.mp hrest)
    simp only [hrest, ↓reduceIte, List.take_of_length_le hlen]
    exact ⟨by simp only [List.length_append]; omega, Or.inl rfl, id, fun h => ⟨rfl, h⟩, fun _ h => nomatch h⟩
  · -- the buffer is filled up with a first part `a` and flushed; then the flush fails, or the rest `b` goes to the buffer,
    -- or it is written directly
    simp only [hrest, Bool.false_eq_true, ↓reduceIte]
    obtain ⟨a, b, rfl, ha, hb⟩ : ∃ a b, data = a ++ b ∧ data.take copy = a ∧ data.drop copy = b :=
      ⟨_, _, (List.take_append_drop _ _).symm, rfl, rfl⟩
    rw [ha, hb]
    generalize hfl : flush { f with buf := f.buf ++ a } orc = fl
    have FF : OpFacts cap { f with buf := f.buf ++ a } orc [] fl := hfl ▸ flush_facts cap _ orc
    have hbuf : fl.f.buf = [] := hfl ▸ rfl
    have hwn : orc.WNoFault → fl.rc = .ok := fun h => hfl ▸ (wfWrite_wnofault _ orc h).1
    have hpre : transferred fl.ev <+: f.buf ++ (a ++ b) := by
      have := FF.pre
      rw [List.append_nil] at this
      exact this.trans (List.append_assoc .. ▸ List.prefix_append _ _)
    have hok : fl.rc = .ok → transferred fl.ev = f.buf ++ a := fun h => by
      have := FF.ok h
      rwa [hbuf, List.append_nil, List.append_nil] at this
    by_cases hrc : fl.rc = .ok
    · simp only [hrc, ne_eq, not_true_eq_false, ↓reduceIte]
      by_cases hsmall : b.length < cap
      · simp only [hsmall, ↓reduceIte]
        exact ⟨Nat.le_of_lt hsmall, Or.inl (by rw [hok hrc, List.append_assoc]), FF.wnf, fun h => ⟨rfl, (FF.io h).2⟩, FF.body⟩
      · simp only [hsmall, ↓reduceIte]
        have W := osWrite_facts b fl.orc.w
        have hw := fun h => wfWrite_wnofault b fl.orc (FF.wnf h)
        refine ⟨FF.buf_le, ?_, fun h => (hw h).2, fun h => ?_, fun e he => ?_⟩
        · by_cases h : (wfWrite b fl.orc).rc = .ok
          · exact Or.inl (by rw [hbuf, List.append_nil, transferred_append, hok hrc, wfWrite_ev, W.ok h, List.append_assoc])
          · refine Or.inr ⟨?_, hbuf, h, fun hn => h (hw hn).1⟩
            rw [transferred_append, hok hrc, List.append_assoc]
            exact (List.prefix_append_right_inj _).mpr ((List.prefix_append_right_inj _).mpr W.pre)
        · exact ⟨(hw h.1).1, (hw h.1).2, (FF.io h).2.2⟩
        · exact (List.mem_append.mp he).elim (FF.body e) (fun h => isBody_of_isWrite (W.isWrite e h))
    · simp only [hrc, ne_eq, not_false_eq_true, ↓reduceIte]
      exact ⟨FF.buf_le, Or.inr ⟨hpre, hbuf, hrc, fun h => hrc (hwn h)⟩, FF.wnf, fun h => absurd (hwn h.1) hrc, FF.body⟩

/-- the directory part of `ldb_wfile_sync0` (MANIFEST files only) -/
def sync0Dir (f : WF) (orc : Oracle) : FRes := if f.manifest then syncDir orc else ⟨[], .ok, orc⟩

theorem sync0Dir_facts (f : WF) (orc : Oracle) : DirFacts orc (sync0Dir f orc) := by
  unfold sync0Dir
  split
  · exact syncDir_facts orc
  · exact ⟨(fun _ h => nomatch h), id, fun h => ⟨rfl, h⟩⟩

theorem sync0_cases (f : WF) (orc : Oracle) :
    ∃ d fl s, d = sync0Dir f orc ∧ fl = flush f d.orc ∧ s = osFsync false fl.orc.s ∧
      ((d.rc ≠ .ok ∧ sync0 f orc = ⟨d.ev, d.rc, d.orc, f⟩) ∨
       (d.rc = .ok ∧ fl.rc ≠ .ok ∧ sync0 f orc = ⟨d.ev ++ fl.ev, fl.rc, fl.orc, fl.f⟩) ∨
       (d.rc = .ok ∧ fl.rc = .ok ∧ sync0 f orc = ⟨d.ev ++ fl.ev ++ s.ev, s.rc, { fl.orc with s := s.rest }, fl.f⟩)) := by
  refine ⟨_, _, _, rfl, rfl, rfl, ?_⟩
  unfold sync0 sync0Dir
  generalize (if f.manifest = true then syncDir orc else ({ ev := [], rc := .ok, orc := orc } : FRes)) = d
  by_cases h1 : d.rc = .ok
  · by_cases h2 : (flush f d.orc).rc = .ok
    · exact Or.inr (Or.inr ⟨h1, h2, by simp only [h1, h2, ne_eq, not_true_eq_false, ↓reduceIte]⟩)
    · exact Or.inr (Or.inl ⟨h1, h2, by simp only [h1, h2, ne_eq, not_true_eq_false, not_false_eq_true, ↓reduceIte]⟩)
  · exact Or.inl ⟨h1, by simp only [h1, ne_eq, not_false_eq_true, ↓reduceIte]⟩

theorem sync0_ok {f : WF} {orc : Oracle} (h : (sync0 f orc).rc = .ok) :
    (sync0 f orc).f.buf = [] ∧ ∃ B, (sync0 f orc).ev = B ++ [Sys.fsync false none] ∧ transferred B = f.buf := by
  obtain ⟨d, fl, s, hd, rfl, rfl, hcase⟩ := sync0_cases f orc
  rcases hcase with ⟨h1, e⟩ | ⟨_, h2, e⟩ | ⟨_, h2, e⟩ <;> rw [e] at h ⊢
  · exact absurd h h1
  · exact absurd h h2
  · obtain ⟨pre, hp, hpre⟩ := (osFsync_facts false (flush f d.orc).orc.s).shape
    rw [show (osFsync false (flush f d.orc).orc.s).rc = .ok from h] at hp
    refine ⟨rfl, d.ev ++ (flush f d.orc).ev ++ pre, by simp only [hp, List.append_assoc]; rfl, ?_⟩
    rw [transferred_append, transferred_append, transferred_of_isDirEv (hd ▸ (sync0Dir_facts f orc).dirEv),
      transferred_of_not_write pre (fun e he => by obtain ⟨_, rfl⟩ := hpre e he; rfl), List.append_nil]
    exact (osWrite_facts f.buf d.orc.w).ok h2

theorem sync0_facts (cap : Nat) (f : WF) (hf : f.buf.length ≤ cap) (orc : Oracle) : OpFacts cap f orc [] (sync0 f orc) := by
  obtain ⟨d, fl, s, hd, hfl, rfl, hcase⟩ := sync0_cases f orc
  have D : DirFacts orc d := hd ▸ sync0Dir_facts f orc
  have FF : OpFacts cap f orc [] ⟨d.ev ++ fl.ev, fl.rc, fl.orc, fl.f⟩ :=
    (hfl ▸ flush_facts cap f d.orc).prepend D
  rcases hcase with ⟨h1, e⟩ | ⟨_, _, e⟩ | ⟨_, h2, e⟩ <;> rw [e]
  · exact ⟨hf, Or.inl (by rw [transferred_of_isDirEv D.dirEv, List.append_nil]; rfl), D.wnf, fun h => absurd (D.io h).1 h1,
      fun e he => isBody_of_isDirEv (D.dirEv e he)⟩
  · exact FF
  · have S := osFsync_facts false fl.orc.s
    have hS := S.mem
    have hst : transferred (osFsync false fl.orc.s).ev = [] :=
      transferred_of_not_write _ (fun e he => by obtain ⟨r, rfl⟩ := hS e he; rfl)
    refine ⟨FF.buf_le, Or.inl ?_, FF.wnf, fun h => ?_, fun e he => (List.mem_append.mp he).elim (FF.body e) ?_⟩
    · show transferred (d.ev ++ fl.ev ++ (osFsync false fl.orc.s).ev) ++ fl.f.buf = f.buf ++ []
      rw [transferred_append, hst, List.append_nil]
      exact FF.ok h2
    · have i := (FF.io h).2
      exact ⟨Rc.errno_eq_none.mp (S.nf i.2.1), i.1, (S.ok i.2.1).2, i.2.2⟩
    · intro he
      obtain ⟨r, rfl⟩ := hS e he
      rfl

theorem applyOp_facts (cap : Nat) (f : WF) (hf : f.buf.length ≤ cap) (orc : Oracle) (op : Op) :
    OpFacts cap f orc (opData op) (applyOp cap f orc op) := by
  cases op with
  | append d => exact append0_facts cap f hf d orc
  | flush => exact flush_facts cap f orc
  | sync => exact sync0_facts cap f hf orc

theorem run_snoc (cap : Nat) (st : RunSt) (ops : List Op) (op : Op) :
    run cap st (ops ++ [op]) = step cap (run cap st ops) op := by
  simp [run, List.foldl_append]

theorem run_cons (cap : Nat) (st : RunSt) (ops : List Op) (op : Op) :
    run cap st (op :: ops) = run cap (step cap st op) ops := rfl

theorem run_app (cap : Nat) (ops : List Op) (st : RunSt) : (run cap st ops).app = st.app ++ (ops.map opData).flatten :=
  (List.foldl_hom RunSt.app (g₂ := (· ++ opData ·)) fun _ _ => rfl).symm.trans List.foldl_append_eq_append

theorem run_rcs_length (cap : Nat) (ops : List Op) (st : RunSt) : (run cap st ops).rcs.length = st.rcs.length + ops.length :=
  (List.foldl_hom (fun st : RunSt => st.rcs.length) (g₂ := fun n _ => n + 1) fun _ _ => (List.length_append (bs := [_])).symm).symm.trans
    (List.foldl_add_const.trans (congrArg _ (Nat.one_mul _)))

/-- nothing has been lost so far -/
def Clean (st : RunSt) : Prop := transferred st.tr ++ st.f.buf = st.app

/-- what holds of every state reached from an initial state with oracle `orc₀` -/
structure Inv (cap : Nat) (orc₀ : Oracle) (st : RunSt) : Prop where
  buf_le : st.f.buf.length ≤ cap
  sub : (transferred st.tr ++ st.f.buf).Sublist st.app
  body : ∀ e ∈ st.tr, e.isBody = true
  ok : (∀ rc ∈ st.rcs, rc = .ok) → Clean st
  wnf : orc₀.WNoFault → Clean st ∧ st.orc.WNoFault
  io : orc₀.IoNoFault → st.orc.IoNoFault ∧ ∀ rc ∈ st.rcs, rc = .ok

theorem init_inv (cap : Nat) (m : Bool) (orc : Oracle) : Inv cap orc (RunSt.init m orc) :=
  ⟨Nat.zero_le _, List.Sublist.refl _, (fun _ h => nomatch h), fun _ => rfl, fun h => ⟨rfl, h⟩, fun h => ⟨h, fun _ h => nomatch h⟩⟩

theorem step_clean_of_eq {cap : Nat} {st : RunSt} (hc : Clean st) (op : Op)
    (he : transferred (applyOp cap st.f st.orc op).ev ++ (applyOp cap st.f st.orc op).f.buf = st.f.buf ++ opData op) :
    Clean (step cap st op) := by
  unfold Clean at hc ⊢
  simp only [step, transferred_append, List.append_assoc]
  rw [he, ← List.append_assoc, hc]

theorem step_inv {cap : Nat} {orc₀ : Oracle} {st : RunSt} (h : Inv cap orc₀ st) (op : Op) : Inv cap orc₀ (step cap st op) := by
  have F := applyOp_facts cap st.f h.buf_le st.orc op
  refine ⟨F.buf_le, ?_, fun e he => (List.mem_append.mp he).elim (h.body e) (F.body e), fun hok => ?_, fun hn => ?_, fun hn => ?_⟩
  · simp only [step, transferred_append, List.append_assoc]
    -- what the operation adds is a sublist of `buffer ++ data`, and `transferred ++ buffer` was one of the stream
    exact ((List.Sublist.refl _).append F.sub).trans (List.append_assoc .. ▸ h.sub.append (List.Sublist.refl _))
  · have hok := List.forall_mem_append.mp hok
    exact step_clean_of_eq (h.ok hok.1) op (F.ok (hok.2 _ (List.mem_singleton.mpr rfl)))
  · exact ⟨step_clean_of_eq (h.wnf hn).1 op (F.nf (h.wnf hn).2), F.wnf (h.wnf hn).2⟩
  · have G := F.io (h.io hn).1
    exact ⟨G.2, List.forall_mem_append.mpr ⟨(h.io hn).2, List.forall_mem_singleton.mpr G.1⟩⟩

theorem run_inv {cap : Nat} {orc₀ : Oracle} (ops : List Op) {st : RunSt} (h : Inv cap orc₀ st) : Inv cap orc₀ (run cap st ops) :=
  List.foldlRecOn ops _ h fun _ h op _ => step_inv h op

theorem step_prefix {cap : Nat} {orc₀ : Oracle} {st : RunSt} (hi : Inv cap orc₀ st) (hc : Clean st) (op : Op) :
    transferred (step cap st op).tr <+: (step cap st op).app := by
  have F := applyOp_facts cap st.f hi.buf_le st.orc op
  unfold Clean at hc
  simp only [step, transferred_append]
  rw [← hc, List.append_assoc]
  exact (List.prefix_append_right_inj _).mpr F.pre

theorem close_ev (f : WF) (orc : Oracle) :
    transferred (close f orc).ev = transferred (flush f orc).ev := by
  simp [close, transferred_append, transferred]

theorem close_ok (f : WF) (orc : Oracle) (h : (close f orc).rc = .ok) :
    (flush f orc).rc = .ok ∧ (close f orc).ev = (flush f orc).ev ++ [.close false none] := by
  unfold close at h ⊢
  by_cases h1 : (flush f orc).rc = .ok
  · simp only [h1, ↓reduceIte] at h ⊢
    cases hc : (popAns (flush f orc).orc.c).1 with
    | none => simp
    | some e => simp [hc] at h
  · simp only [h1, ↓reduceIte] at h

end Lcdb.WFile
