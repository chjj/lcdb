/-
  Reading a memtable that `Holds` the entries `es`: the nodes of its skiplist line up with `es` (`Aligned`), so a seek is
  `runSeekIdx` on the run, `ldb_memtable_get` answers what `runGet` finds (`get_spec`), and the memtable iterator
  simulates the cursor over the run for seek targets whose length `ldb_slice_export` does not truncate
  (`InternalIter.SimOn`, `memiter_simOn`).
-/
import LcdbModel.Lemmas.Memtable
import LcdbModel.Lemmas.IterSim
namespace Lcdb.Memtable
open Lcdb Lcdb.Skiplist

structure Aligned (mt : Memtable) (es : List MEntry) (L : List Nat) : Prop where
  wf : ∀ e ∈ es, e.wf
  inv : Skiplist.Inv (memKeyCmp mt.c) mt.table L
  len : L.length = es.length
  key : ∀ i (hi : i < L.length) (hi' : i < es.length), keyOf mt.table L[i] = some (es[i].enc)

theorem Holds.aligned {mt : Memtable} {es : List MEntry} (h : Holds mt es) : ∃ L, Aligned mt es L := by
  obtain ⟨hwf, L, hinv, hk⟩ := h
  -- every node of `L` has a key, so `filterMap` drops nothing
  have hm : L.map (keyOf mt.table) = (es.map MEntry.enc).map some := by
    rw [← hk, List.map_filterMap_some_eq_filter_map_isSome, List.filter_eq_self.mpr]
    intro o ho
    obtain ⟨x, hx, rfl⟩ := List.mem_map.mp ho
    obtain ⟨k, hk'⟩ := hinv.hasKey x hx
    rw [hk']; rfl
  have hlen : L.length = es.length := by simpa using congrArg List.length hm
  refine ⟨L, hwf, hinv, hlen, ?_⟩
  intro i hi hi'
  have := congrArg (fun l => l[i]?) hm
  simpa [List.getElem?_eq_getElem hi, List.getElem?_eq_getElem hi'] using this

section aligned
variable {mt : Memtable} {es : List MEntry} {L : List Nat}

theorem Aligned.map_key (h : Aligned mt es L) : L.map (keyOf mt.table) = es.map fun e => some e.enc := by
  refine List.ext_getElem (by simp [h.len]) fun i h1 h2 => ?_
  simp only [List.getElem_map]
  exact h.key i (by simpa using h1) (by simpa using h2)

/-- on the node of a well-formed entry the test the search for `(k, pk)` makes is the order test of the run -/
theorem notBelow_enc (c : Cmp) {e : MEntry} (he : e.wf) (k : Bytes) (pk : Nat) (hk : k.length + 8 < 2 ^ 32) (hpk : pk < 2 ^ 64) :
    ((some e.enc).map (fun kk => memKeyCmp c kk (sliceEnc (k ++ fixedEnc 8 pk)) == .lt) != some true) =
      !ikLt c e.ukey e.packed k pk := by
  have := memKeyCmp_enc_target c he k pk hk hpk
  cases hl : ikLt c e.ukey e.packed k pk <;> simp_all

/-- both sides of a seek are `findIdx?` of the same test, along the nodes and along the entries -/
theorem seek_spec (tok : Bytes → String) (h : Aligned mt es L) (k : Bytes) (pk : Nat) (hk : k.length + 8 < 2 ^ 32) (hpk : pk < 2 ^ 64) :
    iterSeek (memKeyCmp mt.c) mt.table (sliceEnc (k ++ fixedEnc 8 pk)) =
      some ((runSeekIdx mt.c (es.map (MEntry.toEntry tok)) k pk).bind (L[·]?)) := by
  rw [iterSeek_spec (memKeyCmp_ok mt.c) h.inv, List.find?_eq_bind_findIdx?_getElem?]
  refine congrArg (fun o : Option Nat => some (o.bind (L[·]?))) ?_
  show L.findIdx? ((fun o : Option Bytes => o.map (fun kk => memKeyCmp mt.c kk _ == .lt) != some true) ∘ keyOf mt.table) = _
  rw [← List.findIdx?_map, h.map_key, List.findIdx?_map, runSeekIdx, List.findIdx?_map]
  exact findIdx?_congr_mem fun e he => notBelow_enc mt.c (h.wf e he) k pk hk hpk

theorem iterEntry_at (tok : Bytes → String) (h : Aligned mt es L) (i : Nat) (hi : i < L.length) (hi' : i < es.length) :
    iterEntry tok mt (some L[i]) = some (es[i].toEntry tok) := by
  have hwf := h.wf _ (List.getElem_mem hi')
  simp only [iterEntry, iterKV, iterKey, h.key i hi hi', MEntry.enc]
  rw [decodeEntry_encodeEntry _ _ _ _ hwf.1 hwf.2.1]
  simp only []
  rw [if_neg (ikeyEnc_not_short _ _ _), MEntry.ikeyNum hwf, MEntry.packed_div hwf, MEntry.packed_mod hwf]
  exact congrArg some (congrArg (Entry.mk · _ _ _) (ikeyUser_enc _ _))

def IterRel (L : List Nat) (it : Iter) (p : Option Nat) : Prop :=
  it = p.bind (L[·]?) ∧ ∀ i, p = some i → i < L.length

theorem IterRel.none : IterRel L none none := ⟨rfl, by simp⟩

theorem iterRel_of_getElem? (j : Nat) : IterRel L L[j]? (if j < L.length then some j else none) := by
  by_cases hj : j < L.length
  · simp [IterRel, hj]
  · simp [IterRel, hj]

end aligned

/-- what `ldb_memtable_get` answers when the seek lands on entry `e` (or past the end) -/
def getResultOf : Option MEntry → GetResult
  | none => .notFound
  | some e => if e.kind = 1 then .found e.val else if e.kind = 0 then .deleted else .notFound

theorem getAt_enc (c : Cmp) (k : Bytes) {e : MEntry} (he : e.wf) :
    getAt c k e.enc = some (getResultOf (if c.compare e.ukey k == .eq then some e else none)) := by
  unfold getAt MEntry.enc
  rw [sliceRead_encodeEntry _ _ _ _ he.1]
  simp only []
  rw [if_neg (ikeyEnc_not_short _ _ _), MEntry.ikeyNum he, MEntry.packed_mod he, sliceRead_lp e.val he.2.1,
    show ikeyUser (ikeyEnc e.ukey e.seq e.kind) = e.ukey from ikeyUser_enc _ _]
  rw [apply_ite getResultOf]
  simp only [getResultOf, apply_ite some]

theorem get_spec (tok : Bytes → String) {mt : Memtable} {es : List MEntry} (h : Holds mt es) (k : Bytes) (s : Nat)
    (hk : k.length + 8 < 2 ^ 32) (hs : s < 2 ^ 56) :
    ∃ m : Option MEntry, get mt k s = some (getResultOf m) ∧
      runGet mt.c (es.map (MEntry.toEntry tok)) k s = m.map (MEntry.toEntry tok) := by
  obtain ⟨L, ha⟩ := h.aligned
  have hseek := seek_spec tok ha k (seekPacked s) hk (by unfold seekPacked valtypeSeek; omega)
  have hfind : runSeek mt.c (es.map (MEntry.toEntry tok)) k (seekPacked s) =
      (runSeekIdx mt.c (es.map (MEntry.toEntry tok)) k (seekPacked s)).bind ((es.map (MEntry.toEntry tok))[·]?) :=
    List.find?_eq_bind_findIdx?_getElem?
  unfold get runGet
  simp only [hk, hs, decide_true, Bool.and_self, Bool.not_true]
  rw [lookupKey_eq, show ikeyEnc k s valtypeSeek = k ++ fixedEnc 8 (seekPacked s) from rfl, hseek, hfind]
  cases hidx : runSeekIdx mt.c (es.map (MEntry.toEntry tok)) k (seekPacked s) with
  | none => exact ⟨none, rfl, rfl⟩
  | some j =>
    have hj' : j < es.length := by simpa using (List.findIdx?_eq_some_iff_getElem.mp hidx).1
    have hj : j < L.length := ha.len ▸ hj'
    refine ⟨if mt.c.compare es[j].ukey k == .eq then some es[j] else none, ?_, ?_⟩
    · simp only [Option.bind_some, List.getElem?_eq_getElem hj, Bool.false_eq_true, if_false]
      rw [ha.key j hj hj']
      exact getAt_enc mt.c k (ha.wf _ (List.getElem_mem hj'))
    · rw [Option.bind_some, List.getElem?_map, List.getElem?_eq_getElem hj']
      show (if mt.c.compare es[j].ukey k == .eq then some (es[j].toEntry tok) else none) = _
      split <;> rfl

/-- seek targets within which nothing is truncated (`ldb_slice_export` writes the size as a varint32) -/
def SeekOk : InternalOp → Prop
  | .seek k pk => k.length + 8 < 2 ^ 32 ∧ pk < 2 ^ 64
  | _ => True

theorem memiter_observe (tok : Bytes → String) {mt : Memtable} {es : List MEntry} {L : List Nat} (ha : Aligned mt es L)
    {it : Iter} {p : Option Nat} (hr : IterRel L it p) :
    (memIter tok mt).valid it = (runIter mt.c (es.map (MEntry.toEntry tok))).valid p ∧
    (memIter tok mt).entry it = (runIter mt.c (es.map (MEntry.toEntry tok))).entry p := by
  obtain ⟨rfl, hb⟩ := hr
  cases p with
  | none => simp [memIter, runIter, iterValid, runEntry, iterEntry, iterKV, iterKey]
  | some i =>
    have hi := hb i rfl
    have hi' : i < es.length := by rw [← ha.len]; exact hi
    simp only [memIter, runIter, Option.bind_some, List.getElem?_eq_getElem hi, iterValid, runEntry,
      iterEntry_at tok ha i hi hi', List.getElem?_map, List.getElem?_eq_getElem hi', Option.map_some, Option.isSome_some]
    exact ⟨trivial, trivial⟩

theorem runLast_eq_if (r : Run) : runLast r = if r.length - 1 < r.length then some (r.length - 1) else none := by
  cases r with
  | nil => rfl
  | cons a t => exact (if_pos (Nat.lt_succ_self _)).symm

theorem IterRel.of_valid (tok : Bytes → String) {mt : Memtable} {L : List Nat} {it : Iter} {p : Option Nat}
    (hr : IterRel L it p) (hv : (memIter tok mt).valid it = true) : ∃ i, ∃ hi : i < L.length, it = some L[i] ∧ p = some i := by
  obtain ⟨rfl, hb⟩ := hr
  cases p with
  | none => cases hv
  | some i => exact ⟨i, hb i rfl, List.getElem?_eq_getElem (hb i rfl), rfl⟩

theorem memiter_simOn (tok : Bytes → String) {mt : Memtable} {es : List MEntry} {L : List Nat} (ha : Aligned mt es L) :
    InternalIter.SimOn (fun k pk => SeekOk (.seek k pk)) (memIter tok mt) (runIter mt.c (es.map (MEntry.toEntry tok))) (IterRel L) := by
  have hlen : (es.map (MEntry.toEntry tok)).length = L.length := by rw [List.length_map, ha.len]
  refine ⟨fun a b h => (memiter_observe tok ha h).1, fun a b h => (memiter_observe tok ha h).2, fun _ _ _ => rfl,
    ?_, ?_, ?_, ?_, ?_⟩
  · intro a b _
    refine ⟨_, _, iterFirst_spec ha.inv, rfl, ?_⟩
    rw [List.head?_eq_getElem?, RunCursor.runFirst_eq, hlen]
    exact iterRel_of_getElem? 0
  · intro a b _
    refine ⟨_, _, iterLast_spec ha.inv, rfl, ?_⟩
    rw [List.getLast?_eq_getElem?, runLast_eq_if, hlen]
    exact iterRel_of_getElem? _
  · intro k pk a b hp _
    have hl : (k ++ fixedEnc 8 pk).length < 2 ^ 32 := by rw [List.length_append, fixedEnc_length]; exact hp.1
    refine ⟨_, _, ?_, rfl, rfl, fun i hi => ?_⟩
    · show iterSeekKey mt _ = _
      rw [iterSeekKey, decide_eq_true hl]
      exact seek_spec tok ha k pk hp.1 hp.2
    · rw [← hlen]
      exact (List.findIdx?_eq_some_iff_getElem.mp hi).1
  · intro a b h hv
    obtain ⟨i, hi, rfl, rfl⟩ := h.of_valid tok hv
    refine ⟨_, _, iterNext_spec ha.inv i hi, ?_, iterRel_of_getElem? (i + 1)⟩
    show runNext _ (some i) = _
    rw [runNext, hlen, if_pos hi]
  · intro a b h hv
    obtain ⟨i, hi, rfl, rfl⟩ := h.of_valid tok hv
    have hp := iterPrev_spec (memKeyCmp_ok mt.c) ha.inv i hi
    rw [← hlen] at hi
    cases i with
    | zero => exact ⟨none, none, hp, if_pos hi, IterRel.none⟩
    | succ j => exact ⟨L[j]?, some j, hp, if_pos hi, rfl, fun i hi' => by cases hi'; omega⟩

end Lcdb.Memtable
