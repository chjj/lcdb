/-
  Table safety (C18 for whole tables): on ARBITRARY file bytes `tableOpen`, every
  sequence of table-iterator operations, the forward scan and `tableGet` never reach a fault; the
  error status of the table iterator is sticky.  As far as fault and final status go, a scan is a
  run of `first` and `next`s (`scanGo_status_run`, `tableIterAll_status_run`) and has both from
  the facts about runs.  The table iterator is the two-level iterator of
  Model/Table.lean over `blockReader`; the facts about it are in Lemmas/TwoIter.
-/
import LcdbModel.Lemmas.TableRead
import LcdbModel.Lemmas.TwoIter
import LcdbModel.Lemmas.FilterBlock
namespace Lcdb

theorem findFilterHandle_ok (o : TableOpts) (file : Bytes) (paranoid : Bool) (ft : Footer) :
    ∃ r, findFilterHandle o file paranoid ft = .ok r := by
  unfold findFilterHandle
  split
  · exact ⟨_, rfl⟩
  · split
    · rename_i hrb; exact absurd hrb (readBlock_total _ _ _ _)
    · exact ⟨_, rfl⟩
    · rename_i contents _
      obtain ⟨t', h1, _⟩ := TIter.seek_step bytewiseBlockCmp filterKeyName (blockIterCreate contents)
        (blockIterCreate_inv _ contents)
      rw [h1]
      dsimp only
      split <;> exact ⟨_, rfl⟩

theorem readFilter_ok (file : Bytes) (paranoid : Bool) (hv : Bytes) :
    ∃ r, readFilter file paranoid hv = .ok r := by
  unfold readFilter
  split
  · exact ⟨_, rfl⟩
  · split
    · exact ⟨_, rfl⟩
    · rename_i hrb; exact absurd hrb (readBlock_total _ _ _ _)
    · exact ⟨_, rfl⟩

/-- `ldb_table_read_meta` swallows every error of the reads it makes -/
theorem readMeta_ok (o : TableOpts) (file : Bytes) (paranoid : Bool) (ft : Footer) :
    ∃ flt, readMeta o file paranoid ft = .ok flt := by
  unfold readMeta
  obtain ⟨r, e⟩ := findFilterHandle_ok o file paranoid ft
  rw [e]
  cases r with
  | none => exact ⟨_, rfl⟩
  | some v => exact readFilter_ok file paranoid v

/-- C18, open: on arbitrary file bytes `ldb_table_open` never faults -/
theorem tableOpen_no_fault (o : TableOpts) (file : Bytes) (paranoid : Bool) :
    tableOpen o file paranoid ≠ .error .fault := by
  unfold tableOpen
  split
  · intro hh; cases hh
  · split
    · intro hh; cases hh
    · split
      · rename_i e he
        intro hh
        cases hh
        exact readBlock_total _ _ _ _ he
      · split
        · rename_i e he
          obtain ⟨flt, hf⟩ := readMeta_ok o file paranoid _
          rw [hf] at he
          cases he
        · intro hh; cases hh

theorem tableOpen_fields (o : TableOpts) (file : Bytes) (paranoid : Bool) (t : Table)
    (h : tableOpen o file paranoid = .ok t) : t.opts = o ∧ t.file = file := by
  unfold tableOpen at h
  split at h
  · cases h
  · split at h
    · cases h
    · split at h
      · cases h
      · split at h
        · cases h
        · simp only [Except.ok.injEq] at h
          subst h
          exact ⟨rfl, rfl⟩

theorem blockReader_rdInv (c : BlockCmp) (t : Table) (verify : Bool) :
    RdInv c (blockReader t verify) := by
  intro hv d hd
  unfold blockReader at hd
  split at hd
  · cases hd; trivial
  · split at hd
    · cases hd
    · cases hd; trivial
    · cases hd; exact blockIterCreate_inv c _

theorem blockReader_total (t : Table) (verify : Bool) : RdTotal (blockReader t verify) := by
  intro hv
  unfold blockReader
  split
  · intro hh; cases hh
  · split
    · rename_i hrb; exact absurd hrb (readBlock_total _ _ _ _)
    · intro hh; cases hh
    · intro hh; cases hh

theorem tableIterCreate_inv (c : BlockCmp) (t : Table) : (tableIterCreate t).Inv c :=
  ⟨blockIterCreate_inv c t.index, fun d hd => by cases hd⟩

theorem tableIterCreate_enough (t : Table) : (tableIterCreate t).Enough (skipFuel t) := by
  obtain ⟨h1, h2⟩ := blockIterCreate_mono t.index
  refine ⟨h1, ?_⟩
  show (blockIterCreate t.index).restarts + 2 ≤ t.index.length + 2
  omega

theorem tableIter_run_ok (t : Table) (verify : Bool) (ops : List BlockOp) :
    ∃ it, (tableIterOps t verify).run ops (tableIterCreate t) = some it ∧ it.Inv t.cmpB := by
  obtain ⟨it, h1, g, _⟩ := twoIter_run_total (blockReader_rdInv t.cmpB t verify)
    (blockReader_total t verify) (skipFuel t) ops (tableIterCreate t)
    (tableIterCreate_inv t.cmpB t) (tableIterCreate_enough t)
  exact ⟨it, h1, g.1⟩

/-- C18, iterator: no sequence of table-iterator operations faults, for ANY table structure
    (arbitrary index bytes, arbitrary file) -/
theorem tableIter_no_fault_any (t : Table) (verify : Bool) (ops : List BlockOp) :
    (tableIterOps t verify).run ops (tableIterCreate t) ≠ none := by
  obtain ⟨it, h1, _⟩ := tableIter_run_ok t verify ops
  rw [h1]; intro hh; cases hh

theorem tableIter_no_fault (o : TableOpts) (file : Bytes) (paranoid verify : Bool) (t : Table)
    (_ht : tableOpen o file paranoid = .ok t) (ops : List BlockOp) :
    (tableIterOps t verify).run ops (tableIterCreate t) ≠ none :=
  tableIter_no_fault_any t verify ops

/-- a scan is a run of `next`s: it faults where the run does and ends with the run's status -/
theorem scanGo_status_run (t : Table) (verify : Bool) :
    ∀ (n : Nat) (a : TwoIter) (acc : List (Bytes × Bytes)),
      ∃ k, (scanGo t verify n a acc).map (·.status)
        = ((tableIterOps t verify).run (List.replicate k .next) a).map (·.getStatus) := by
  intro n
  induction n with
  | zero => intro a acc; exact ⟨0, rfl⟩
  | succ n ih =>
    intro a acc
    unfold scanGo
    by_cases hv : a.valid = true
    · rw [if_pos hv]
      have hap : (tableIterOps t verify).apply .next a = (tableIterOps t verify).next a := if_pos hv
      cases e : (tableIterOps t verify).next a with
      | none =>
        refine ⟨0 + 1, ?_⟩
        rw [List.replicate_succ]
        unfold IterOps.run
        rw [hap, e]
        rfl
      | some s =>
        obtain ⟨k, hk⟩ := ih s ((a.key, a.value) :: acc)
        refine ⟨k + 1, ?_⟩
        rw [List.replicate_succ]
        unfold IterOps.run
        rw [hap, e]
        exact hk
    · rw [if_neg hv]
      exact ⟨0, rfl⟩

theorem scanGo_flagged {t : Table} {verify : Bool} {n : Nat} {a : TwoIter}
    {acc : List (Bytes × Bytes)} {r : ScanResult} (ha : a.Inv t.cmpB) (hfl : a.Flagged)
    (h : scanGo t verify n a acc = some r) : r.status ≠ .ok := by
  obtain ⟨k, hk⟩ := scanGo_status_run t verify n a acc
  rw [h] at hk
  obtain ⟨a2, hr, (hs : a2.getStatus = r.status)⟩ := Option.map_eq_some_iff.1 hk.symm
  rw [← hs]
  exact (twoIter_run_good (blockReader_rdInv t.cmpB t verify) (blockReader_total t verify)
    (skipFuel t) _ a a2 ha hr).2.2.2 hfl

theorem tableIterAll_status_run (t : Table) (verify : Bool) (n : Nat) :
    ∃ k, (tableIterAll t verify n).map (·.status)
      = ((tableIterOps t verify).run (.first :: List.replicate k .next) (tableIterCreate t)).map
          (·.getStatus) := by
  unfold tableIterAll IterOps.run IterOps.apply
  cases (tableIterOps t verify).first (tableIterCreate t) with
  | none => exact ⟨0, rfl⟩
  | some a => exact scanGo_status_run t verify n a []

/-- C18, scan: the forward scan never faults, for ANY table structure -/
theorem tableIterAll_no_fault_any (t : Table) (verify : Bool) (n : Nat) :
    tableIterAll t verify n ≠ none := by
  obtain ⟨k, hk⟩ := tableIterAll_status_run t verify n
  obtain ⟨it, h1, _⟩ := tableIter_run_ok t verify (.first :: List.replicate k .next)
  intro h
  rw [h, h1] at hk
  cases hk

theorem tableIterAll_no_fault (o : TableOpts) (file : Bytes) (paranoid verify : Bool) (t : Table)
    (_ht : tableOpen o file paranoid = .ok t) (n : Nat) : tableIterAll t verify n ≠ none :=
  tableIterAll_no_fault_any t verify n

theorem tableIter_status_sticky (t : Table) (verify : Bool) (op : BlockOp) (it it' : TwoIter)
    (h : it.Inv t.cmpB) (he : (tableIterOps t verify).apply op it = some it')
    (hs : it.getStatus ≠ .ok) : it'.getStatus ≠ .ok :=
  (twoIter_apply_good (blockReader_rdInv t.cmpB t verify) (blockReader_total t verify) (skipFuel t)
    op it it' h he).2.2.2 hs

theorem filterRejects_total (t : Table) (iv ikey : Bytes) : filterRejects t iv ikey ≠ none := by
  unfold filterRejects
  split
  · rename_i fc p _ hp
    split
    · intro hh; cases hh
    · rename_i h _ _
      have hsafe : p.Safe := by
        unfold TableOpts.policy at hp
        cases hb : t.opts.filterBits with
        | none => rw [hb] at hp; cases hp
        | some b =>
          rw [hb] at hp
          simp only [Option.map_some, Option.some.injEq] at hp
          subst hp
          exact ifpPolicy_safe _ (bloomPolicy_safe b)
      rw [filterMatch_total p hsafe fc h.offset ikey]
      intro hh; cases hh
  · intro hh; cases hh

theorem filterRejects_nofilter (t : Table) (h : t.filter = none) (iv ikey : Bytes) :
    filterRejects t iv ikey = some false := by
  unfold filterRejects
  rw [h]

/-- C18, get: a point lookup never faults, for ANY table structure and arbitrary key bytes -/
theorem tableGet_no_fault_any (t : Table) (ikey : Bytes) (verify : Bool) :
    tableGet t ikey verify ≠ none := by
  unfold tableGet
  obtain ⟨ix, h1, _⟩ := TIter.seek_step t.cmpB ikey (blockIterCreate t.index)
    (blockIterCreate_inv _ _)
  rw [h1]
  dsimp only
  split
  · split
    · rename_i hfr; exact absurd hfr (filterRejects_total _ _ _)
    · intro hh; cases hh
    · cases hd : blockReader t verify ix.value with
      | none => exact absurd hd (blockReader_total t verify _)
      | some d =>
        have hinv := blockReader_rdInv t.cmpB t verify _ d hd
        dsimp only
        have hl : ∃ d', d.lift (TIter.seek t.cmpB ikey) = some d' := by
          cases d with
          | failed s => exact ⟨_, rfl⟩
          | opened ti =>
            obtain ⟨ti', h2, _⟩ := TIter.seek_step t.cmpB ikey ti hinv
            exact ⟨.opened ti', by simp only [DataIter.lift, h2, Option.map_some]⟩
        obtain ⟨d', hd'⟩ := hl
        rw [hd']
        intro hh; cases hh
  · intro hh; cases hh

theorem tableGet_no_fault (o : TableOpts) (file : Bytes) (paranoid verify : Bool) (t : Table)
    (_ht : tableOpen o file paranoid = .ok t) (ikey : Bytes) : tableGet t ikey verify ≠ none :=
  tableGet_no_fault_any t ikey verify

/-- C18 for whole tables: for ARBITRARY file bytes, opening the table does not
    fault, and if it opens then no sequence of iterator operations (arbitrary seek targets), no
    forward scan and no point lookup (arbitrary key bytes) faults -/
theorem table_no_fault (o : TableOpts) (file : Bytes) (paranoid : Bool) :
    tableOpen o file paranoid ≠ .error .fault ∧
    ∀ t, tableOpen o file paranoid = .ok t → ∀ verify : Bool,
      (∀ ops : List BlockOp, (tableIterOps t verify).run ops (tableIterCreate t) ≠ none) ∧
      (∀ n : Nat, tableIterAll t verify n ≠ none) ∧
      (∀ ikey : Bytes, tableGet t ikey verify ≠ none) :=
  ⟨tableOpen_no_fault o file paranoid, fun t _ verify =>
    ⟨tableIter_no_fault_any t verify, tableIterAll_no_fault_any t verify,
     fun ikey => tableGet_no_fault_any t ikey verify⟩⟩

theorem decodeTableFile_no_fault (o : TableOpts) (bytes : Bytes) :
    decodeTableFile o bytes ≠ .error "open: model fault" ∧
    decodeTableFile o bytes ≠ .error "scan: model fault" := by
  suffices h : ∀ m, decodeTableFile o bytes = .error m →
      m ≠ "open: model fault" ∧ m ≠ "scan: model fault" from
    ⟨fun e => (h _ e).1 rfl, fun e => (h _ e).2 rfl⟩
  intro m hm
  unfold decodeTableFile at hm
  split at hm
  · cases hm; simp
  · cases hm; simp
  · rename_i hf; exact absurd hf (tableOpen_no_fault _ _ _)
  · rename_i t _
    split at hm
    · rename_i hs; exact absurd hs (tableIterAll_no_fault_any t true _)
    · split at hm
      · cases hm; simp
      · split at hm
        · cases hm
        · cases hm; simp
        · cases hm; simp

end Lcdb
