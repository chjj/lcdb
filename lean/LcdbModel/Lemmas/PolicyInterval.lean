/-
  Order-theoretic core of the compaction-input contracts.  On a sorted level a set of files that is an *interval* of
  the level (`Interval`) has every other file wholly before it or wholly after it (`Sep`); appending a boundary file
  keeps that (`Sep.snoc`), and once no boundary file is left every file outside lies *beside* the set (`Beside`):
  before all of it, or after all of it without sharing a user key.  Hence it is newer, key by key (contract (a) of
  `stepOk (.compact ..)` for levels ≥ 1 and the level+1 half of (a'); this is where `LevelSeqDistinct` is needed), and
  every entry of the set is on one side of it (the gap the outputs go into).  A set of level-0 files closed under
  user-key overlap (`Closed0`) shares no user key with the rest of level 0.
-/
import LcdbModel.Lemmas.PolicyBoundary
namespace Lcdb.Policy
open Lcdb.CmpBasic Lcdb.Lsm

def LevelSeqDistinct (c : Cmp) (files : List FileMeta) : Prop :=
  ∀ f ∈ files, ∀ g ∈ files, ∀ x ∈ f.run, ∀ y ∈ g.run, c.compare x.ukey y.ukey = .eq → x.seq = y.seq → x = y

def Interval (c : Cmp) (lv S : List FileMeta) : Prop :=
  ∀ g ∈ lv, ∀ f ∈ S, ∀ f' ∈ S, ikl c (largest f) (smallest g) = true → ikl c (largest g) (smallest f') = true → g ∈ S

def Beside (c : Cmp) (S : List FileMeta) (g : FileMeta) : Prop :=
  (∀ f ∈ S, ikl c (largest g) (smallest f) = true) ∨ (∀ f ∈ S, c.compare f.lk g.sk = .lt)

def Closed0 (c : Cmp) (lv S : List FileMeta) : Prop :=
  ∀ g ∈ lv, g ∉ S → ∀ f ∈ S, userRangesOverlap c f g = false

theorem bounds_ikl {c : Cmp} {lv : List FileMeta} (hb : BoundsOk c lv) {f : FileMeta} (hf : f ∈ lv) :
    ikl c (largest f) (smallest f) = false := hb f hf

theorem sorted_cases {c : Cmp} {lv : List FileMeta} (hs : LevelSorted c lv) {f g : FileMeta}
    (hf : f ∈ lv) (hg : g ∈ lv) (hne : f ≠ g) :
    ikl c (largest f) (smallest g) = true ∨ ikl c (largest g) (smallest f) = true :=
  pairwise_symm_mem (R := fun f g => ikl c (largest f) (smallest g) = true ∨ ikl c (largest g) (smallest f) = true)
    (List.Pairwise.imp .inl hs) Or.symm hf hg hne

theorem Beside.newer {c : Cmp} {S : List FileMeta} {g : FileMeta} (h : Beside c S g) (hg : FileOk c g)
    (hS : ∀ f ∈ S, FileOk c f) (hkg : ∀ e ∈ g.run, e.kind ≤ 1)
    (hd : ∀ f ∈ S, ∀ x ∈ g.run, ∀ y ∈ f.run, c.compare x.ukey y.ukey = .eq → x.seq = y.seq → x = y) :
    ∀ f ∈ S, NewerThan c g.run f.run := by
  intro f hf
  rcases h with h | h
  · intro x hx y hy hxy
    -- x ≤ g.largest < f.smallest ≤ y
    have h2 : entryLt c x y = true := ikLt_of_lt_of_not_lt c
      (ikLt_of_not_lt_of_lt c (fileOk_le_largest hg hx) (h f hf)) (fileOk_smallest_le (hS f hf) hy)
    refine Nat.lt_of_le_of_ne
      (seq_le_of_entryLt h2 ((compare_eq_iff c _ _).mp hxy) (hkg x hx)) (fun e => ?_)
    rw [hd f hf x hx y hy hxy e.symm, entryLt_irrefl] at h2
    cases h2
  · exact newerThan_of_apart (hS f hf) hg (userRangesOverlap_false_iff.mpr (.inl (h f hf)))

theorem Beside.entries {c : Cmp} {S : List FileMeta} {g : FileMeta} (h : Beside c S g) (hS : ∀ f ∈ S, FileOk c f) :
    (∀ f ∈ S, ∀ e ∈ f.run, ikLt c g.lk g.lp e.ukey e.packed = true) ∨
    (∀ f ∈ S, ∀ e ∈ f.run, ikLt c e.ukey e.packed g.sk g.sp = true) :=
  h.imp (fun h f hf _ he => ikLt_of_lt_of_not_lt c (h f hf) (fileOk_smallest_le (hS f hf) he))
    (fun h f hf _ he => ikLt_of_not_lt_of_lt c (fileOk_le_largest (hS f hf) he) (ikLt_of_ult (h f hf)))

theorem Beside.mono {c : Cmp} {S T : List FileMeta} {g : FileMeta} (h : Beside c S g) (hsub : ∀ f ∈ T, f ∈ S) :
    Beside c T g :=
  h.imp (fun h f hf => h f (hsub f hf)) (fun h f hf => h f (hsub f hf))

def Sep (c : Cmp) (lv S : List FileMeta) : Prop :=
  ∀ g ∈ lv, g ∉ S → (∀ f ∈ S, ikl c (largest g) (smallest f) = true) ∨ (∀ f ∈ S, ikl c (largest f) (smallest g) = true)

theorem sep_of_interval {c : Cmp} {lv S : List FileMeta} (hs : LevelSorted c lv) (hsub : ∀ f ∈ S, f ∈ lv)
    (hint : Interval c lv S) : Sep c lv S := by
  intro g hg hgS
  have hne : ∀ f ∈ S, g ≠ f := fun f hf e => hgS (e ▸ hf)
  by_cases hafter : ∀ f ∈ S, ikl c (largest f) (smallest g) = true
  · exact .inr hafter
  · -- `g` is before some `f'` of `S`; were it after an `f` of `S`, it would lie between two members
    obtain ⟨f', hf'⟩ := Classical.not_forall.mp hafter
    obtain ⟨hf'S, hf'g⟩ := Classical.not_imp.mp hf'
    have hgf' := (sorted_cases hs hg (hsub f' hf'S) (hne f' hf'S)).resolve_right hf'g
    exact .inl fun f hf => (sorted_cases hs hg (hsub f hf) (hne f hf)).elim id
      (fun h => absurd (hint g hg f hf f' hf'S h hgf') hgS)

/-- a file after `S` is after `b` too, or it would start after `l` on `l`'s user key before `b` does -/
theorem Sep.snoc {c : Cmp} {lv S : List FileMeta} (hs : LevelSorted c lv) (hb : BoundsOk c lv) (hsub : ∀ f ∈ S, f ∈ lv)
    (hsep : Sep c lv S) {l : IKey} (hmax : IsMaxLargest c S l) {b : FileMeta} (hbm : b ∈ lv) (hbc : isCand c l b = true)
    (hmin : ∀ f ∈ lv, isCand c l f = true → ikl c (smallest f) (smallest b) = false) : Sep c lv (S ++ [b]) := by
  obtain ⟨hlb, hbk⟩ := isCand_iff.mp hbc
  obtain ⟨⟨f', hf'S, rfl⟩, _⟩ := hmax
  intro g hg hgSb
  have hgS : g ∉ S := fun h => hgSb (List.mem_append_left _ h)
  have hgb : g ≠ b := fun e => hgSb (e ▸ List.mem_append_right _ List.mem_cons_self)
  have hgg : ikl c (largest g) (smallest g) = false := bounds_ikl hb hg
  rcases hsep g hg hgS with hbef | haft
  · -- largest g < smallest f' ≤ largest f' < smallest b
    exact .inl (List.forall_mem_append.mpr ⟨hbef, List.forall_mem_singleton.mpr
      (ikLt_trans c (ikLt_of_lt_of_not_lt c (hbef f' hf'S) (bounds_ikl hb (hsub f' hf'S))) hlb)⟩)
  · refine .inr (List.forall_mem_append.mpr ⟨haft, List.forall_mem_singleton.mpr ?_⟩)
    refine (sorted_cases hs hg hbm hgb).resolve_left (fun hlt => ?_)
    -- largest f' < smallest g ≤ largest g < smallest b, and b starts on the user key of largest f'
    have hlg := haft f' hf'S
    have hk : g.sk = (largest f').1 := (ule_antisymm (ikLt_ne_gt hlg)
      (ule_trans ((BoundsOk.user hb) g hg) (hbk ▸ ikLt_ne_gt hlt))).symm
    have h : ikl c (smallest g) (smallest b) = true := ikLt_of_not_lt_of_lt c hgg hlt
    rw [hmin g hg (isCand_iff.mpr ⟨hlg, hk⟩)] at h
    cases h

/-- before `S` a file may share a user key with its first file; after it it cannot, or it would be a boundary file -/
theorem Sep.beside {c : Cmp} {lv S : List FileMeta} (hsep : Sep c lv S)
    (hcl : ∀ l, findLargestKey c S = some l → ∀ g ∈ lv, isCand c l g = false)
    {g : FileMeta} (hg : g ∈ lv) (hgS : g ∉ S) : Beside c S g := by
  refine (hsep g hg hgS).imp id (fun haft f hf => ?_)
  cases hk : findLargestKey c S with
  | none => rw [findLargestKey_eq_none.mp hk] at hf; cases hf
  | some l =>
    obtain ⟨⟨f', hf'S, rfl⟩, hmax⟩ := findLargestKey_isMax hk
    -- f.lk ≤ l < g.smallest; were `f.lk < g.sk` false, `g` would start after `l` on `l`'s user key
    have hlg := haft f' hf'S
    refine Classical.byContradiction (fun hlt => ?_)
    have hc := isCand_iff.mpr ⟨hlg, ule_antisymm
      (ule_trans (ule_of_not_lt hlt) (ne_gt_of_not_ikLt (hmax f hf))) (ikLt_ne_gt hlg)⟩
    rw [hcl _ hk g hg] at hc; cases hc

theorem addBoundaryInputs_beside {c : Cmp} {lv S r : List FileMeta} (hs : LevelSorted c lv) (hb : BoundsOk c lv)
    (hsub : ∀ f ∈ S, f ∈ lv) (hint : Interval c lv S) (h : addBoundaryInputs c lv S = some r) :
    (∀ g ∈ lv, g ∉ r → Beside c r g) ∧ (∀ f ∈ r, f ∈ lv) ∧ (∀ f ∈ S, f ∈ r) := by
  obtain ⟨r', hr', ⟨hsubr, hsup, hsep⟩, hcl⟩ := addBoundaryInputs_rule hb
    (fun acc => (∀ f ∈ acc, f ∈ lv) ∧ (∀ f ∈ S, f ∈ acc) ∧ Sep c lv acc)
    ⟨hsub, fun _ hf => hf, sep_of_interval hs hsub hint⟩
    (fun l acc b ⟨hsub, hsup, hsep⟩ hmax hbm hbc hmin =>
      ⟨List.forall_mem_append.mpr ⟨hsub, List.forall_mem_singleton.mpr hbm⟩,
        fun f hf => List.mem_append_left _ (hsup f hf), hsep.snoc hs hb hsub hmax hbm hbc hmin⟩)
  cases h.symm.trans hr'
  exact ⟨fun g hg hgr => hsep.beside hcl hg hgr, hsubr, hsup⟩

theorem interval_filter_rangeHits {c : Cmp} {lv : List FileMeta} (hb : BoundsOk c lv) (lo hi : Option Bytes) :
    Interval c lv (lv.filter (rangeHits c lo hi)) := by
  intro g hg f hf f' hf' h1 h2
  rw [List.mem_filter] at hf hf' ⊢
  refine ⟨hg, ?_⟩
  rw [rangeHits_iff] at hf hf' ⊢
  have hgu : ule c g.sk g.lk := (BoundsOk.user hb) g hg
  refine ⟨fun k hk => ?_, fun k hk => ?_⟩
  · exact ule_trans (hf.2.1 k hk) (ule_trans (ikLt_ne_gt h1) hgu)
  · exact ule_trans hgu (ule_trans (ikLt_ne_gt h2) (hf'.2.2 k hk))

theorem interval_singleton {c : Cmp} {lv : List FileMeta} (hb : BoundsOk c lv) {f : FileMeta} (hf : f ∈ lv) :
    Interval c lv [f] := by
  intro g hg a ha a' ha' h1 h2
  have e1 : a = f := List.mem_singleton.mp ha
  have e2 : a' = f := List.mem_singleton.mp ha'
  rw [e1] at h1; rw [e2] at h2
  exfalso
  have h3 : ikl c (largest f) (smallest f) = true := ikLt_trans c (ikLt_of_lt_of_not_lt c h1 (bounds_ikl hb hg)) h2
  rw [bounds_ikl hb hf] at h3; cases h3

theorem interval_prefix {c : Cmp} {lv p q : List FileMeta} (hs : LevelSorted c lv) (hb : BoundsOk c lv)
    (hsub : (p ++ q).Sublist lv) (hint : Interval c lv (p ++ q)) : Interval c lv p := by
  intro g hg f hf f' hf' h1 h2
  have hgF := hint g hg f (List.mem_append_left _ hf) f' (List.mem_append_left _ hf') h1 h2
  rcases List.mem_append.mp hgF with hgp | hgq
  · exact hgp
  · exfalso
    have hpw : (p ++ q).Pairwise (fun a b => ikLt c a.lk a.lp b.sk b.sp = true) := List.Pairwise.sublist hsub hs
    have h3 : ikl c (largest f') (smallest g) = true := (List.pairwise_append.mp hpw).2.2 f' hf' g hgq
    have h4 : ikl c (largest g) (largest f') = true := ikLt_of_lt_of_not_lt c h2 (bounds_ikl hb (hsub.subset (List.mem_append_left _ hf')))
    have h5 : ikl c (largest g) (smallest g) = true := ikLt_trans c h4 h3
    rw [bounds_ikl hb hg] at h5; cases h5

/-- level 0: a set closed under user-key overlap has no boundary file outside it, and none inside it either (a
    member's smallest key is not after the set's greatest largest key) -/
theorem addBoundaryInputs_closed0 {c : Cmp} {lv S : List FileMeta} (hb : BoundsOk c lv) (hsub : ∀ f ∈ S, f ∈ lv)
    (hcl : Closed0 c lv S) : addBoundaryInputs c lv S = some S := by
  obtain ⟨r, hr, rfl, _⟩ := addBoundaryInputs_rule hb (fun acc => acc = S) rfl (by
    rintro l acc g rfl ⟨⟨f', hf'S, hf'l⟩, hmax⟩ hg hc _
    exfalso
    obtain ⟨_, hgk'⟩ := isCand_iff.mp hc
    have hgS : g ∈ acc := by
      apply Classical.byContradiction
      intro hgS
      have := hcl g hg hgS f' hf'S
      rw [userRangesOverlap_false_iff] at this
      have hl1 : f'.lk = l.1 := by rw [← hf'l]; rfl
      rcases this with h | h
      · rw [hl1, hgk', compare_refl] at h; cases h
      · have h1 : ule c f'.sk f'.lk := (BoundsOk.user hb) f' (hsub f' hf'S)
        have h2 : ule c g.sk g.lk := (BoundsOk.user hb) g hg
        have : ule c f'.sk g.lk := ule_trans h1 (hl1 ▸ hgk' ▸ h2)
        exact not_lt_of_ule this h
    have h1 := cand_largest_gt hb hg hc
    rw [hmax g hgS] at h1; cases h1)
  exact hr

/-- contract (a) on level 0 -/
theorem newer_of_closed0 {c : Cmp} {lv S : List FileMeta} (hok : ∀ f ∈ lv, FileOk c f) (hsub : ∀ f ∈ S, f ∈ lv)
    (hcl : Closed0 c lv S) : ∀ g ∈ lv, g ∉ S → ∀ f ∈ S, NewerThan c g.run f.run := by
  intro g hg hgS f hfS
  exact newerThan_of_apart (hok f (hsub f hfS)) (hok g hg) (hcl g hg hgS f hfS)

end Lcdb.Policy
