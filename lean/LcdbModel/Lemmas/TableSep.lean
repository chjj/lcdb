/-
  The index keys chosen by the table builder (`ikeySeparator` between two blocks,
  `ikeySuccessor` after the last block) satisfy `sepOk` (Lemmas/TableDefs.lean); and the list
  lemmas about the two keys an index key lies between, `lastKeyOf` and `firstKeyOf` of a block.
-/
import LcdbModel.Lemmas.TableDefs
import LcdbModel.Props.KeyProps
import LcdbModel.Lemmas.InternalKey
namespace Lcdb

theorem ikeySeparator_sepOk (c : Cmp) (x y : Bytes) (hx : 8 ≤ x.length) (hy : 8 ≤ y.length)
    (hxs : x.length < 2 ^ 32) (hlt : ikeyCmp c x y = .lt) :
    sepOk c x (ikeySeparator c x y) (some y) := by
  obtain ⟨hle, hlt', h8⟩ := KeyProps.ikey_separator_contract c x y hx hy hlt
  obtain ⟨hshort, hform⟩ := ikeySeparator_cases c x y
  refine ⟨h8, Nat.lt_of_le_of_lt hshort hxs, hle, fun f hf => Option.some.inj hf ▸ hlt', ?_⟩
  rcases hform with h | ⟨hc, hlen, hcmp, h⟩
  · exact Or.inl h
  · refine Or.inr ?_
    subst hc
    rw [h, KeyProps.ikeyUser_ikeyEnc, KeyProps.ikeyNum_ikeyEnc _ _ _ packSeek_lt]
    refine ⟨rfl, hcmp, ?_⟩
    have hu : bytesCmp (ikeyUser x) (ikeyUser y) = .lt := by
      rcases (ikeyCmp_lt_iff .bytewise x y).mp hlt with h1 | ⟨h1, _⟩
      · exact h1
      · rw [← h1, KeyProps.shortestSeparator_self] at hlen
        exact absurd hlen (Nat.lt_irrefl _)
    exact (KeyProps.separator_contract _ _ hu).2

theorem ikeySuccessor_sepOk (c : Cmp) (x : Bytes) (hx : 8 ≤ x.length) (hxs : x.length < 2 ^ 32) :
    sepOk c x (ikeySuccessor c x) none := by
  obtain ⟨hle, h8⟩ := KeyProps.ikey_successor_contract c x hx
  obtain ⟨hlen, hform⟩ := ikeySuccessor_cases c x
  refine ⟨h8, Nat.lt_of_le_of_lt hlen hxs, hle, (fun _ hf => nomatch hf), ?_⟩
  rcases hform with h | ⟨hc, _, hcmp, h⟩
  · exact Or.inl h
  · refine Or.inr ?_
    subst hc
    rw [h, KeyProps.ikeyUser_ikeyEnc, KeyProps.ikeyNum_ikeyEnc _ _ _ packSeek_lt]
    exact ⟨rfl, hcmp⟩

theorem lastKeyOf_snoc (a : List (Bytes × Bytes)) (e : Bytes × Bytes) : lastKeyOf (a ++ [e]) = e.1 := by
  simp [lastKeyOf]

theorem lastKeyOf_mem (b : List (Bytes × Bytes)) (h : b ≠ []) : ∃ e ∈ b, lastKeyOf b = e.1 := by
  refine ⟨b.getLast h, List.getLast_mem h, ?_⟩
  simp [lastKeyOf, List.getLast?_eq_some_getLast h]

theorem firstKeyOf_mem (b : List (Bytes × Bytes)) (h : b ≠ []) : ∃ e ∈ b, firstKeyOf b = e.1 := by
  cases b with
  | nil => exact absurd rfl h
  | cons x xs => exact ⟨x, List.mem_cons_self, rfl⟩

theorem firstKeyOf_append (a b : List (Bytes × Bytes)) (h : a ≠ []) : firstKeyOf (a ++ b) = firstKeyOf a := by
  cases a with
  | nil => exact absurd rfl h
  | cons x xs => rfl

theorem firstKeyOf_head {es : List (Bytes × Bytes)} {e : Bytes × Bytes} (h : es.head? = some e) :
    firstKeyOf es = e.1 := by
  simp [firstKeyOf, h]

theorem le_lastKeyOf {cmp : Bytes → Bytes → Ordering} (hl : OrdLaws cmp)
    {es : List (Bytes × Bytes)} (hs : SortedKeys cmp (es.map (·.1))) {e : Bytes × Bytes}
    (he : e ∈ es) : cmp e.1 (lastKeyOf es) ≠ .gt := by
  rcases List.eq_nil_or_concat es with rfl | ⟨init, last, rfl⟩
  · cases he
  · rw [List.concat_eq_append] at he hs ⊢
    rw [lastKeyOf_snoc]
    rw [List.map_append, SortedKeys, List.pairwise_append] at hs
    rcases List.mem_append.mp he with h | h
    · rw [hs.2.2 e.1 (List.mem_map_of_mem h) last.1 List.mem_cons_self]; decide
    · rw [List.mem_singleton.mp h, hl.refl]; decide

end Lcdb
