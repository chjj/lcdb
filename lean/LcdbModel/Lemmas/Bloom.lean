/-
  Lemmas about LcdbModel.Model.Bloom, and the two predicates on filter policies over which the filter block and the
  table are stated: `Policy.Sound` and `Policy.Safe`.
-/
import LcdbModel.Model.Bloom
namespace Lcdb

def bitOn (data : Array UInt8) (pos : Nat) : Prop :=
  (data.getD (pos / 8) 0).toNat.testBit (pos % 8) = true

theorem orByte_toNat (b : UInt8) (j : Nat) (hj : j < 8) :
    (UInt8.ofNat (b.toNat ||| 2 ^ j)).toNat = b.toNat ||| 2 ^ j := by
  rw [UInt8.toNat_ofNat']
  apply Nat.mod_eq_of_lt
  apply Nat.or_lt_two_pow (UInt8.toNat_lt b)
  exact Nat.pow_lt_pow_right (by decide) hj

theorem getD_setBit (data : Array UInt8) (pos i : Nat) :
    (setBit data pos).getD i 0 =
      if pos / 8 = i ∧ i < data.size then UInt8.ofNat ((data.getD i 0).toNat ||| 2 ^ (pos % 8))
      else data.getD i 0 := by
  simp only [Array.getD_eq_getD_getElem?, setBit, Array.getElem?_modify]
  by_cases hi : i < data.size <;> by_cases hp : pos / 8 = i <;> simp [hi, hp]

theorem size_setBit (data : Array UInt8) (pos : Nat) : (setBit data pos).size = data.size :=
  Array.size_modify ..

/-- `q / 8 < data.size`: `Array.modify` in `setBit` ignores an index outside the array -/
theorem bitOn_setBit (data : Array UInt8) (pos q : Nat) :
    bitOn (setBit data pos) q ↔ bitOn data q ∨ pos = q ∧ q / 8 < data.size := by
  unfold bitOn
  rw [getD_setBit]
  by_cases hc : pos / 8 = q / 8 ∧ q / 8 < data.size
  · rw [if_pos hc, orByte_toNat _ _ (Nat.mod_lt _ (by decide)), Nat.testBit_or, Nat.testBit_two_pow, Bool.or_eq_true,
      decide_eq_true_eq]
    have : pos = q ↔ pos % 8 = q % 8 := by omega
    rw [this, and_iff_left hc.2]
  · rw [if_neg hc]
    exact (or_iff_left fun h => hc ⟨by rw [h.1], h.2⟩).symm

theorem bitOn_foldl_setBit (ps : List Nat) : ∀ data : Array UInt8,
    (ps.foldl setBit data).size = data.size ∧
      ∀ q, bitOn (ps.foldl setBit data) q ↔ bitOn data q ∨ q ∈ ps ∧ q / 8 < data.size := by
  induction ps with
  | nil => simp
  | cons p ps ih =>
    intro data
    rw [List.foldl_cons, (ih _).1, size_setBit]
    refine ⟨rfl, fun q => ?_⟩
    rw [(ih _).2, bitOn_setBit, size_setBit, List.mem_cons, or_and_right, or_assoc, @eq_comm _ p]

/-- the bit positions of the `i` probes of `bloom_add` / `bloom_match` that start at hash `h` -/
def probes (bits delta : Nat) : Nat → Nat → List Nat
  | 0, _ => []
  | i + 1, h => h % bits :: probes bits delta i ((h + delta) % 2 ^ 32)

theorem probes_byte_lt {n delta i h p : Nat} (hpos : 0 < n) (hp : p ∈ probes (n * 8) delta i h) : p / 8 < n := by
  induction i generalizing h with
  | zero => nomatch hp
  | succ i ih =>
    rcases List.mem_cons.mp hp with rfl | hp
    · have := Nat.mod_lt h (by omega : 0 < n * 8)
      omega
    · exact ih hp

theorem bloomAddGo_eq (bits delta : Nat) : ∀ (i h : Nat) (data : Array UInt8),
    bloomAddGo bits delta i h data = (probes bits delta i h).foldl setBit data
  | 0, _, _ => rfl
  | i + 1, _, _ => bloomAddGo_eq bits delta i _ _

theorem foldl_bloomAdd (k bits : Nat) (keys : List Bytes) (data : Array UInt8) :
    keys.foldl (bloomAdd k bits) data =
      (keys.flatMap fun key => probes bits (bloomDelta (bloomHash key)) k (bloomHash key)).foldl setBit data := by
  rw [List.foldl_flatMap]
  congr
  funext d key
  exact bloomAddGo_eq _ _ _ _ _

theorem bloomProbeGo_eq (filter : Bytes) (bits delta : Nat) : ∀ (i h : Nat),
    bloomProbeGo filter bits delta i h =
      (probes bits delta i h).all fun pos => (filter.getD (pos / 8) 0).toNat.testBit (pos % 8)
  | 0, _ => rfl
  | i + 1, h => by
    simp only [bloomProbeGo, probes, List.all_cons, bloomProbeGo_eq filter bits delta i, Bool.if_false_right,
      Bool.decide_eq_true]

theorem bloomMatch_snoc (bs : Bytes) (kb : UInt8) (key : Bytes) (h : 1 ≤ bs.length) :
    bloomMatch (bs ++ [kb]) key =
      if kb.toNat > 30 then true
      else bloomProbeGo (bs ++ [kb]) (bs.length * 8) (bloomDelta (bloomHash key)) kb.toNat (bloomHash key) := by
  unfold bloomMatch
  simp only [List.length_append, List.length_singleton, Nat.add_sub_cancel]
  rw [if_neg (by omega), List.getD_eq_getElem?_getD, List.getElem?_append_right (Nat.le_refl _), Nat.sub_self]
  rfl

theorem xor_shift_lt {x : Nat} (s : Nat) (h : x < 2 ^ 32) : x ^^^ (x / 2 ^ s) < 2 ^ 32 :=
  Nat.xor_lt_two_pow h (Nat.lt_of_le_of_lt (Nat.div_le_self _ _) h)

theorem hashMix_lt {h w : Nat} : hashMix h w < 2 ^ 32 :=
  xor_shift_lt 16 (Nat.mod_lt _ (by decide))

theorem hashTail_lt {h t : Nat} : hashTail h t < 2 ^ 32 :=
  xor_shift_lt 24 (Nat.mod_lt _ (by decide))

theorem hashGo_lt (data : Bytes) (h : Nat) (hh : h < 2 ^ 32) : hashGo h data < 2 ^ 32 := by
  fun_induction hashGo h data with
  | case1 h a b c d rest ih => exact ih hashMix_lt
  | case2 h => exact hh
  | case3 h a => exact hashTail_lt
  | case4 h a b => exact hashTail_lt
  | case5 h a b c => exact hashTail_lt

theorem ldbHash_lt (data : Bytes) (seed : Nat) : ldbHash data seed < 2 ^ 32 :=
  hashGo_lt data _ (Nat.mod_lt _ (by decide))

theorem bloomBytes_ge (bitsPerKey n : Nat) : 8 ≤ bloomBytes bitsPerKey n := by
  unfold bloomBytes
  simp only
  split <;> omega

theorem bloomK_le (bitsPerKey : Nat) : 1 ≤ bloomK bitsPerKey ∧ bloomK bitsPerKey ≤ 30 := by
  unfold bloomK
  simp only
  split
  · omega
  · split <;> omega

theorem bloomBitsArray_size (bitsPerKey : Nat) (keys : List Bytes) :
    (bloomBitsArray bitsPerKey keys).size = bloomBytes bitsPerKey keys.length := by
  unfold bloomBitsArray
  rw [foldl_bloomAdd, (bitOn_foldl_setBit _ _).1, Array.size_replicate]

theorem bloomBitsArray_probes {bitsPerKey : Nat} {keys : List Bytes} {key : Bytes} (hk : key ∈ keys) {p : Nat}
    (hp : p ∈ probes (bloomBytes bitsPerKey keys.length * 8) (bloomDelta (bloomHash key)) (bloomK bitsPerKey)
      (bloomHash key)) : bitOn (bloomBitsArray bitsPerKey keys) p := by
  unfold bloomBitsArray
  rw [foldl_bloomAdd]
  refine ((bitOn_foldl_setBit _ _).2 p).mpr (.inr ⟨List.mem_flatMap.mpr ⟨key, hk, hp⟩, ?_⟩)
  rw [Array.size_replicate]
  have := bloomBytes_ge bitsPerKey keys.length
  exact probes_byte_lt (by omega) hp

theorem bloomBuild_length (bits : Nat) (keys : List Bytes) :
    (bloomBuild bits keys).length = bloomBytes bits keys.length + 1 := by
  unfold bloomBuild
  rw [List.length_append, Array.length_toList, bloomBitsArray_size]; rfl

theorem bloomProbeGoC_eq (filter : Bytes) (bits delta : Nat) :
    ∀ (i h : Nat), (∀ p ∈ probes bits delta i h, p / 8 < filter.length) →
      bloomProbeGoC filter bits delta i h = some (bloomProbeGo filter bits delta i h) := by
  intro i
  induction i with
  | zero => intro h _; rfl
  | succ i ih =>
    intro h hp
    simp only [bloomProbeGoC, bloomProbeGo]
    have hlt := hp _ List.mem_cons_self
    rw [List.getElem?_eq_getElem hlt, List.getD_eq_getElem?_getD, List.getElem?_eq_getElem hlt]
    simp only [Option.getD_some]
    split
    · exact ih _ fun p h => hp p (List.mem_cons_of_mem _ h)
    · rfl

theorem bloomMatch_total (filter key : Bytes) : bloomMatchC filter key = some (bloomMatch filter key) := by
  unfold bloomMatchC bloomMatch
  by_cases hl : filter.length < 2
  · simp [hl]
  · simp only [hl, if_false]
    have hlt : filter.length - 1 < filter.length := by omega
    rw [List.getElem?_eq_getElem hlt, List.getD_eq_getElem?_getD, List.getElem?_eq_getElem hlt]
    simp only [Option.getD_some]
    by_cases hk : (filter[filter.length - 1]).toNat > 30
    · simp [hk]
    · simp only [hk, if_false]
      exact bloomProbeGoC_eq filter _ _ _ _ fun p hp =>
        Nat.lt_of_lt_of_le (probes_byte_lt (by omega) hp) (Nat.sub_le _ _)

def Policy.Sound (p : Policy) : Prop :=
  ∀ (keys : List Bytes) (k : Bytes), k ∈ keys → p.mayMatch (p.build keys) k = true

/-- the policy's `match` reads only inside the filter slice it is given -/
def Policy.Safe (p : Policy) : Prop := ∀ f k, p.mayMatchC f k = some (p.mayMatch f k)

theorem bloomPolicy_safe (bits : Nat) : (bloomPolicy bits).Safe := fun f k => bloomMatch_total f k

theorem ifpPolicy_safe (p : Policy) (h : p.Safe) : (ifpPolicy p).Safe := fun f k => h f (stripTrailer k)

/-- 9 = the 8 bytes of the 64-bit minimum of `bloom_size` (bloom.c:83-84) plus the `k` byte (bloom.c:124) -/
theorem ifpBloom_size (bits : Nat) (keys : List Bytes) (h : keys ≠ []) :
    ((ifpPolicy (bloomPolicy bits)).build keys).length ≤ (bits + 9) * keys.length := by
  show (bloomBuild bits (keys.map stripTrailer)).length ≤ _
  have := List.length_pos_iff.mpr h
  rw [bloomBuild_length, List.length_map, bloomBytes, Nat.add_mul, Nat.mul_comm bits]
  generalize keys.length * bits = n at *
  split <;> omega

end Lcdb
