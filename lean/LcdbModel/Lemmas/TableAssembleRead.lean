/-
  Reading back the pieces of `tableAssemble o bss`, and their size bounds, for ANY partition `bss`
  of the entries into data blocks.
-/
import LcdbModel.Lemmas.TableAssemble
import LcdbModel.Lemmas.TableRead
import LcdbModel.Lemmas.TableSep
import LcdbModel.Props.FilterProps
import LcdbModel.Lemmas.ListBasic
namespace Lcdb

theorem dataW_offset (o : TableOpts) (off : Nat) (b : List (Bytes × Bytes)) : (dataW o off b).2.offset = off := rfl

theorem dataW_length (o : TableOpts) (off : Nat) (b : List (Bytes × Bytes)) :
    (dataW o off b).1.length = (dataW o off b).2.size + blockTrailerSize := writeBlock_length _ _ _

theorem layGo_map_fst (o : TableOpts) (bss : List (List (Bytes × Bytes))) :
    ∀ off, (layGo o off bss).map (·.1) = bss := by
  induction bss with
  | nil => intro off; rfl
  | cons b rest ih => intro off; simp only [layGo, List.map_cons, ih]

theorem lay_mem {o : TableOpts} {bss : List (List (Bytes × Bytes))} {bh : List (Bytes × Bytes) × BlockHandle} (h : bh ∈ layGo o 0 bss) : bh.1 ∈ bss := by
  have := List.mem_map_of_mem (f := (·.1)) h
  rwa [layGo_map_fst] at this

theorem lay_flatMap (o : TableOpts) (bss : List (List (Bytes × Bytes))) :
    (layGo o 0 bss).flatMap (·.1) = bss.flatten := by
  rw [List.flatMap_def, layGo_map_fst]

theorem fblGo_eq (o : TableOpts) (bss : List (List (Bytes × Bytes))) :
    ∀ off, fblGo o off bss = (layGo o off bss).map fun bh => (bh.2.offset, bh.1.map (·.1)) := by
  induction bss with
  | nil => intro off; rfl
  | cons b rest ih => intro off; simp only [fblGo, layGo, List.map_cons, ih, dataW_offset]

theorem fblGo_pairwise (o : TableOpts) (bss : List (List (Bytes × Bytes))) :
    ∀ off, List.Pairwise (fun a b : Nat × List Bytes => a.1 ≤ b.1) (fblGo o off bss) ∧
      ∀ x ∈ fblGo o off bss, off ≤ x.1 ∧ x.1 ≤ off + (dataBytes o off bss).length := by
  intro off
  fun_induction fblGo o off bss with
  | case1 => simp
  | case2 off b rest ih =>
    obtain ⟨ih1, ih2⟩ := ih
    simp only [dataBytes, List.length_append, List.pairwise_cons, List.mem_cons]
    refine ⟨⟨fun x hx => ?_, ih1⟩, fun x hx => ?_⟩
    · have := ih2 x hx; omega
    · rcases hx with rfl | hx
      · omega
      · have := ih2 x hx; omega

theorem layGo_spec (o : TableOpts) (v : Bool) (bss : List (List (Bytes × Bytes))) :
    ∀ (pre suf : Bytes), ∀ bh ∈ layGo o pre.length bss,
      bh.2.offset + bh.2.size + blockTrailerSize ≤ pre.length + (dataBytes o pre.length bss).length ∧
      ((blockBuild o.restartInterval bh.1).length ≤ Snappy.maxLength →
        readBlock (pre ++ dataBytes o pre.length bss ++ suf) bh.2.offset bh.2.size v
          = .ok (blockBuild o.restartInterval bh.1)) := by
  induction bss with
  | nil => intro pre suf bh hbh; cases hbh
  | cons b rest ih =>
    intro pre suf bh hbh
    simp only [dataBytes, List.length_append]
    rcases List.mem_cons.mp hbh with rfl | hbh
    · refine ⟨by simp only [dataW_offset, dataW_length]; omega, fun hraw => ?_⟩
      have := readBlock_written o pre (dataBytes o (pre.length + (dataW o pre.length b).1.length) rest ++ suf) _ v hraw
      simp only [dataW, List.append_assoc] at this ⊢
      exact this
    · obtain ⟨h1, h2⟩ := ih (pre ++ (dataW o pre.length b).1) suf bh (by rw [List.length_append]; exact hbh)
      simp only [List.length_append, List.append_assoc] at h1 h2 ⊢
      exact ⟨by omega, h2⟩

theorem afterFilter_eq (off : Nat) (fc : Option Bytes) : afterFilter off fc = off + (filterBytes fc).length := by
  cases fc with
  | none => rfl
  | some c => simp only [afterFilter, filterBytes, rawBlockBytes_length, blockTrailerSize, Nat.add_assoc]

theorem tailBytes_length (o : TableOpts) (off : Nat) (fc : Option Bytes) (ixraw : Bytes) :
    (tailBytes o off fc ixraw).length = (filterBytes fc).length + (metaW o off fc).1.length +
      (indexW o off fc ixraw).1.length + (footerEncode (tailFooter o off fc ixraw)).length := by
  simp only [tailBytes, List.length_append]; omega

theorem tail_meta_read (o : TableOpts) (DB : Bytes) (fc : Option Bytes) (ixraw : Bytes) (v : Bool)
    (h : (blockBuild o.restartInterval (metaEntries DB.length fc)).length ≤ Snappy.maxLength) :
    readBlock (DB ++ tailBytes o DB.length fc ixraw) (metaW o DB.length fc).2.offset
      (metaW o DB.length fc).2.size v = .ok (blockBuild o.restartInterval (metaEntries DB.length fc)) := by
  have := readBlock_written o (DB ++ filterBytes fc)
    ((indexW o DB.length fc ixraw).1 ++ footerEncode (tailFooter o DB.length fc ixraw)) _ v h
  rw [List.length_append, ← afterFilter_eq] at this
  unfold metaW tailBytes
  simp only [List.append_assoc] at this ⊢
  exact this

theorem tail_index_read (o : TableOpts) (DB : Bytes) (fc : Option Bytes) (ixraw : Bytes) (v : Bool)
    (h : ixraw.length ≤ Snappy.maxLength) :
    readBlock (DB ++ tailBytes o DB.length fc ixraw) (indexW o DB.length fc ixraw).2.offset
      (indexW o DB.length fc ixraw).2.size v = .ok ixraw := by
  have := readBlock_written o (DB ++ filterBytes fc ++ (metaW o DB.length fc).1)
    (footerEncode (tailFooter o DB.length fc ixraw)) ixraw v h
  rw [List.length_append, List.length_append, ← afterFilter_eq] at this
  unfold indexW tailBytes
  simp only [List.append_assoc] at this ⊢
  exact this

theorem tail_filter_read (o : TableOpts) (DB c ixraw : Bytes) (v : Bool) (hc : c.length < 2 ^ 32) :
    readBlock (DB ++ tailBytes o DB.length (some c) ixraw) DB.length c.length v = .ok c := by
  have := readBlock_raw_written DB ((metaW o DB.length (some c)).1 ++ ((indexW o DB.length (some c) ixraw).1 ++
    footerEncode (tailFooter o DB.length (some c) ixraw))) c v hc
  unfold tailBytes
  simp only [filterBytes, List.append_assoc] at this ⊢
  exact this

theorem inRange_arith {N d fl a m ms x xs : Nat} (h : d + (fl + m + x) < N)
    (ha : a = d + fl) (hm : m = ms + 5) (hx : x = xs + 5) :
    a < N ∧ ms < N ∧ a + m < N ∧ xs < N := by
  omega

theorem tail_footer_inRange (o : TableOpts) (DB : Bytes) (fc : Option Bytes) (ixraw : Bytes)
    (h : DB.length + ((filterBytes fc).length + (metaW o DB.length fc).1.length +
      (indexW o DB.length fc ixraw).1.length) < 2 ^ 64) :
    (tailFooter o DB.length fc ixraw).InRange :=
  inRange_arith h (afterFilter_eq DB.length fc) (writeBlock_length _ _ _) (writeBlock_length _ _ _)

theorem tail_footer_read (o : TableOpts) (DB : Bytes) (fc : Option Bytes) (ixraw : Bytes)
    (h : (DB ++ tailBytes o DB.length fc ixraw).length < 2 ^ 64) :
    ¬ (DB ++ tailBytes o DB.length fc ixraw).length < footerSize ∧
    footerDecode (pread (DB ++ tailBytes o DB.length fc ixraw)
      ((DB ++ tailBytes o DB.length fc ixraw).length - footerSize) footerSize)
      = some (tailFooter o DB.length fc ixraw) := by
  have hin := tail_footer_inRange o DB fc ixraw (by rw [List.length_append, tailBytes_length] at h; omega)
  have hfl := footer_length _ hin
  have hfs : footerSize = 48 := rfl
  have hsplit : DB ++ tailBytes o DB.length fc ixraw
      = (DB ++ filterBytes fc ++ (metaW o DB.length fc).1 ++ (indexW o DB.length fc ixraw).1)
        ++ footerEncode (tailFooter o DB.length fc ixraw) ++ [] := by
    simp only [tailBytes, List.append_assoc, List.append_nil]
  have hlen : (DB ++ tailBytes o DB.length fc ixraw).length
      = (DB ++ filterBytes fc ++ (metaW o DB.length fc).1 ++ (indexW o DB.length fc ixraw).1).length + 48 := by
    rw [hsplit]; simp only [List.length_append, hfl, List.length_nil]
  refine ⟨by rw [hlen, hfs]; omega, ?_⟩
  rw [hlen, hfs, Nat.add_sub_cancel, hsplit, ← hfl, pread_append_mid]
  exact footerDecode_roundtrip _ hin

def mkInfo (o : TableOpts) (sep : Bytes) (bh : List (Bytes × Bytes) × BlockHandle) : BlkInfo :=
  { sep := sep, hv := handleEncode bh.2, handle := bh.2,
    contents := blockBuild o.restartInterval bh.1, entries := bh.1 }

/-- what the reader finds for the index entries `ixGo` -/
def infoGo (o : TableOpts) : Option (List (Bytes × Bytes) × BlockHandle) →
    List (List (Bytes × Bytes) × BlockHandle) → List BlkInfo
  | none, [] => []
  | some p, [] => [mkInfo o (ikeySuccessor o.cmp (lastKeyOf p.1)) p]
  | none, bh :: rest => infoGo o (some bh) rest
  | some p, bh :: rest =>
    mkInfo o (ikeySeparator o.cmp (lastKeyOf p.1) (firstKeyOf bh.1)) p :: infoGo o (some bh) rest

theorem ixGo_eq_infoGo (o : TableOpts) (bl : List (List (Bytes × Bytes) × BlockHandle)) :
    ∀ prev : Option (List (Bytes × Bytes) × BlockHandle),
      ixGo o.cmp (prev.map fun p => (lastKeyOf p.1, p.2)) bl
        = (infoGo o prev bl).map fun b => (b.sep, b.hv) := by
  intro prev
  fun_induction infoGo o prev bl with
  | case1 => rfl
  | case2 p => rfl
  | case3 bh rest ih => exact ih
  | case4 p bh rest ih =>
    rw [List.map_cons, ← ih]
    rfl

theorem mem_infoGo (o : TableOpts) (bl : List (List (Bytes × Bytes) × BlockHandle)) :
    ∀ prev, ∀ x ∈ infoGo o prev bl, ∃ sep bh, x = mkInfo o sep bh ∧ bh ∈ prev.toList ++ bl ∧
      (sep = ikeySuccessor o.cmp (lastKeyOf bh.1) ∨ ∃ y, sep = ikeySeparator o.cmp (lastKeyOf bh.1) y) := by
  intro prev
  fun_induction infoGo o prev bl with
  | case1 => intro x hx; cases hx
  | case2 p => intro x hx; exact ⟨_, p, List.mem_singleton.mp hx, List.mem_cons_self, Or.inl rfl⟩
  | case3 bh rest ih => exact ih
  | case4 p bh rest ih =>
    intro x hx
    rcases List.mem_cons.mp hx with rfl | hx
    · exact ⟨_, p, rfl, List.mem_cons_self, Or.inr ⟨_, rfl⟩⟩
    · obtain ⟨sep, bh', h1, h2, h3⟩ := ih x hx
      exact ⟨sep, bh', h1, List.mem_cons_of_mem p h2, h3⟩

theorem infoGo_entries (o : TableOpts) (bl : List (List (Bytes × Bytes) × BlockHandle)) :
    ∀ prev, (infoGo o prev bl).flatMap (·.entries) = (prev.toList ++ bl).flatMap (·.1) := by
  intro prev
  fun_induction infoGo o prev bl with
  | case1 => rfl
  | case2 p => simp [mkInfo]
  | case3 bh rest ih => exact ih
  | case4 p bh rest ih => 
    rw [List.flatMap_cons, ih]
    rfl

theorem blkInfos_of_forall (file : Bytes) (infos : List BlkInfo)
    (h : ∀ b ∈ infos, blkInfo file (b.sep, b.hv) = some b) :
    blkInfos file (infos.map fun b => (b.sep, b.hv)) = some infos := by
  induction infos with
  | nil => rfl
  | cons b rest ih =>
    simp only [List.map_cons, blkInfos, h b List.mem_cons_self,
      ih (fun b' hb' => h b' (List.mem_cons_of_mem _ hb'))]

theorem blkInfo_mk (o : TableOpts) (file sep : Bytes) (bh : List (Bytes × Bytes) × BlockHandle)
    (hoff : bh.2.offset < 2 ^ 64) (hsz : bh.2.size < 2 ^ 64)
    (hread : readBlock file bh.2.offset bh.2.size true = .ok (blockBuild o.restartInterval bh.1))
    (hparse : blockParse (blockBuild o.restartInterval bh.1) = some bh.1) :
    blkInfo file (sep, handleEncode bh.2) = some (mkInfo o sep bh) := by
  have hr := handle_roundtrip bh.2 [] hoff hsz
  rw [List.append_nil] at hr
  simp only [blkInfo, hr, hread, hparse, mkInfo]

theorem sepsOk_infoGo (o : TableOpts) (bl : List (List (Bytes × Bytes) × BlockHandle)) :
    ∀ prev : Option (List (Bytes × Bytes) × BlockHandle),
      (∀ bh ∈ prev.toList ++ bl, bh.1 ≠ [] ∧ ∀ e ∈ bh.1, 8 ≤ e.1.length ∧ e.1.length < 2 ^ 32) →
      SortedKeys (ikeyCmp o.cmp) (((prev.toList ++ bl).flatMap (·.1)).map (·.1)) →
      sepsOk o.cmp (infoGo o prev bl) := by
  intro prev
  fun_induction infoGo o prev bl with
  | case1 => exact fun _ _ => trivial
  | case2 p =>
    intro hk _
    obtain ⟨hne, hke⟩ := hk p List.mem_cons_self
    obtain ⟨e, he, hl⟩ := lastKeyOf_mem p.1 hne
    show sepOk o.cmp (lastKeyOf p.1) (ikeySuccessor o.cmp (lastKeyOf p.1)) none
    rw [hl]
    exact ikeySuccessor_sepOk o.cmp e.1 (hke e he).1 (hke e he).2
  | case3 bh rest ih => exact ih
  | case4 p bh rest ih =>
    intro hk hs
    have hs' : SortedKeys (ikeyCmp o.cmp)
        (p.1.map (·.1) ++ ((bh :: rest).flatMap (·.1)).map (·.1)) := by
      rw [← List.map_append]; exact hs
    obtain ⟨_, hs2, hs3⟩ := List.pairwise_append.mp hs'
    have ih' := ih (fun x hx => hk x (List.mem_cons_of_mem p hx)) hs2
    obtain ⟨sep', xs, hx⟩ : ∃ sep xs, infoGo o (some bh) rest = mkInfo o sep bh :: xs := by
      cases rest <;> exact ⟨_, _, rfl⟩
    rw [hx] at ih' ⊢
    refine ⟨?_, ih'⟩
    obtain ⟨hne, hke⟩ := hk p List.mem_cons_self
    obtain ⟨hne', hke'⟩ := hk bh (List.mem_cons_of_mem p List.mem_cons_self)
    obtain ⟨e, he, hl⟩ := lastKeyOf_mem p.1 hne
    obtain ⟨e', he', hf⟩ := firstKeyOf_mem bh.1 hne'
    show sepOk o.cmp (lastKeyOf p.1) (ikeySeparator o.cmp (lastKeyOf p.1) (firstKeyOf bh.1))
      (some (firstKeyOf bh.1))
    rw [hl, hf]
    exact ikeySeparator_sepOk o.cmp e.1 e'.1 (hke e he).1 (hke' e' he').1 (hke e he).2
      (hs3 e.1 (List.mem_map_of_mem he) e'.1
        (List.mem_map_of_mem (List.mem_flatMap.mpr ⟨bh, List.mem_cons_self, he'⟩)))

/-- Bound that keeps every raw (uncompressed) data block, the raw index block and the raw
    metaindex block below 2^31; each of the three is compared with it on its own.  64 per entry is
    a round number above what an entry costs in either block: in its data block 19
    (`blockSizeBound`), and 13 more for the first entry when the block's restart array and trailer
    are counted (`dataBytes_length_le`); in the index block, charged to the last entry of each data
    block, that block's index entry (key no longer than the last key, handle of at most
    `handleMaxLen` = 20 bytes, 19 again).  128 is a round number above the metaindex block
    (name 34 + handle 20 + 19 + 8); it also pays the 8 of `blockSizeBound` for the other blocks. -/
def tableRawBound (es : List (Bytes × Bytes)) : Nat :=
  (es.map fun e => e.1.length + e.2.length + 64).sum + 128

def wt64 (e : Bytes × Bytes) : Nat := e.1.length + e.2.length + 64

theorem tableRawBound_eq (es : List (Bytes × Bytes)) : tableRawBound es = (es.map wt64).sum + 128 := rfl

theorem blockSizeBound_le_raw (bss : List (List (Bytes × Bytes))) (b : List (Bytes × Bytes)) (hb : b ∈ bss) :
    blockSizeBound b ≤ tableRawBound bss.flatten := by
  have h1 : (b.map fun e => e.1.length + e.2.length + 19).sum ≤ (b.map wt64).sum :=
    sum_map_le b _ _ (fun e _ => by simp only [wt64]; omega)
  have h2 := mem_le_sum_map (fun l : List (Bytes × Bytes) => (l.map wt64).sum) bss b hb
  rw [tableRawBound_eq, sum_map_flatten]
  unfold blockSizeBound
  omega

theorem lastKeyOf_le_sum (b : List (Bytes × Bytes)) (h : b ≠ []) : (lastKeyOf b).length + 64 ≤ (b.map wt64).sum := by
  obtain ⟨e, he, hl⟩ := lastKeyOf_mem b h
  have := mem_le_sum_map wt64 b e he
  rw [hl]; simp only [wt64] at this ⊢; omega

theorem index_bound (infos : List BlkInfo)
    (h : ∀ b ∈ infos, b.sep.length ≤ (lastKeyOf b.entries).length ∧ b.hv.length ≤ 20 ∧ b.entries ≠ []) :
    blockSizeBound (infos.map fun b => (b.sep, b.hv)) ≤ ((infos.flatMap (·.entries)).map wt64).sum + 8 := by
  unfold blockSizeBound
  rw [List.map_map, List.flatMap_def, sum_map_flatten, List.map_map]
  refine Nat.add_le_add_right (sum_map_le infos _ _ fun b hb => ?_) 8
  obtain ⟨h1, h2, h3⟩ := h b hb
  have h4 := lastKeyOf_le_sum b.entries h3
  simp only [Function.comp_apply]
  omega

theorem filterKeyName_length : filterKeyName.length = 34 := by decide +kernel

theorem meta_bound (off : Nat) (fc : Option Bytes) (hoff : off < 2 ^ 64) (hc : ∀ c, fc = some c → c.length < 2 ^ 64) :
    (∀ e ∈ metaEntries off fc, e.1.length < 2 ^ 32 ∧ e.2.length < 2 ^ 32) ∧
    blockSizeBound (metaEntries off fc) ≤ 128 := by
  cases fc with
  | none => simp [metaEntries, blockSizeBound]
  | some c =>
    have hl := handleEncode_length_le { offset := off, size := c.length } hoff (hc c rfl)
    have hk := filterKeyName_length
    simp only [handleMaxLen] at hl
    simp only [metaEntries, blockSizeBound, List.mem_singleton, forall_eq, List.map_cons, List.map_nil,
      List.sum_cons, List.sum_nil, hk]
    omega

theorem dataBytes_length_le (o : TableOpts) (bss : List (List (Bytes × Bytes)))
    (h : ∀ b ∈ bss, b ≠ [] ∧ ∀ e ∈ b, e.1.length < 2 ^ 32 ∧ e.2.length < 2 ^ 32) :
    ∀ off, (dataBytes o off bss).length ≤ (bss.flatten.map wt64).sum := by
  induction bss with
  | nil => exact fun _ => Nat.le_refl _
  | cons b rest ih =>
    intro off
    obtain ⟨hb, hsz⟩ := h b List.mem_cons_self
    have h1 := writeBlock_size_le o off (blockBuild o.restartInterval b)
    have h2 := blockBuild_length_le o.restartInterval b hsz
    -- the 13 bytes of restart array and trailer are paid by the block's first entry
    have h3 : blockSizeBound b + 5 ≤ (b.map wt64).sum := by
      cases b with
      | nil => exact absurd rfl hb
      | cons e t =>
        have := sum_map_le t wt64 (fun e => e.1.length + e.2.length + 19) fun e _ => by simp only [wt64]; omega
        simp only [blockSizeBound, List.map_cons, List.sum_cons, wt64] at this ⊢
        omega
    have h4 := ih (fun b' hb' => h b' (List.mem_cons_of_mem _ hb')) (off + (dataW o off b).1.length)
    have h5 : (dataW o off b).1.length = (writeBlock o off (blockBuild o.restartInterval b)).2.size + 5 :=
      dataW_length o off b
    simp only [dataBytes, List.length_append, List.flatten_cons, List.map_append, List.sum_append]
    omega

/-- everything after the data blocks: filter block, at most 133 bytes of metaindex block (128 of
    `meta_bound`, 5 of trailer), the stored index block and its trailer (5), 48 bytes of footer.
    The hypothesis keeps the two handles of the footer in range. -/
theorem tailBytes_length_le (o : TableOpts) (DB : Bytes) (fc : Option Bytes) (ixraw : Bytes)
    (h : DB.length + (filterBytes fc).length + ixraw.length + 138 < 2 ^ 64) :
    (tailBytes o DB.length fc ixraw).length ≤ (filterBytes fc).length + ixraw.length + 186 := by
  obtain ⟨hm1, hm2⟩ := meta_bound DB.length fc (by omega) fun c hc => by
    rw [hc] at h
    simp only [filterBytes, rawBlockBytes_length] at h
    omega
  have hm3 := blockBuild_length_le o.restartInterval _ hm1
  have hm4 := writeBlock_size_le o (afterFilter DB.length fc) (blockBuild o.restartInterval (metaEntries DB.length fc))
  have hm5 : (metaW o DB.length fc).1.length = _ := writeBlock_length _ _ _
  have hx1 := writeBlock_size_le o (afterFilter DB.length fc + (metaW o DB.length fc).1.length) ixraw
  have hx2 : (indexW o DB.length fc ixraw).1.length = _ := writeBlock_length _ _ _
  simp only [blockTrailerSize, metaW, indexW] at hm4 hm5 hx1 hx2
  rw [tailBytes_length, footer_length _ (tail_footer_inRange o DB fc ixraw (by simp only [metaW, indexW]; omega))]
  simp only [metaW, indexW]
  omega

end Lcdb
