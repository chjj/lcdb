/-
  Vocabulary shared by the lemma files about `LcdbModel.Model.Policy` (version_set.c file selection), and the
  order facts about user keys (`ule`) and internal keys (`ikl`) that they all use.
-/
import LcdbModel.Model.Policy
import LcdbModel.Lemmas.Lsm
namespace Lcdb.Policy
open Lcdb.CmpBasic Lcdb.Lsm

/-- `none` = -∞ / +∞ -/
def rangeHits (c : Cmp) (lo hi : Option Bytes) (f : FileMeta) : Bool :=
  !(afterFile c lo f || beforeFile c hi f)

def UserBoundsOk (c : Cmp) (files : List FileMeta) : Prop := ∀ f ∈ files, c.compare f.sk f.lk ≠ .gt

/-- `FileOk` gives it; the `while (search)` loop of add_boundary_inputs terminates only under it (a file with the
    two keys swapped is its own boundary file for ever: finding F10 of DESIGN.md §8). -/
def BoundsOk (c : Cmp) (files : List FileMeta) : Prop := ∀ f ∈ files, ikLt c f.lk f.lp f.sk f.sp = false

/-- the binary branch of some_file_overlaps_range searches with the trailer `maxPacked` (version_set.c:198); a
    largest key with a greater trailer would sort before that key (`not_ikLt_maxPacked_eq`) -/
def PackedOk (files : List FileMeta) : Prop := ∀ f ∈ files, f.lp ≤ maxPacked

/-- what find_file's binary search needs -/
def LargestSorted (c : Cmp) (files : List FileMeta) : Prop :=
  files.Pairwise (fun f g => ikLt c f.lk f.lp g.lk g.lp = true)

instance (c : Cmp) (fs : List FileMeta) : Decidable (UserBoundsOk c fs) := by unfold UserBoundsOk; infer_instance
instance (c : Cmp) (fs : List FileMeta) : Decidable (BoundsOk c fs) := by unfold BoundsOk; infer_instance
instance (fs : List FileMeta) : Decidable (PackedOk fs) := by unfold PackedOk; infer_instance
instance (c : Cmp) (fs : List FileMeta) : Decidable (LargestSorted c fs) := by unfold LargestSorted; infer_instance

def ule (c : Cmp) (a b : Bytes) : Prop := c.compare a b ≠ .gt

theorem ule_refl (c : Cmp) (a : Bytes) : ule c a a := by unfold ule; rw [compare_refl]; decide

theorem ule_of_lt {c : Cmp} {a b : Bytes} (h : c.compare a b = .lt) : ule c a b := by unfold ule; rw [h]; decide

theorem ule_of_not_lt {c : Cmp} {a b : Bytes} (h : c.compare b a ≠ .lt) : ule c a b := by
  intro hgt; exact h ((compare_gt_iff c a b).mp hgt)

theorem not_lt_of_ule {c : Cmp} {a b : Bytes} (h : ule c a b) : c.compare b a ≠ .lt := by
  intro hlt; exact h ((compare_lt_iff c b a).mp hlt)

theorem ule_trans {c : Cmp} {a b d : Bytes} (h1 : ule c a b) (h2 : ule c b d) : ule c a d :=
  (cmp3_compare c).ne_gt_trans h1 h2

theorem ule_antisymm {c : Cmp} {a b : Bytes} (h1 : ule c a b) (h2 : ule c b a) : a = b :=
  compare_antisymm c h1 h2

theorem afterFile_false_iff (c : Cmp) (lo : Option Bytes) (f : FileMeta) :
    afterFile c lo f = false ↔ ∀ k, lo = some k → ule c k f.lk := by
  cases lo <;> simp [afterFile, ule]

theorem beforeFile_false_iff (c : Cmp) (hi : Option Bytes) (f : FileMeta) :
    beforeFile c hi f = false ↔ ∀ k, hi = some k → ule c f.sk k := by
  cases hi <;> simp [beforeFile, ule, compare_lt_iff]

theorem rangeHits_iff (c : Cmp) (lo hi : Option Bytes) (f : FileMeta) :
    rangeHits c lo hi f = true ↔ (∀ k, lo = some k → ule c k f.lk) ∧ (∀ k, hi = some k → ule c f.sk k) := by
  simp only [rangeHits, Bool.not_eq_true', Bool.or_eq_false_iff, afterFile_false_iff, beforeFile_false_iff]

theorem not_rangeHits {c : Cmp} {lo hi : Option Bytes} {g : FileMeta} (h : rangeHits c lo hi g = false) :
    (∃ k, lo = some k ∧ c.compare g.lk k = .lt) ∨ (∃ k, hi = some k ∧ c.compare k g.sk = .lt) := by
  unfold rangeHits at h
  simp only [Bool.not_eq_false', Bool.or_eq_true] at h
  rcases h with h | h
  · cases lo with
    | none => cases h
    | some k => exact .inl ⟨k, rfl, (compare_gt_iff c k g.lk).mp (beq_iff_eq.mp h)⟩
  · cases hi with
    | none => cases h
    | some k => exact .inr ⟨k, rfl, beq_iff_eq.mp h⟩

theorem rangeHits_eq_userRangesOverlap (c : Cmp) (f g : FileMeta) :
    rangeHits c (some f.sk) (some f.lk) g = userRangesOverlap c f g := by
  simp only [rangeHits, afterFile, beforeFile, userRangesOverlap]
  rw [compare_swap c g.lk f.sk, Bool.or_comm]
  cases c.compare g.lk f.sk <;> rfl

theorem BoundsOk.user {c : Cmp} {files : List FileMeta} (h : BoundsOk c files) : UserBoundsOk c files :=
  fun f hf => ne_gt_of_not_ikLt (h f hf)

theorem boundsOk_of_inv {c : Cmp} {st : DbState} (hinv : Inv c st) (l : Nat) : BoundsOk c (st.level l) :=
  fun f hf => fileOk_boundsOk (fileOk_of_inv hinv l f hf)

theorem packedOk_of_range {st : DbState} (hn : st.levels.length = 7)
    (h7 : ∀ l ∈ List.range 7, PackedOk (st.level l)) : ∀ l, PackedOk (st.level l) := by
  intro l
  rcases Nat.lt_or_ge l 7 with h | h
  · exact h7 l (List.mem_range.mpr h)
  · rw [level_eq_nil_of_ge (show st.levels.length ≤ l from hn ▸ h)]; intro f hf; cases hf

-- `x ≤ y` on internal keys is written `ikl c y x = false`

theorem ikle_trans {c : Cmp} {a b d : IKey} (h1 : ikl c b a = false) (h2 : ikl c d b = false) : ikl c d a = false :=
  not_ikLt_iff.mpr ((cmp3_ik3 c).ne_gt_trans (not_ikLt_iff.mp h1) (not_ikLt_iff.mp h2))

theorem ikle_antisymm {c : Cmp} {a b : IKey} (h1 : ikl c a b = false) (h2 : ikl c b a = false) : a = b :=
  have ⟨hk, hp⟩ := ikLt_total h1 h2
  Prod.ext hk hp

-- the count that drops at every level-0 restart of get_overlapping_inputs and at every iteration of the
-- `while (search)` loop of add_boundary_inputs

theorem countP_lt_of_imp {α : Type} (p q : α → Bool) (l : List α) (himp : ∀ x ∈ l, q x = true → p x = true)
    {x : α} (hx : x ∈ l) (hpx : p x = true) (hqx : q x = false) : l.countP q < l.countP p := by
  -- count the `p`-elements as those that are `q` (all the `q`-elements of `l`) plus those that are not (`x` is one)
  have hq : (l.filter p).countP q = l.countP q := by
    rw [List.countP_filter]
    exact List.countP_congr (fun y hy => by rw [Bool.and_eq_true]; exact ⟨fun h => h.1, fun h => ⟨h, himp y hy h⟩⟩)
  have hpos : 0 < (l.filter p).countP (fun a => decide ¬q a = true) :=
    List.countP_pos_iff.mpr ⟨x, List.mem_filter.mpr ⟨hx, hpx⟩, by rw [hqx]; rfl⟩
  rw [List.countP_eq_length_filter (p := p), List.length_eq_countP_add_countP q, hq]
  exact Nat.lt_add_of_pos_right hpos

end Lcdb.Policy
