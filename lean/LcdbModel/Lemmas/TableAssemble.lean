/-
  What the table builder writes (structure of `tableBuild o es`):

      data block 0 ‖ … ‖ data block n-1 ‖ [filter block] ‖ metaindex block ‖ index block ‖ footer

  `tableAssemble` is the file as a function of the cut, `tableCut` the partition of the entries into
  data blocks decided by the size-estimate rule:
  `tableBuild_eq : tableBuild o es = tableAssemble o (tableCut o es)`.
-/
import LcdbModel.Lemmas.TableDefs
import LcdbModel.Lemmas.BlockExtras
import LcdbModel.Lemmas.TableSep
namespace Lcdb

/-- `cur` = entries already in the open block -/
def cutGo (o : TableOpts) : List (Bytes × Bytes) → List (Bytes × Bytes) → List (List (Bytes × Bytes))
  | cur, [] => if cur.isEmpty then [] else [cur]
  | cur, e :: es =>
    if blockGenSizeEstimate (blockGenAddAll o.restartInterval blockGenInit (cur ++ [e])) ≥ o.blockSize then
      (cur ++ [e]) :: cutGo o [] es
    else cutGo o (cur ++ [e]) es

def dataW (o : TableOpts) (off : Nat) (b : List (Bytes × Bytes)) : Bytes × BlockHandle :=
  writeBlock o off (blockBuild o.restartInterval b)

def dataBytes (o : TableOpts) : Nat → List (List (Bytes × Bytes)) → Bytes
  | _, [] => []
  | off, b :: rest => (dataW o off b).1 ++ dataBytes o (off + (dataW o off b).1.length) rest

def layGo (o : TableOpts) : Nat → List (List (Bytes × Bytes)) → List (List (Bytes × Bytes) × BlockHandle)
  | _, [] => []
  | off, b :: rest => (b, (dataW o off b).2) :: layGo o (off + (dataW o off b).1.length) rest

/-- the `(start_block offset, keys)` calls seen by the filter builder -/
def fblGo (o : TableOpts) : Nat → List (List (Bytes × Bytes)) → List (Nat × List Bytes)
  | _, [] => []
  | off, b :: rest => (off, b.map (·.1)) :: fblGo o (off + (dataW o off b).1.length) rest

def startBlockO (o : TableOpts) (f : FilterGen) (off : Nat) : FilterGen :=
  match o.policy with
  | some p => f.startBlock p off
  | none => f

def addBlockO (o : TableOpts) (f : FilterGen) (blk : Nat × List Bytes) : FilterGen :=
  blk.2.foldl FilterGen.addKey (startBlockO o f blk.1)

/-- `prev` = (last key, handle) of a finished block whose index entry is pending -/
def ixGo (c : Cmp) : Option (Bytes × BlockHandle) → List (List (Bytes × Bytes) × BlockHandle) →
    List (Bytes × Bytes)
  | none, [] => []
  | some (lk, h), [] => [(ikeySuccessor c lk, handleEncode h)]
  | none, (b, h) :: rest => ixGo c (some (lastKeyOf b, h)) rest
  | some (lk, h0), (b, h) :: rest =>
    (ikeySeparator c lk (firstKeyOf b), handleEncode h0) :: ixGo c (some (lastKeyOf b, h)) rest

def filtC (o : TableOpts) (fin : Option FilterGen) : Option Bytes :=
  match o.policy, fin with
  | some p, some f => some (f.finish p)
  | _, _ => none

def metaEntries (off : Nat) : Option Bytes → List (Bytes × Bytes)
  | some c => [(filterKeyName, handleEncode { offset := off, size := c.length })]
  | none => []

def filterBytes : Option Bytes → Bytes
  | some c => rawBlockBytes c 0
  | none => []

def afterFilter (off : Nat) : Option Bytes → Nat
  | some c => off + c.length + blockTrailerSize
  | none => off

def metaW (o : TableOpts) (off : Nat) (fc : Option Bytes) : Bytes × BlockHandle :=
  writeBlock o (afterFilter off fc) (blockBuild o.restartInterval (metaEntries off fc))

def indexW (o : TableOpts) (off : Nat) (fc : Option Bytes) (ixraw : Bytes) : Bytes × BlockHandle :=
  writeBlock o (afterFilter off fc + (metaW o off fc).1.length) ixraw

def tailFooter (o : TableOpts) (off : Nat) (fc : Option Bytes) (ixraw : Bytes) : Footer :=
  { metaindex := (metaW o off fc).2, index := (indexW o off fc ixraw).2 }

def tailBytes (o : TableOpts) (off : Nat) (fc : Option Bytes) (ixraw : Bytes) : Bytes :=
  filterBytes fc ++ ((metaW o off fc).1 ++ ((indexW o off fc ixraw).1 ++
    footerEncode (tailFooter o off fc ixraw)))

theorem flush_filter_eq (o : TableOpts) (f : Option FilterGen) (off : Nat) :
    (match o.policy, f with
      | some p, some f => some (f.startBlock p off)
      | _, _ => f) = f.map (startBlockO o · off) := by
  unfold startBlockO
  cases o.policy <;> cases f <;> rfl

theorem flush_of_empty (o : TableOpts) (st : TableGen) (h : st.dataBlock.buffer.isEmpty = true) :
    st.flush o = ([], st) := by
  unfold TableGen.flush; rw [if_pos h]

def ixAfter (st : TableGen) (k : Bytes) : BlockGen :=
  match st.pending with
  | some h => blockGenAdd 1 st.indexBlock k (handleEncode h)
  | none => st.indexBlock

theorem finish_eq (o : TableOpts) (st : TableGen) :
    st.finish o = (st.flush o).1 ++ tailBytes o (st.flush o).2.offset (filtC o (st.flush o).2.filter)
      (blockGenFinish (ixAfter (st.flush o).2 (ikeySuccessor o.cmp (st.flush o).2.lastKey))) := by
  unfold TableGen.finish
  generalize st.flush o = fl
  obtain ⟨b, off, db, ib, lk, f, pd⟩ := fl
  unfold tailBytes tailFooter indexW metaW filtC ixAfter
  cases o.policy <;> cases f <;> simp only [filterBytes, afterFilter, metaEntries, List.nil_append] <;> rfl

theorem finish_of_empty (o : TableOpts) (st : TableGen) (h : st.dataBlock.buffer.isEmpty = true) :
    st.finish o = tailBytes o st.offset (filtC o st.filter)
      (blockGenFinish (ixAfter st (ikeySuccessor o.cmp st.lastKey))) := by
  rw [finish_eq, flush_of_empty o st h]
  exact List.nil_append _

def ixNext (c : Cmp) (ixg : BlockGen) (b : List (Bytes × Bytes)) : Option (Bytes × BlockHandle) → BlockGen
  | none => ixg
  | some (lk, h0) => blockGenAdd 1 ixg (ikeySeparator c lk (firstKeyOf b)) (handleEncode h0)

/-- The builder's state as a function of what it has done: `off` bytes written, index block `ixg`
    with the entry of the last finished block (`prev` = its last key and handle) still pending,
    filter builder `fo` as it was before the open block's `start_block`, `cur` in the open data
    block.  The pending index entry is written with the open block's first key, so it is part of
    `indexBlock` as soon as `cur ≠ []`. -/
def genAt (o : TableOpts) (off : Nat) (ixg : BlockGen) (prev : Option (Bytes × BlockHandle))
    (fo : Option FilterGen) (cur : List (Bytes × Bytes)) : TableGen :=
  { offset := off
    dataBlock := blockGenAddAll o.restartInterval blockGenInit cur
    indexBlock := if cur = [] then ixg else ixNext o.cmp ixg cur prev
    lastKey := if cur = [] then (prev.map (·.1)).getD [] else lastKeyOf cur
    filter := fo.map (addBlockO o · (off, cur.map (·.1)))
    pending := if cur = [] then prev.map (·.2) else none }

theorem add_genAt (o : TableOpts) (off : Nat) (ixg : BlockGen) (prev : Option (Bytes × BlockHandle))
    (fo : Option FilterGen) (cur : List (Bytes × Bytes)) (e : Bytes × Bytes) :
    (genAt o off ixg prev fo cur).add o e.1 e.2 =
      if blockGenSizeEstimate (blockGenAddAll o.restartInterval blockGenInit (cur ++ [e])) ≥ o.blockSize then
        (genAt o off ixg prev fo (cur ++ [e])).flush o
      else ([], genAt o off ixg prev fo (cur ++ [e])) := by
  have hf : (fo.map (addBlockO o · (off, cur.map (·.1)))).map (·.addKey e.1)
      = fo.map (addBlockO o · (off, (cur ++ [e]).map (·.1))) := by
    simp only [Option.map_map, Function.comp_def, addBlockO, List.map_append, List.foldl_append,
      List.map_cons, List.map_nil, List.foldl_cons, List.foldl_nil]
  simp only [TableGen.add, genAt, hf, ← blockGenAddAll_snoc, List.append_eq_nil_iff, List.cons_ne_nil, and_false,
    if_false, lastKeyOf_snoc]
  -- what is left is the index block: an entry is pending only while `cur = []`, and then `e` is the first key
  cases cur <;> rcases prev with _ | ⟨lk, h0⟩ <;> rfl

theorem flush_genAt (o : TableOpts) (off : Nat) (ixg : BlockGen) (prev : Option (Bytes × BlockHandle))
    (fo : Option FilterGen) (b : List (Bytes × Bytes)) (hb : b ≠ []) :
    (genAt o off ixg prev fo b).flush o = ((dataW o off b).1,
      genAt o (off + (dataW o off b).1.length) (ixNext o.cmp ixg b prev) (some (lastKeyOf b, (dataW o off b).2))
        (fo.map (addBlockO o · (off, b.map (·.1)))) []) := by
  have he : (genAt o off ixg prev fo b).dataBlock.buffer.isEmpty = false := blockGenAddAll_buffer_ne _ b hb
  unfold TableGen.flush
  rw [if_neg (by rw [he]; decide)]
  simp only [genAt, if_neg hb, Option.map_map]
  unfold addBlockO startBlockO
  cases o.policy <;> cases fo <;> rfl

/-- what the builder still writes from the state `genAt o off ixg prev fo []` when the remaining
    entries are cut into `bss` -/
def goSpec (o : TableOpts) (off : Nat) (ixg : BlockGen) (prev : Option (Bytes × BlockHandle))
    (fo : Option FilterGen) (bss : List (List (Bytes × Bytes))) : Bytes :=
  dataBytes o off bss ++ tailBytes o (off + (dataBytes o off bss).length)
    (filtC o (fo.map fun g =>
      startBlockO o ((fblGo o off bss).foldl (addBlockO o) g) (off + (dataBytes o off bss).length)))
    (blockGenFinish (blockGenAddAll 1 ixg (ixGo o.cmp prev (layGo o off bss))))

theorem goSpec_cons (o : TableOpts) (off : Nat) (ixg : BlockGen) (prev : Option (Bytes × BlockHandle))
    (fo : Option FilterGen) (b : List (Bytes × Bytes)) (rest : List (List (Bytes × Bytes))) :
    goSpec o off ixg prev fo (b :: rest) =
      (dataW o off b).1 ++ goSpec o (off + (dataW o off b).1.length) (ixNext o.cmp ixg b prev)
        (some (lastKeyOf b, (dataW o off b).2)) (fo.map (addBlockO o · (off, b.map (·.1)))) rest := by
  unfold goSpec
  have hix : blockGenAddAll 1 ixg (ixGo o.cmp prev (layGo o off (b :: rest)))
      = blockGenAddAll 1 (ixNext o.cmp ixg b prev) (ixGo o.cmp (some (lastKeyOf b, (dataW o off b).2))
          (layGo o (off + (dataW o off b).1.length) rest)) := by
    cases prev with
    | none => simp only [layGo, ixGo, ixNext]
    | some p => obtain ⟨lk, h0⟩ := p; simp only [layGo, ixGo, ixNext, blockGenAddAll_cons]
  rw [hix]
  simp only [dataBytes, fblGo, List.foldl_cons, List.length_append, List.append_assoc, Nat.add_assoc,
    Option.map_map, Function.comp_def]

theorem goSpec_nil (o : TableOpts) (off : Nat) (ixg : BlockGen) (prev : Option (Bytes × BlockHandle))
    (fo : Option FilterGen) :
    goSpec o off ixg prev fo [] = tailBytes o off (filtC o (fo.map (startBlockO o · off)))
      (blockGenFinish (blockGenAddAll 1 ixg (ixGo o.cmp prev []))) :=
  -- not `rfl`: the unifier would unfold `tailBytes` before `++`
  List.nil_append _

theorem finish_genAt (o : TableOpts) (off : Nat) (ixg : BlockGen) (prev : Option (Bytes × BlockHandle))
    (fo : Option FilterGen) : (genAt o off ixg prev fo []).finish o = goSpec o off ixg prev fo [] := by
  rw [finish_of_empty o _ rfl, goSpec_nil]
  rcases prev with _ | ⟨lk, h0⟩ <;> rfl

/-- While a block is open `off`, `ixg`, `prev`, `fo` stay as they are. -/
theorem tableGo_eq (o : TableOpts) (cur es : List (Bytes × Bytes)) :
    ∀ (off : Nat) (ixg : BlockGen) (prev : Option (Bytes × BlockHandle)) (fo : Option FilterGen),
      tableGo o (genAt o off ixg prev fo cur) es = goSpec o off ixg prev fo (cutGo o cur es) := by
  fun_induction cutGo o cur es with
  | case1 cur h =>
    intro off ixg prev fo
    rw [List.isEmpty_iff.mp h]
    exact finish_genAt o off ixg prev fo
  | case2 cur h =>
    intro off ixg prev fo
    show (genAt o off ixg prev fo cur).finish o = _
    rw [goSpec_cons, ← finish_genAt, finish_eq, flush_genAt o off ixg prev fo cur fun hc => h (List.isEmpty_iff.mpr hc),
      finish_of_empty o (genAt _ _ _ _ _ []) rfl]
  | case3 cur e es h ih =>
    intro off ixg prev fo
    show ((genAt o off ixg prev fo cur).add o e.1 e.2).1 ++ tableGo o ((genAt o off ixg prev fo cur).add o e.1 e.2).2 es = _
    rw [add_genAt, if_pos h, flush_genAt o off ixg prev fo _ (by simp), goSpec_cons, ih]
  | case4 cur e es h ih =>
    intro off ixg prev fo
    show ((genAt o off ixg prev fo cur).add o e.1 e.2).1 ++ tableGo o ((genAt o off ixg prev fo cur).add o e.1 e.2).2 es = _
    rw [add_genAt, if_neg h, ih]
    -- not `rfl`: the unifier would unfold `goSpec` before `++`
    exact List.nil_append _

def tableCut (o : TableOpts) (es : List (Bytes × Bytes)) : List (List (Bytes × Bytes)) := cutGo o [] es

theorem cutGo_spec (o : TableOpts) (es : List (Bytes × Bytes)) :
    ∀ cur, (cutGo o cur es).flatten = cur ++ es ∧ ∀ b ∈ cutGo o cur es, b ≠ [] := by
  intro cur
  fun_induction cutGo o cur es with
  | case1 cur h =>
    rw [List.isEmpty_iff.mp h]
    exact ⟨rfl, fun _ hb => absurd hb List.not_mem_nil⟩
  | case2 cur h =>
    refine ⟨by rw [List.flatten_singleton, List.append_nil], fun b hb hc => h ?_⟩
    exact List.isEmpty_iff.mpr ((List.mem_singleton.mp hb).symm.trans hc)
  | case3 cur e es h ih =>
    refine ⟨?_, fun b hb => ?_⟩
    · rw [List.flatten_cons, ih.1, List.append_assoc]
      rfl
    · rcases List.mem_cons.mp hb with rfl | hb
      · exact List.append_ne_nil_of_right_ne_nil _ (List.cons_ne_nil _ _)
      · exact ih.2 b hb
  | case4 cur e es h ih => exact ⟨ih.1.trans (List.append_assoc _ _ _), ih.2⟩

theorem tableCut_flatten (o : TableOpts) (es : List (Bytes × Bytes)) : (tableCut o es).flatten = es :=
  (cutGo_spec o es []).1

theorem tableCut_ne_nil (o : TableOpts) (es : List (Bytes × Bytes)) : ∀ b ∈ tableCut o es, b ≠ [] :=
  (cutGo_spec o es []).2

/-- the trailing key-less block is the `ldb_filtergen_start_block(tb->filter_block, tb->offset)` that the last
    `ldb_tablegen_flush` issues after the last data block (table_builder.c:277) -/
def tableFilterC (o : TableOpts) (bss : List (List (Bytes × Bytes))) : Option Bytes :=
  o.policy.map fun p => filterBuild p (fblGo o 0 bss ++ [((dataBytes o 0 bss).length, [])])

def tableIndex (o : TableOpts) (bss : List (List (Bytes × Bytes))) : List (Bytes × Bytes) :=
  ixGo o.cmp none (layGo o 0 bss)

def tableAssemble (o : TableOpts) (bss : List (List (Bytes × Bytes))) : Bytes :=
  dataBytes o 0 bss ++ tailBytes o (dataBytes o 0 bss).length (tableFilterC o bss)
    (blockBuild 1 (tableIndex o bss))

theorem addBlockO_eq {o : TableOpts} {p : Policy} (hp : o.policy = some p) : addBlockO o = FilterGen.addBlock p := by
  funext g blk
  simp only [addBlockO, startBlockO, hp, FilterGen.addBlock]

theorem tableGenInit_eq (o : TableOpts) :
    tableGenInit o = genAt o 0 blockGenInit none (o.policy.map fun _ => {}) [] := by
  unfold tableGenInit genAt addBlockO startBlockO
  cases o.policy <;> rfl

theorem tableBuild_eq (o : TableOpts) (es : List (Bytes × Bytes)) :
    tableBuild o es = tableAssemble o (tableCut o es) := by
  unfold tableBuild
  rw [tableGenInit_eq, tableGo_eq]
  unfold goSpec tableAssemble tableCut tableIndex tableFilterC blockBuild
  simp only [Nat.zero_add]
  congr 2
  cases hp : o.policy with
  | none => simp only [filtC, hp, Option.map_none]
  | some p =>
    simp only [filtC, hp, Option.map_some, filterBuild, List.foldl_append, List.foldl_cons, List.foldl_nil,
      FilterGen.addBlock, startBlockO, addBlockO_eq hp]

end Lcdb
