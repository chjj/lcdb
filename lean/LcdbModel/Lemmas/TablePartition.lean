/-
  A list cut into parts (`List (List α)`) against its flattening, and the positions the skip loops
  of a two-level iterator reach in either direction (`Way.skipPos`).
-/
import LcdbModel.Lemmas.ListBasic
namespace Lcdb

def partOff {α : Type} : List (List α) → Nat → Nat
  | [], _ => 0
  | _ :: _, 0 => 0
  | l :: ls, i + 1 => l.length + partOff ls i

theorem partOff_eq {α : Type} (ls : List (List α)) (i : Nat) :
    partOff ls i = (ls.take i).flatten.length := by
  fun_induction partOff ls i with
  | case1 => rw [List.take_nil]; rfl
  | case2 a as => rfl
  | case3 a as i ih => rw [List.take_succ_cons, List.flatten_cons, List.length_append, ih]

theorem partOff_zero {α : Type} (ls : List (List α)) : partOff ls 0 = 0 := by
  rw [partOff_eq]; rfl

theorem partOff_succ {α : Type} {ls : List (List α)} {i : Nat} {l : List α}
    (h : ls[i]? = some l) : partOff ls (i + 1) = partOff ls i + l.length := by
  obtain ⟨hi, rfl⟩ := List.getElem?_eq_some_iff.mp h
  rw [partOff_eq, partOff_eq, flatten_take_succ ls i hi, List.length_append]

theorem partOff_ge_length {α : Type} {ls : List (List α)} {i : Nat} (h : ls.length ≤ i) :
    partOff ls i = ls.flatten.length := by
  rw [partOff_eq, List.take_of_length_le h]

theorem flatten_split {α : Type} {ls : List (List α)} {i : Nat} {l : List α} (h : ls[i]? = some l) :
    ls.flatten = (ls.take i).flatten ++ (l ++ (ls.drop (i + 1)).flatten) := by
  obtain ⟨hi, rfl⟩ := List.getElem?_eq_some_iff.mp h
  rw [← List.flatten_cons, ← List.drop_eq_getElem_cons hi, ← List.flatten_append, List.take_append_drop]

theorem flatten_getElem?_part {α : Type} {ls : List (List α)} {i j : Nat} {l : List α}
    (h : ls[i]? = some l) (hj : j < l.length) : ls.flatten[partOff ls i + j]? = l[j]? := by
  rw [partOff_eq, flatten_split h, List.getElem?_append_right (Nat.le_add_right _ _), Nat.add_sub_cancel_left,
    List.getElem?_append_left hj]

theorem partOff_add_lt {α : Type} {ls : List (List α)} {i j : Nat} {l : List α}
    (h : ls[i]? = some l) (hj : j < l.length) : partOff ls i + j < ls.flatten.length := by
  have h1 := flatten_getElem?_part h hj
  rw [List.getElem?_eq_getElem hj] at h1
  exact getElem?_lt h1

theorem partOff_succ_le {α : Type} {ls : List (List α)} {i : Nat} {l : List α}
    (h : ls[i]? = some l) : partOff ls (i + 1) ≤ ls.flatten.length := by
  have _ := h
  rw [partOff_eq]
  exact flatten_take_le ls (i + 1)

theorem partOff_succ_lt_iff {α : Type} {ls : List (List α)} (hne : ∀ l ∈ ls, l ≠ []) (i : Nat) :
    partOff ls (i + 1) < ls.flatten.length ↔ i + 1 < ls.length := by
  constructor
  · intro h
    refine Nat.lt_of_not_le fun hc => ?_
    rw [partOff_ge_length hc] at h
    exact Nat.lt_irrefl _ h
  · intro h
    exact partOff_add_lt (List.getElem?_eq_getElem h)
      (List.length_pos_iff.mpr (hne _ (List.getElem_mem h)))

theorem findIdx?_flatten_none {α : Type} (p : α → Bool) {ls : List (List α)}
    (hall : ∀ l ∈ ls, ∀ x ∈ l, p x = false) : ls.flatten.findIdx? p = none := by
  apply List.findIdx?_eq_none_iff.mpr
  intro x hx
  obtain ⟨l, hl, hxl⟩ := List.mem_flatten.mp hx
  exact hall l hl x hxl

theorem findIdx?_flatten_some {α : Type} (p : α → Bool) {ls : List (List α)} {i j : Nat}
    {l : List α} (h : ls[i]? = some l) (hbefore : ∀ l' ∈ ls.take i, ∀ x ∈ l', p x = false)
    (hj : l.findIdx? p = some j) : ls.flatten.findIdx? p = some (partOff ls i + j) := by
  rw [partOff_eq, flatten_split h, List.findIdx?_append, List.findIdx?_append, findIdx?_flatten_none p hbefore, hj,
    Option.none_or, Option.some_or, Option.map_some, Nat.add_comm]

theorem flatten_length_pos {α : Type} {ls : List (List α)} (hne : ∀ l ∈ ls, l ≠ [])
    (h : ls ≠ []) : 0 < ls.flatten.length := by
  cases ls with
  | nil => exact absurd rfl h
  | cons a as =>
    have := hne a (List.mem_cons_self)
    have : 0 < a.length := List.length_pos_iff.mpr this
    simp only [List.flatten_cons, List.length_append]
    omega

/-- the position of `ls.flatten` on which part `i` is entered -/
def Way.enter {α : Type} (w : Way) (ls : List (List α)) (i : Nat) : Nat :=
  partOff ls i + w.off (ls.getD i []).length

/-- where `skip_forward` (`skip_backward`) ends when the data iterator of part `i` stands at the
    position given by the last argument (`none` = invalid): there, or where the neighbouring part
    is entered -/
def Way.skipPos {α : Type} (w : Way) (ls : List (List α)) (i : Nat) : Option Nat → Option Nat
  | some j => some (partOff ls i + j)
  | none => (w.adv ls.length i).map (w.enter ls)

theorem Way.enter_eq {α : Type} (w : Way) {ls : List (List α)} {i : Nat} {l : List α}
    (h : ls[i]? = some l) : w.enter ls i = partOff ls i + w.off l.length := by
  rw [Way.enter, List.getD_eq_getElem?_getD, h]
  rfl

/-- going backward, a part is entered on its last position -/
theorem Way.enter_bwd {α : Type} {ls : List (List α)} {i : Nat} {l : List α}
    (h : ls[i]? = some l) (hl : l ≠ []) : Way.bwd.enter ls i + 1 = partOff ls (i + 1) := by
  have := List.length_pos_iff.mpr hl
  rw [Way.enter_eq _ h, partOff_succ h]
  show _ + (l.length - 1) + 1 = _
  omega

/-- entering the parts at the part entered first is entering the flattening -/
theorem Way.edge_enter {α : Type} (w : Way) {ls : List (List α)} (hne : ∀ l ∈ ls, l ≠ []) :
    (w.edge ls.length).map (w.enter ls) = w.edge ls.flatten.length := by
  by_cases h0 : ls = []
  · subst h0; rfl
  · have hlen := List.length_pos_iff.mpr h0
    have hpos := flatten_length_pos hne h0
    rw [Way.edge, Way.edge, if_neg (Nat.ne_of_gt hlen), if_neg (Nat.ne_of_gt hpos), Option.map_some]
    cases w with
    | fwd => exact congrArg some (partOff_zero _)
    | bwd =>
      obtain ⟨l, hl⟩ := exists_getElem? (Nat.sub_lt hlen Nat.one_pos)
      have h1 := Way.enter_bwd hl (hne l (List.mem_of_getElem? hl))
      rw [partOff_ge_length (by omega)] at h1
      exact congrArg some (Nat.eq_sub_of_add_eq h1)

/-- moving on in a part and skipping on from its end is moving on in the flattening -/
theorem Way.skipPos_adv {α : Type} (w : Way) {ls : List (List α)} {i j : Nat} {l : List α}
    (hne : ∀ l ∈ ls, l ≠ []) (h : ls[i]? = some l) (hj : j < l.length) :
    w.skipPos ls i (w.adv l.length j) = w.adv ls.flatten.length (partOff ls i + j) := by
  cases w with
  | fwd =>
    show Way.skipPos _ ls i (if _ then _ else _) = if _ then _ else _
    by_cases hj1 : j + 1 < l.length
    · rw [if_pos hj1, Nat.add_assoc, if_pos (partOff_add_lt h hj1)]
      rfl
    · have hs : partOff ls i + j + 1 = partOff ls (i + 1) := by rw [partOff_succ h]; omega
      rw [if_neg hj1, hs]
      simp only [partOff_succ_lt_iff hne]
      exact apply_ite (Option.map _) _ _ _
  | bwd =>
    show Way.skipPos _ ls i (predPos j) = predPos _
    cases j with
    | succ j' => rfl
    | zero =>
      cases i with
      | zero => rw [partOff_zero]; rfl
      | succ i' =>
        obtain ⟨l', hl'⟩ := exists_getElem? (Nat.lt_of_succ_lt (getElem?_lt h))
        exact (predPos_eq_some.mpr
          (Way.enter_bwd hl' (hne l' (List.mem_of_getElem? hl'))).symm).symm

theorem findIdx?_flatten_skipPos {α : Type} (p : α → Bool) {ls : List (List α)} {i : Nat}
    {l : List α} (hne : ∀ l ∈ ls, l ≠ []) (h : ls[i]? = some l)
    (hbefore : ∀ i' l', i' < i → ls[i']? = some l' → ∀ x ∈ l', p x = false)
    (hnext : ∀ l' x, ls[i + 1]? = some l' → l'.head? = some x → p x = true) :
    ls.flatten.findIdx? p = Way.fwd.skipPos ls i (l.findIdx? p) := by
  have hpre : ∀ l' ∈ ls.take i, ∀ x ∈ l', p x = false := fun l' hl' => by
    obtain ⟨i', hi', rfl⟩ := List.mem_take_iff_getElem.mp hl'
    exact hbefore i' _ (Nat.lt_min.mp hi').1 (List.getElem?_eq_getElem _)
  cases hj : l.findIdx? p with
  | some j => exact findIdx?_flatten_some p h hpre hj
  | none =>
    have hupto : ∀ l' ∈ ls.take (i + 1), ∀ x ∈ l', p x = false := by
      rw [List.take_add_one, h]
      intro l' hl'
      rcases List.mem_append.mp hl' with hl' | hl'
      · exact hpre l' hl'
      · rw [List.mem_singleton.mp hl']
        exact List.findIdx?_eq_none_iff.mp hj
    show _ = (if i + 1 < ls.length then some (i + 1) else none).map (Way.fwd.enter ls)
    by_cases hi1 : i + 1 < ls.length
    · obtain ⟨l', hl'⟩ := exists_getElem? hi1
      have h0 : l'.findIdx? p = some 0 := by
        cases l' with
        | nil => exact absurd rfl (hne _ (List.mem_of_getElem? hl'))
        | cons x xs => rw [List.findIdx?_cons, hnext _ x hl' rfl]; rfl
      rw [if_pos hi1]
      exact findIdx?_flatten_some p hl' hupto h0
    · rw [if_neg hi1]
      rw [List.take_of_length_le (Nat.le_of_not_lt hi1)] at hupto
      exact findIdx?_flatten_none p hupto

end Lcdb
