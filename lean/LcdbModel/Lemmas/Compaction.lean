/-
  Lemmas about the compaction work loop (`Model/Compaction.lean`): `merge2` is the library's merge; which entries
  survive `dropLoopFrom` over a strictly sorted run without (user key, sequence) ties; the monotone pointers of
  `walkLevel` / `isBasePtr` compute the stateless test as long as the keys asked for are non-decreasing, hence
  `dropLoopPtrFrom = dropLoopFrom`; under `Inv` the stateless test is sound (no deeper level holds the key).

  Vocabulary of the proofs: `stOf p` is the loop state after the entry `p`; over it rule (A) is `hidBy` as the loop
  tests it and `NotShadowed` in relational form, rule (B) is `ruleB`; `isBaseOf` is the stateless base-level test
  over a list of deeper levels (`isBaseSpec` of the model at `levels.drop (level + 2)`), `PtrsOk` the invariant of
  the pointers.
-/
import LcdbModel.Model.Compaction
import LcdbModel.Lemmas.IterSimDefs
import LcdbModel.Lemmas.LsmSteps
import LcdbModel.Lemmas.PolicyDefs
namespace Lcdb
namespace Compaction

def entryLe (c : Cmp) (a b : Entry) : Bool := !entryLt c b a

/-- on a tie the left run goes first in both -/
theorem merge2_eq_merge (c : Cmp) (xs ys : Run) : merge2 c xs ys = xs.merge ys (entryLe c) := by
  fun_induction merge2 c xs ys with
  | case1 ys => exact (List.nil_merge ys).symm
  | case2 xs _ => exact (List.merge_right xs).symm
  | case3 x xs y ys hlt ih => rw [List.cons_merge_cons_neg _ _ _ (by simp [entryLe, hlt]), ih]
  | case4 x xs y ys hlt ih => rw [List.cons_merge_cons_pos _ _ _ (by simp [entryLe, hlt]), ih]

/-- each merge is a permutation of the concatenation, so their fold is one of the fold of `++` -/
theorem mergeInputs_perm (c : Cmp) (runs : List Run) : (mergeInputs c runs).Perm runs.flatten := by
  rw [List.flatten_eq_flatMap, List.flatMap_eq_foldl]
  refine List.foldl_rel (.refl []) fun r _ a a' h => ?_
  rw [merge2_eq_merge]
  exact (List.merge_perm_append _).trans (h.append_right r)

theorem mergeInputs_le (c : Cmp) (runs : List Run) (hs : ∀ r ∈ runs, r.Pairwise (entryLe c · ·)) :
    (mergeInputs c runs).Pairwise (entryLe c · ·) := by
  refine List.foldlRecOn runs (merge2 c) List.Pairwise.nil fun acc hacc r hr => ?_
  rw [merge2_eq_merge]
  refine List.pairwise_merge ?_ ?_ acc r hacc (hs r hr)
  · intro a b d h1 h2
    simp only [entryLe, Bool.not_eq_true'] at h1 h2 ⊢
    exact Policy.ikle_trans (a := (a.ukey, a.packed)) (b := (b.ukey, b.packed)) (d := (d.ukey, d.packed)) h1 h2
  · intro a b
    simp only [entryLe, Bool.or_eq_true, Bool.not_eq_true']
    cases h : entryLt c b a with
    | false => exact .inl rfl
    | true => exact .inr (Lsm.entryLt_asymm c h)

instance (c : Cmp) (runs : List Run) : Decidable (DistinctKeys c runs) := by
  unfold DistinctKeys; infer_instance

theorem mergeInputs_sorted_perm (c : Cmp) (runs : List Run) (hs : ∀ r ∈ runs, RunSorted c r)
    (hd : DistinctKeys c runs) :
    RunSorted c (mergeInputs c runs) ∧ (mergeInputs c runs).Perm runs.flatten := by
  have hp := mergeInputs_perm c runs
  have hle := mergeInputs_le c runs (fun r hr => (hs r hr).imp (fun h => by rw [entryLe, Lsm.entryLt_asymm c h]; rfl))
  -- the merge is sorted by `≤`; its entries are pairwise different, as those of the runs are; so it is sorted by `<`
  refine ⟨(hle.and (hd.perm hp.symm (fun h => Merge.entryCmp_ne_symm c h))).imp (fun {a b} h => ?_), hp⟩
  cases hab : entryLt c a b with
  | true => rfl
  | false => exact absurd ((Merge.entryCmp_eq_iff c a b).mpr ⟨hab, by simpa [entryLe] using h.1⟩) h.2

theorem mem_mergeInputs {c : Cmp} {runs : List Run} {e : Entry} :
    e ∈ mergeInputs c runs ↔ ∃ r ∈ runs, e ∈ r := by
  rw [(mergeInputs_perm c runs).mem_iff, List.mem_flatten]

theorem dropLoopFrom_cons (c : Cmp) (sm : Nat) (isBase : Bytes → Bool) (s : LoopSt) (e : Entry) (es : Run) :
    dropLoopFrom c sm isBase s (e :: es) =
      if (stepEntry c sm isBase s e).1 then dropLoopFrom c sm isBase (stepEntry c sm isBase s e).2 es
      else e :: dropLoopFrom c sm isBase (stepEntry c sm isBase s e).2 es := by
  simp only [dropLoopFrom]

theorem dropLoopFrom_sublist (c : Cmp) (sm : Nat) (isBase : Bytes → Bool) (s : LoopSt) (r : Run) :
    (dropLoopFrom c sm isBase s r).Sublist r := by
  induction r generalizing s with
  | nil => exact List.Sublist.refl _
  | cons e es ih =>
    rw [dropLoopFrom_cons]
    split
    · exact (ih _).trans (List.sublist_cons_self e es)
    · exact (ih _).cons_cons e

def ruleB (sm : Nat) (isBase : Bytes → Bool) (e : Entry) : Bool :=
  e.kind == 0 && decide (e.seq ≤ sm) && isBase e.ukey

/-- `none`: the state at the start of the run -/
def stOf : Option Entry → LoopSt
  | none => {}
  | some p => { curKey := some p.ukey, lastSeq := some p.seq }

def hidBy (c : Cmp) (sm : Nat) : Option Entry → Entry → Bool
  | none, _ => false
  | some p, e => c.compare e.ukey p.ukey == .eq && decide (p.seq ≤ sm)

theorem stepEntry_stOf (c : Cmp) (sm : Nat) (isBase : Bytes → Bool) (p : Option Entry) (e : Entry) (hk : e.kind ≤ 1) :
    stepEntry c sm isBase (stOf p) e = (hidBy c sm p e || ruleB sm isBase e, stOf (some e)) := by
  unfold stepEntry
  rw [if_neg (Nat.not_lt.mpr hk)]
  cases p with
  | none => rfl
  | some p => by_cases hc : c.compare e.ukey p.ukey = .eq <;> simp [stOf, hidBy, ruleB, hc]

theorem mem_dropLoopFrom_cons (c : Cmp) (sm : Nat) (isBase : Bytes → Bool) (p : Option Entry) {x : Entry} (hk : x.kind ≤ 1)
    {xs : List Entry} {e : Entry} :
    e ∈ dropLoopFrom c sm isBase (stOf p) (x :: xs) ↔
      (e = x ∧ hidBy c sm p x = false ∧ ruleB sm isBase x = false) ∨ e ∈ dropLoopFrom c sm isBase (stOf (some x)) xs := by
  rw [dropLoopFrom_cons, stepEntry_stOf c sm isBase p x hk]
  cases hidBy c sm p x <;> cases ruleB sm isBase x <;> simp

def NotShadowed (sm : Nat) (l : List Entry) (e : Entry) : Prop :=
  ∀ q ∈ l, q.ukey = e.ukey → e.seq < q.seq → sm < q.seq

/-- Rule (A) looks at the entry before `x` only; that decides `NotShadowed`, since the entries of one user key are
    adjacent and come in strictly decreasing sequence order (`h`).  So the induction remembers the one entry `p`
    before the rest `r`, and nothing of what came before `p`. -/
theorem mem_dropLoopFrom_iff (c : Cmp) (sm : Nat) (isBase : Bytes → Bool) (p : Option Entry) (r : List Entry)
    (h : (p.toList ++ r).Pairwise (fun a b => entryLt c a b = true ∧ (a.ukey = b.ukey → b.seq < a.seq)))
    (hk : ∀ e ∈ r, e.kind ≤ 1) (e : Entry) :
    e ∈ dropLoopFrom c sm isBase (stOf p) r ↔
      e ∈ r ∧ NotShadowed sm (p.toList ++ r) e ∧ ruleB sm isBase e = false := by
  induction r generalizing p with
  | nil => exact ⟨fun h => (nomatch h), fun h => (nomatch h.1)⟩
  | cons x xs ih =>
    obtain ⟨_, hs2, hcross⟩ := List.pairwise_append.mp h
    have hxs := (List.pairwise_cons.mp hs2).1
    have hsub : (x :: xs).Sublist (p.toList ++ x :: xs) := List.sublist_append_right _ _
    have ih' := ih (some x) (h.sublist hsub) (fun e he => hk e (List.mem_cons_of_mem _ he))
    -- for `x` itself: only `p` can be a newer entry of its key
    have hA : hidBy c sm p x = false ↔ NotShadowed sm (p.toList ++ x :: xs) x := by
      constructor
      · intro hh q hq hqk hlt
        rcases List.mem_append.mp hq with hq | hq
        · rw [Option.mem_toList.mp hq] at hh
          simpa [hidBy, hqk, CmpBasic.compare_refl] using hh
        · rcases List.mem_cons.mp hq with rfl | hq
          · exact absurd hlt (Nat.lt_irrefl _)
          · exact absurd hlt (Nat.lt_asymm ((hxs q hq).2 hqk.symm))
      · intro hh
        cases p with
        | none => rfl
        | some p =>
          refine Bool.eq_false_iff.mpr (fun ht => ?_)
          simp only [hidBy, Bool.and_eq_true, beq_iff_eq, decide_eq_true_eq, CmpBasic.compare_eq_iff] at ht
          exact absurd ht.2 (Nat.not_le.mpr (hh p (List.mem_append_left _ (Option.mem_toList.mpr rfl)) ht.1.symm
            ((hcross p (Option.mem_toList.mpr rfl) x List.mem_cons_self).2 ht.1.symm)))
    -- for a later `e`: if `p` is a newer entry of its key, so is `x`, which lies between them
    have hB : ∀ e ∈ xs, NotShadowed sm (x :: xs) e ↔ NotShadowed sm (p.toList ++ x :: xs) e := by
      intro e he
      refine ⟨fun hh q hq hqk hlt => ?_, fun hh q hq => hh q (hsub.mem hq)⟩
      rcases List.mem_append.mp hq with hq' | hq'
      · have hqx := hcross q hq' x List.mem_cons_self
        have hxk : x.ukey = e.ukey :=
          Policy.ule_antisymm (Lsm.ikLt_ne_gt (hxs e he).1) (hqk ▸ Lsm.ikLt_ne_gt hqx.1)
        exact Nat.lt_trans (hh x List.mem_cons_self hxk ((hxs e he).2 hxk)) (hqx.2 (hqk.trans hxk.symm))
      · exact hh q hq' hqk hlt
    rw [mem_dropLoopFrom_cons c sm isBase p (hk x List.mem_cons_self), ih', List.mem_cons]
    constructor
    · rintro (⟨rfl, h1, h2⟩ | ⟨h1, h2, h3⟩)
      · exact ⟨.inl rfl, hA.mp h1, h2⟩
      · exact ⟨.inr h1, (hB e h1).mp h2, h3⟩
    · rintro ⟨rfl | h1, h2, h3⟩
      · exact .inl ⟨rfl, hA.mpr h2, h3⟩
      · exact .inr ⟨h1, (hB e h1).mpr h2, h3⟩

theorem mem_dropLoop_iff (c : Cmp) (sm : Nat) (isBase : Bytes → Bool) (r : Run)
    (hs : RunSorted c r) (hk : ∀ e ∈ r, e.kind ≤ 1) (hnt : KeyNoTies r) (e : Entry) :
    e ∈ dropLoop c sm isBase r ↔ e ∈ r ∧ NotShadowed sm r e ∧ ruleB sm isBase e = false := by
  refine mem_dropLoopFrom_iff c sm isBase none r (hs.imp_of_mem fun {a b} ha hb hab => ⟨hab, fun hkey => ?_⟩) hk e
  -- within one user key, an earlier entry of the run is strictly newer
  refine Nat.lt_of_le_of_ne (Lsm.seq_le_of_entryLt hab hkey (hk a ha)) (fun heq => ?_)
  rw [hnt b hb a ha hkey.symm heq, Lsm.entryLt_irrefl] at hab
  cases hab

def isBaseOf (c : Cmp) (deeper : List (List FileMeta)) (k : Bytes) : Bool :=
  !deeper.any (fun files => files.any (fun f => fileContainsUser c f k))

theorem isBaseSpec_eq (c : Cmp) (levels : List (List FileMeta)) (level : Nat) :
    isBaseSpec c levels level = isBaseOf c (levels.drop (level + 2)) := rfl

theorem isBaseOf_cons (c : Cmp) (files : List FileMeta) (rest : List (List FileMeta)) (k : Bytes) :
    isBaseOf c (files :: rest) k = (!files.any (fun f => fileContainsUser c f k) && isBaseOf c rest k) := by
  simp only [isBaseOf, List.any_cons, Bool.not_or]

theorem any_contains_of_gt {c : Cmp} {pre : List FileMeta} {k : Bytes} (h : ∀ f ∈ pre, c.compare k f.lk = .gt) :
    pre.any (fun f => fileContainsUser c f k) = false :=
  List.any_eq_false.mpr (fun f hf => by simp [fileContainsUser, h f hf])

theorem walkLevel_spec (c : Cmp) (k : Bytes) (pre fs : List FileMeta) (hs : LevelSorted c fs)
    (hw : ∀ f ∈ fs, c.compare f.sk f.lk ≠ .gt) (hpre : ∀ f ∈ pre, c.compare k f.lk = .gt) :
    ∃ pre' suf, walkLevel c k fs pre.length = ((pre ++ fs).any (fun f => fileContainsUser c f k), pre'.length) ∧
      pre ++ fs = pre' ++ suf ∧ ∀ f ∈ pre', c.compare k f.lk = .gt := by
  induction fs generalizing pre with
  | nil => exact ⟨pre, [], by rw [List.append_nil, any_contains_of_gt hpre]; rfl, rfl, hpre⟩
  | cons f fs ih =>
    have hs' := List.pairwise_cons.mp hs
    by_cases hle : c.compare k f.lk = .gt
    · have h := ih (pre ++ [f]) hs'.2 (fun g hg => hw g (List.mem_cons_of_mem _ hg))
        (fun g hg => (List.mem_append.mp hg).elim (hpre g) (fun hgf => by rw [List.mem_singleton.mp hgf]; exact hle))
      rw [List.length_append, List.length_singleton, List.append_assoc, List.singleton_append] at h
      rw [walkLevel, if_neg (by rw [hle]; decide)]
      exact h
    · have hcond : (c.compare k f.lk != .gt) = true := bne_iff_ne.mpr hle
      refine ⟨pre, f :: fs, ?_, rfl, hpre⟩
      rw [walkLevel, if_pos hcond, List.any_append, any_contains_of_gt hpre, Bool.false_or, List.any_cons,
        fileContainsUser, hcond, Bool.and_true]
      congr 1
      by_cases hsk : c.compare k f.sk = .lt
      · -- `k` is before `f`, hence before every later file
        have hrest : fs.any (fun g => fileContainsUser c g k) = false := by
          rw [List.any_eq_false]
          intro g hg
          have h2 : c.compare k g.sk = .lt := (CmpBasic.cmp3_compare c).lt_of_lt_of_ne_gt hsk
            (Policy.ule_trans (hw f List.mem_cons_self) (Lsm.ikLt_ne_gt (hs'.1 g hg)))
          rw [fileContainsUser, h2]
          exact fun h => nomatch h
        rw [hrest, Bool.or_false]
      · rw [show (c.compare k f.sk != .lt) = true from bne_iff_ne.mpr hsk]
        rfl

/-- every pointer stands behind a prefix of its level made of files whose largest user key is below `k` -/
def PtrsOk (c : Cmp) (k : Bytes) : List (List FileMeta) → List Nat → Prop
  | [], [] => True
  | files :: ds, p :: ps =>
    (∃ pre suf, files = pre ++ suf ∧ pre.length = p ∧ ∀ f ∈ pre, c.compare k f.lk = .gt) ∧ PtrsOk c k ds ps
  | _, _ => False

theorem PtrsOk.mono {c : Cmp} {k k' : Bytes} (hkk : c.compare k k' ≠ .gt) :
    ∀ {deeper : List (List FileMeta)} {ptrs : List Nat}, PtrsOk c k deeper ptrs → PtrsOk c k' deeper ptrs
  | [], [], _ => trivial
  | [], _ :: _, h => h.elim
  | _ :: _, [], h => h.elim
  | files :: ds, p :: ps, ⟨⟨pre, suf, e1, e2, h⟩, hrest⟩ => by
    refine ⟨⟨pre, suf, e1, e2, fun f hf => ?_⟩, PtrsOk.mono hkk hrest⟩
    have := h f hf
    rw [CmpBasic.compare_gt_iff] at this ⊢
    exact (CmpBasic.cmp3_compare c).lt_of_lt_of_ne_gt this hkk

theorem ptrsOk_zero (c : Cmp) (k : Bytes) : ∀ deeper : List (List FileMeta),
    PtrsOk c k deeper (deeper.map fun _ => 0)
  | [] => trivial
  | files :: ds => ⟨⟨[], files, rfl, rfl, fun _ h => nomatch h⟩, ptrsOk_zero c k ds⟩

theorem isBasePtr_spec (c : Cmp) (k : Bytes) (deeper : List (List FileMeta)) (ptrs : List Nat)
    (hs : ∀ files ∈ deeper, LevelSorted c files)
    (hw : ∀ files ∈ deeper, ∀ f ∈ files, c.compare f.sk f.lk ≠ .gt)
    (hp : PtrsOk c k deeper ptrs) :
    (isBasePtr c k deeper ptrs).1 = isBaseOf c deeper k ∧ PtrsOk c k deeper (isBasePtr c k deeper ptrs).2 := by
  induction deeper generalizing ptrs with
  | nil =>
    cases ptrs with
    | nil => simp [isBasePtr, isBaseOf, PtrsOk]
    | cons _ _ => exact hp.elim
  | cons files rest ih =>
    cases ptrs with
    | nil => exact hp.elim
    | cons p ps =>
      obtain ⟨⟨pre, suf, rfl, rfl, hpre⟩, hps⟩ := hp
      obtain ⟨pre', suf', h1, he, hpre'⟩ := walkLevel_spec c k pre suf
        (List.pairwise_append.mp (hs _ List.mem_cons_self)).2.1
        (fun f hf => hw _ List.mem_cons_self f (List.mem_append_right _ hf)) hpre
      obtain ⟨ih1, ih2⟩ := ih ps (fun fs hfs => hs fs (List.mem_cons_of_mem _ hfs))
        (fun fs hfs => hw fs (List.mem_cons_of_mem _ hfs)) hps
      simp only [isBasePtr, List.drop_left, h1]
      by_cases hhit : (pre ++ suf).any (fun f => fileContainsUser c f k) = true
      · simp only [hhit, if_true]
        exact ⟨by rw [isBaseOf_cons, hhit]; rfl, ⟨pre', suf', he, rfl, hpre'⟩, hps⟩
      · simp only [hhit, Bool.false_eq_true, if_false]
        exact ⟨by rw [ih1, isBaseOf_cons, Bool.eq_false_iff.mpr hhit]; rfl, ⟨pre', suf', he, rfl, hpre'⟩, ih2⟩

/-- Both loops make the same case distinctions.  The pointers move only where the loop asks the base-level question
    (rule (A) did not fire and `e` is a deletion at or below `sm`); there `isBasePtr_spec` gives the stateless answer
    and leaves pointers that are `PtrsOk` for `e.ukey`, hence (`PtrsOk.mono`) for the later, larger keys. -/
theorem dropLoopPtrFrom_eq (c : Cmp) (sm : Nat) (deeper : List (List FileMeta))
    (hs : ∀ files ∈ deeper, LevelSorted c files)
    (hw : ∀ files ∈ deeper, ∀ f ∈ files, c.compare f.sk f.lk ≠ .gt)
    (s : LoopSt) (ptrs : List Nat) (r : Run) (hr : RunSorted c r)
    (hp : ∀ e ∈ r, PtrsOk c e.ukey deeper ptrs) :
    dropLoopPtrFrom c sm deeper s ptrs r = dropLoopFrom c sm (isBaseOf c deeper) s r := by
  induction r generalizing s ptrs with
  | nil => rfl
  | cons e es ih =>
    have hr' := List.pairwise_cons.mp hr
    have ih1 := fun s => ih s ptrs hr'.2 (fun x hx => hp x (List.mem_cons_of_mem _ hx))
    obtain ⟨b1, b2⟩ := isBasePtr_spec c e.ukey deeper ptrs hs hw (hp e List.mem_cons_self)
    have ih2 := fun s => ih s _ hr'.2 (fun x hx => PtrsOk.mono (Lsm.ikLt_ne_gt (hr'.1 x hx)) b2)
    rw [dropLoopFrom_cons, dropLoopPtrFrom]
    unfold stepEntry
    by_cases hk : e.kind > 1
    · rw [if_pos hk, if_pos hk, ih1]
      rfl
    · rw [if_neg hk, if_neg hk]
      simp only [ih1, ih2, b1]
      -- what is left: C's short-circuit `&&` against the Boolean connectives of `stepEntry`
      split
      · rename_i l _
        by_cases hl : l ≤ sm <;> by_cases hb : e.kind = 0 ∧ e.seq ≤ sm <;> simp [hl, hb]
      · by_cases hb : e.kind = 0 ∧ e.seq ≤ sm <;> simp [hb]

theorem mem_levels_drop {st : DbState} {n : Nat} {files : List FileMeta} (h : files ∈ st.levels.drop n) :
    ∃ l, n ≤ l ∧ files = st.level l := by
  obtain ⟨i, hi, rfl⟩ := List.mem_iff_getElem.mp h
  have hl : n + i < st.levels.length := Nat.add_lt_of_lt_sub' (List.length_drop ▸ hi)
  exact ⟨n + i, Nat.le_add_right n i, by rw [level_eq_getElem hl, List.getElem_drop]⟩

theorem deeper_sorted {c : Cmp} {st : DbState} (h : Inv c st) (level : Nat) :
    ∀ files ∈ st.levels.drop (level + 2), LevelSorted c files := by
  intro files hf
  obtain ⟨l, hl, rfl⟩ := mem_levels_drop hf
  exact h.levelsSorted l (Nat.le_trans (Nat.le_add_left 1 (level + 1)) hl)

theorem deeper_filesOk {c : Cmp} {st : DbState} (h : Inv c st) (n : Nat) :
    ∀ files ∈ st.levels.drop n, ∀ f ∈ files, FileOk c f := by
  intro files hf f hff
  obtain ⟨l, _, rfl⟩ := mem_levels_drop hf
  exact h.filesOk f (mem_allFiles.mpr ⟨l, hff⟩)

theorem isBaseSpec_sound {c : Cmp} {st : DbState} (h : Inv c st) (level : Nat) (k : Bytes)
    (hb : isBaseSpec c st.levels level k = true) : keyInDeeperLevels c st (level + 1) k = false := by
  refine Bool.eq_false_iff.mpr (fun hk => ?_)
  unfold keyInDeeperLevels at hk
  simp only [List.any_eq_true, beq_iff_eq] at hk
  obtain ⟨files, hfiles, f, hf, e, he, hk⟩ := hk
  -- the file of a deeper level that holds an entry for `k` contains `k` between its bounds
  have hc := Lsm.contains_of_mem_run (deeper_filesOk h _ files hfiles f hf) he
  rw [(CmpBasic.compare_eq_iff c _ _).mp hk] at hc
  have : (st.levels.drop (level + 2)).any (fun files => files.any (fun f => fileContainsUser c f k)) = true :=
    List.any_eq_true.mpr ⟨files, hfiles, List.any_eq_true.mpr ⟨f, hf, hc⟩⟩
  rw [isBaseSpec, this] at hb
  cases hb

theorem distinct_of_sorted {c : Cmp} {r : Run} (h : RunSorted c r) :
    r.Pairwise (fun a b => entryCmp c a b ≠ .eq) := by
  apply List.Pairwise.imp _ h
  intro a b hab heq
  rw [Merge.entryLt_eq_cmp, heq] at hab
  cases hab

theorem distinct_of_newerThan {c : Cmp} {a b : Run} (h : NewerThan c a b) (ha : ∀ x ∈ a, x.kind ≤ 1)
    (hb : ∀ y ∈ b, y.kind ≤ 1) : ∀ x ∈ a, ∀ y ∈ b, entryCmp c x y ≠ .eq := by
  intro x hx y hy heq
  obtain ⟨h1, h2⟩ := (Lsm.ikCmp3_eq_iff c _ _ _ _).mp heq
  have hseq := (Lsm.packed_inj (Nat.lt_of_le_of_lt (ha x hx) (by decide)) (Nat.lt_of_le_of_lt (hb y hy) (by decide)) h2).1
  exact absurd (h x hx y hy ((CmpBasic.compare_eq_iff c _ _).mpr h1)) (hseq ▸ Nat.lt_irrefl _)

theorem pickNums_sublist (l : List FileMeta) (nums : List Nat) : (pickNums l nums).Sublist l := List.filter_sublist

theorem inputRuns_flatten (level : Nat) (in0 in1 : List FileMeta) :
    (inputRuns level in0 in1).flatten = (in0 ++ in1).flatMap (·.run) := by
  unfold inputRuns
  split <;> simp [List.flatMap_def]

section
variable {c : Cmp} {st : DbState} {level : Nat} {in0 in1 : List FileMeta}

theorem levelRun_sorted_of_sub (h : Inv c st) {l : Nat} (hl : 1 ≤ l) {fs : List FileMeta}
    (hsub : fs.Sublist (st.level l)) : RunSorted c (fs.flatMap (·.run)) :=
  Lsm.levelRun_sorted c fs (List.Pairwise.sublist hsub (h.levelsSorted l hl)) (fun f hf => Lsm.fileOk_of_inv h l f (hsub.mem hf))

theorem inputRuns_sorted (h : Inv c st) (h0 : in0.Sublist (st.level level))
    (h1 : in1.Sublist (st.level (level + 1))) : ∀ r ∈ inputRuns level in0 in1, RunSorted c r := by
  intro r hr
  unfold inputRuns at hr
  rcases List.mem_append.mp hr with hr | hr
  · split at hr
    · obtain ⟨f, hf, rfl⟩ := List.mem_map.mp hr
      exact (Lsm.fileOk_of_inv h level f (h0.mem hf)).1
    · rename_i hne
      rw [List.mem_singleton.mp hr]
      exact levelRun_sorted_of_sub h (Nat.pos_of_ne_zero (fun h0 => hne (by rw [h0]; rfl))) h0
  · rw [List.mem_singleton.mp hr]
    exact levelRun_sorted_of_sub h (Nat.le_add_left 1 level) h1

theorem level_distinct (h : Inv c st) {l : Nat} {fs : List FileMeta} (hsub : fs.Sublist (st.level l)) :
    (fs.flatMap (·.run)).Pairwise (fun a b => entryCmp c a b ≠ .eq) := by
  by_cases hl : 1 ≤ l
  · exact distinct_of_sorted (levelRun_sorted_of_sub h hl hsub)
  · have hl0 : l = 0 := Nat.eq_zero_of_not_pos hl
    subst hl0
    rw [List.pairwise_flatMap]
    refine ⟨fun f hf => distinct_of_sorted (Lsm.fileOk_of_inv h 0 f (hsub.mem hf)).1, ?_⟩
    have hnums : fs.Pairwise (fun f g => f.num ≠ g.num) := List.Pairwise.sublist hsub (h.numsRel.within 0)
    apply List.Pairwise.imp_of_mem _ hnums
    intro f g hf hg hne
    have hkf := Lsm.kinds_of_inv h 0 f (hsub.mem hf)
    have hkg := Lsm.kinds_of_inv h 0 g (hsub.mem hg)
    by_cases hgt : f.num > g.num
    · exact distinct_of_newerThan (h.toRec.l0 f (hsub.mem hf) g (hsub.mem hg) hgt) hkf hkg
    · have hgt' : g.num > f.num := Nat.lt_of_le_of_ne (Nat.le_of_not_lt hgt) hne
      intro x hx y hy
      exact Merge.entryCmp_ne_symm c
        (distinct_of_newerThan (h.toRec.l0 g (hsub.mem hg) f (hsub.mem hf) hgt') hkg hkf y hy x hx)

theorem inputRuns_distinct (h : Inv c st) (h0 : in0.Sublist (st.level level))
    (h1 : in1.Sublist (st.level (level + 1))) : DistinctKeys c (inputRuns level in0 in1) := by
  unfold DistinctKeys
  rw [inputRuns_flatten, List.flatMap_append, List.pairwise_append]
  refine ⟨level_distinct h h0, level_distinct h h1, ?_⟩
  intro x hx y hy
  obtain ⟨f, hf, hxf⟩ := List.mem_flatMap.mp hx
  obtain ⟨g, hg, hyg⟩ := List.mem_flatMap.mp hy
  exact distinct_of_newerThan (h.toRec.levels level (level + 1) (Nat.lt_succ_self level) f (h0.mem hf) g (h1.mem hg))
    (Lsm.kinds_of_inv h level f (h0.mem hf)) (Lsm.kinds_of_inv h (level + 1) g (h1.mem hg)) x hxf y hyg

theorem merged_sorted_perm (h : Inv c st) (h0 : in0.Sublist (st.level level))
    (h1 : in1.Sublist (st.level (level + 1))) :
    RunSorted c (mergeInputs c (inputRuns level in0 in1)) ∧
      (mergeInputs c (inputRuns level in0 in1)).Perm ((in0 ++ in1).flatMap (·.run)) := by
  have := mergeInputs_sorted_perm c _ (inputRuns_sorted h h0 h1) (inputRuns_distinct h h0 h1)
  rwa [inputRuns_flatten] at this

end

def IsCut (o : Run) (outs : List FileMeta) : Prop :=
  outs.flatMap (·.run) = o ∧
  ∀ f ∈ outs, f.run ≠ [] ∧ (∀ e ∈ f.run.head?, e.ukey = f.sk ∧ e.packed = f.sp) ∧
    (∀ e ∈ f.run.getLast?, e.ukey = f.lk ∧ e.packed = f.lp)

instance (o : Run) (outs : List FileMeta) : Decidable (IsCut o outs) := by unfold IsCut; infer_instance

/-- the first conjunct of clause (b) of `stepOk (.compact ..)`, and the order among the outputs that its second
    conjunct needs -/
theorem chunks_fileOk (c : Cmp) (o : Run) (outs : List FileMeta) (hs : RunSorted c o) (hc : IsCut o outs) :
    (∀ f ∈ outs, FileOk c f) ∧ outs.Pairwise (fun f g => ikLt c f.lk f.lp g.sk g.sp = true) := by
  obtain ⟨hflat, hfiles⟩ := hc
  rw [← hflat] at hs
  obtain ⟨h1, h2⟩ := List.pairwise_flatMap.mp hs
  have hok : ∀ f ∈ outs, FileOk c f :=
    fun f hf => ⟨h1 f hf, (hfiles f hf).1, (hfiles f hf).2.1, (hfiles f hf).2.2⟩
  refine ⟨hok, ?_⟩
  apply List.Pairwise.imp_of_mem _ h2
  intro f g hf hg hfg
  obtain ⟨l, hl, hlk, hlp⟩ := Lsm.fileOk_largest_mem (hok f hf)
  obtain ⟨m, hm, hmk, hmp⟩ := Lsm.fileOk_smallest_mem (hok g hg)
  rw [← hlk, ← hlp, ← hmk, ← hmp]
  exact hfg l hl m hm

end Compaction
end Lcdb
