/-
  The meaning of a list of system calls: on a directory (`Fs`), with the shape of the traces of `writeFile` /
  `setCurrentFile` needed for `setCurrentFile_atomic`; and as events of the storage-protocol model (`absGo`),
  for `ok_run_abstracts_write_then_sync`.
-/
import LcdbModel.Lemmas.WFile
namespace Lcdb.WFile
open Lcdb.Disk (FName)

/-- the event cannot change the file stored under name `g` as long as `g` is not the file open for writing -/
def Sys.avoids (g : FName) : Sys → Bool
  | .openW f none => f != g
  | .rename a b none => a != g && b != g
  | .unlink a none => a != g
  | _ => true

theorem avoids_of_isBody {e : Sys} {g : FName} (h : e.isBody = true) : e.avoids g = true := by
  cases e <;> first | rfl | cases h

theorem Fs.run_append (fs : Fs) (a b : List Sys) : Fs.run fs (a ++ b) = Fs.run (Fs.run fs a) b := by
  simp [Fs.run, List.foldl_append]

theorem Fs.run_cons (fs : Fs) (e : Sys) (t : List Sys) : Fs.run fs (e :: t) = Fs.run (fs.step e) t := rfl

theorem Fs.step_avoids (fs : Fs) (g : FName) (e : Sys) (he : e.avoids g = true) (hc : fs.cur ≠ some g) :
    (fs.step e).files g = fs.files g ∧ (fs.step e).synced g = fs.synced g ∧ (fs.step e).cur ≠ some g := by
  -- every arm of `Fs.step` changes `files` / `synced` only at names the event does not avoid, or at the open file
  have hcur : ∀ {f}, fs.cur = some f → g ≠ f := fun h1 h2 => hc (h2 ▸ h1)
  unfold Fs.step
  split
  · rename_i f
    have hfg : g ≠ f := fun h => by simp [Sys.avoids, h] at he
    exact ⟨if_neg hfg, if_neg hfg, fun h => hfg (Option.some.inj h).symm⟩
  · split
    · rename_i f hf
      exact ⟨if_neg (hcur hf), if_neg (hcur hf), hc⟩
    · exact ⟨rfl, rfl, hc⟩
  · split
    · rename_i f hf
      exact ⟨rfl, if_neg (hcur hf), hc⟩
    · exact ⟨rfl, rfl, hc⟩
  · exact ⟨rfl, rfl, fun h => nomatch h⟩
  · rename_i a b
    have hab : g ≠ a ∧ g ≠ b := by
      simp only [Sys.avoids, Bool.and_eq_true, bne_iff_ne] at he
      exact ⟨fun h => he.1 h.symm, fun h => he.2 h.symm⟩
    split
    · exact ⟨(if_neg hab.2).trans (if_neg hab.1), (if_neg hab.2).trans (if_neg hab.1), hc⟩
    · exact ⟨rfl, rfl, hc⟩
  · rename_i a
    have hga : g ≠ a := fun h => by simp [Sys.avoids, h] at he
    exact ⟨if_neg hga, if_neg hga, hc⟩
  · exact ⟨rfl, rfl, hc⟩

theorem Fs.run_avoids (g : FName) (t : List Sys) (fs : Fs) (h : ∀ e ∈ t, e.avoids g = true) (hc : fs.cur ≠ some g) :
    (Fs.run fs t).files g = fs.files g ∧ (Fs.run fs t).synced g = fs.synced g ∧ (Fs.run fs t).cur ≠ some g :=
  List.foldlRecOn t Fs.step (motive := fun s => s.files g = fs.files g ∧ s.synced g = fs.synced g ∧ s.cur ≠ some g)
    ⟨rfl, rfl, hc⟩ fun s r e he =>
      have s' := Fs.step_avoids s g e (h e he) r.2.2
      ⟨s'.1.trans r.1, s'.2.1.trans r.2.1, s'.2.2⟩

theorem Fs.prefix_avoids {g : FName} {t p : List Sys} {fs : Fs} (ht : ∀ e ∈ t, e.avoids g = true) (hc : fs.cur ≠ some g)
    (hp : p <+: t) : (Fs.run fs p).files g = fs.files g ∧ (Fs.run fs p).synced g = fs.synced g :=
  have h := Fs.run_avoids g p fs (fun e he => ht e (hp.subset he)) hc
  ⟨h.1, h.2.1⟩

theorem Fs.step_body (f : FName) (fs : Fs) (c : Bytes) {e : Sys} (he : e.isBody = true) (h1 : fs.cur = some f)
    (h2 : fs.files f = some c) : (fs.step e).cur = some f ∧ (fs.step e).files f = some (c ++ transferred [e]) := by
  cases e with
  | write q d => simp [Fs.step, h1, h2, transferred]
  | fsync dir r => cases dir <;> cases r <;> simp [Fs.step, h1, h2, transferred]
  | close dir r =>
    cases dir
    · cases he
    · simp [Fs.step, h1, h2, transferred]
  | openW | rename | unlink => cases he
  | _ => simp [Fs.step, h1, h2, transferred]

theorem Fs.run_body (f : FName) : ∀ (t : List Sys) (fs : Fs) (c : Bytes), (∀ e ∈ t, e.isBody = true) →
    fs.cur = some f → fs.files f = some c →
    (Fs.run fs t).cur = some f ∧ (Fs.run fs t).files f = some (c ++ transferred t)
  | [], fs, c, _, h1, h2 => ⟨h1, by rw [transferred_nil, List.append_nil]; exact h2⟩
  | e :: t, fs, c, h, h1, h2 => by
    have s := Fs.step_body f fs c (h e (List.mem_cons_self ..)) h1 h2
    have r := Fs.run_body f t (fs.step e) _ (fun x hx => h x (List.mem_cons_of_mem _ hx)) s.1 s.2
    rwa [List.append_assoc, ← transferred_append] at r

theorem Fs.run_open_ok (f : FName) (fs : Fs) (pre : List Sys) (hpre : ∀ e ∈ pre, ∃ x, e = Sys.openW f (some x)) :
    Fs.run fs (pre ++ [Sys.openW f none]) = fs.step (Sys.openW f none) :=
  -- a failed open leaves the directory as it is
  (Fs.run_append ..).trans <| congrArg (Fs.run · [Sys.openW f none]) <|
    List.foldlRecOn pre Fs.step (motive := (· = fs)) rfl fun _ hs e he => by obtain ⟨x, rfl⟩ := hpre e he; exact hs

theorem prefix_append_cases {α : Type} (p a b : List α) (h : p <+: a ++ b) : p <+: a ∨ ∃ b', b' <+: b ∧ p = a ++ b' :=
  (List.prefix_or_prefix_of_prefix h (List.prefix_append a b)).imp_right
    fun ⟨b', hb⟩ => ⟨b', (List.prefix_append_right_inj a).mp (hb ▸ h), hb.symm⟩

theorem Fs.run_rename {a b : FName} (hab : a ≠ b) {T D : List Sys} {fs : Fs} {body : Bytes}
    (ha : (Fs.run fs T).files a = some body ∧ (Fs.run fs T).synced a = true ∧ (Fs.run fs T).cur = none)
    (hD : ∀ e ∈ D, e.isDirEv = true) :
    (Fs.run fs (T ++ [Sys.rename a b none] ++ D)).files b = some body ∧
    (Fs.run fs (T ++ [Sys.rename a b none] ++ D)).synced b = true ∧
    (Fs.run fs (T ++ [Sys.rename a b none] ++ D)).files a = none := by
  rw [Fs.run_append, Fs.run_append]
  generalize Fs.run fs T = fsw at ha
  obtain ⟨f1, f2, f3⟩ := ha
  have hs : (Fs.run fsw [Sys.rename a b none]).files b = some body ∧ (Fs.run fsw [Sys.rename a b none]).synced b = true ∧
      (Fs.run fsw [Sys.rename a b none]).files a = none ∧ (Fs.run fsw [Sys.rename a b none]).cur = none := by
    simp [Fs.run, Fs.step, f1, f2, f3, hab]
  generalize Fs.run fsw [Sys.rename a b none] = fsr at hs
  have hav : ∀ g, ∀ e ∈ D, e.avoids g = true := fun g e he => avoids_of_isBody (isBody_of_isDirEv (hD e he))
  have a1 := Fs.run_avoids b D fsr (hav b) (by rw [hs.2.2.2]; exact fun h => nomatch h)
  have a2 := Fs.run_avoids a D fsr (hav a) (by rw [hs.2.2.2]; exact fun h => nomatch h)
  exact ⟨a1.1.trans hs.1, a1.2.1.trans hs.2.1, a2.1.trans hs.2.2.1⟩

/-- `p` ranges over the crash points: the prefixes of the trace -/
theorem Fs.rename_atomic {a b : FName} (hab : a ≠ b) {T D : List Sys} {fs : Fs} {body : Bytes}
    (hT : ∀ e ∈ T, e.avoids b = true) (hc : fs.cur ≠ some b)
    (ha : (Fs.run fs T).files a = some body ∧ (Fs.run fs T).synced a = true ∧ (Fs.run fs T).cur = none)
    (hD : ∀ e ∈ D, e.isDirEv = true) (p : List Sys) (hp : p <+: T ++ [Sys.rename a b none] ++ D) :
    ((Fs.run fs p).files b = fs.files b ∧ (Fs.run fs p).synced b = fs.synced b) ∨
    ((Fs.run fs p).files b = some body ∧ (Fs.run fs p).synced b = true) := by
  rw [List.append_assoc] at hp
  rcases prefix_append_cases _ _ _ hp with h1 | ⟨b', hb', rfl⟩
  · exact Or.inl (Fs.prefix_avoids hT hc h1)
  · cases b' with
    | nil => exact Or.inl (Fs.prefix_avoids hT hc ⟨[], by rw [List.append_nil, List.append_nil]⟩)
    | cons y d' =>
      obtain ⟨rfl, hd'⟩ := List.cons_prefix_cons.mp hb'
      have := Fs.run_rename hab ha (fun e he => hD e (hd'.subset he))
      rw [List.append_assoc] at this
      exact Or.inr ⟨this.1, this.2.1⟩

theorem writeBody_avoids (cap : Nat) (name g : FName) (hne : name ≠ g) (data : Bytes) (sync : Bool) (orc : Oracle) :
    ∀ e ∈ (writeBody cap name data sync orc).ev, e.avoids g = true := by
  unfold writeBody
  simp only
  have FA := append0_facts cap { buf := [], manifest := isManifest name, fdOpen := true } (Nat.zero_le _) data orc
  generalize append0 cap { buf := [], manifest := isManifest name, fdOpen := true } data orc = A at FA
  have hAev : ∀ e ∈ A.ev, e.avoids g = true := fun e he => avoids_of_isBody (FA.body e he)
  generalize hS : (if A.rc = .ok ∧ sync = true then sync0 A.f A.orc else (⟨[], A.rc, A.orc, A.f⟩ : Res)) = S
  have hs : ∀ e ∈ S.ev, e.avoids g = true := by
    intro e he
    rw [← hS] at he
    split at he
    · exact avoids_of_isBody ((sync0_facts cap A.f FA.buf_le A.orc).body e he)
    · simp at he
  generalize hC : (if S.rc = .ok then close S.f S.orc else (⟨[], S.rc, S.orc, S.f⟩ : Res)) = C
  have hc : ∀ e ∈ C.ev, e.avoids g = true := by
    intro e he
    rw [← hC] at he
    split at he
    · simp only [close, List.mem_append, List.mem_singleton] at he
      rcases he with he | rfl
      · exact avoids_of_isBody (isBody_of_isWrite ((osWrite_facts _ _).isWrite e he))
      · rfl
    · simp at he
  intro e he
  simp only [List.mem_append] at he
  -- append, sync, close: calls on the open file; destroy: its close; the unlink after a failure names `name ≠ g`
  rcases he with (((he | he) | he) | he) | he
  · exact hAev e he
  · exact hs e he
  · exact hc e he
  · unfold destroy at he
    split at he
    · simp at he; subst he; rfl
    · simp at he
  · split at he
    · simp [unlinkFile] at he; subst he
      cases (popAns _).1 <;> simp [Sys.avoids, hne]
    · simp at he

/-- `ldb_wfile_close` sets `fd = -1`, so the `ldb_wfile_destroy` that follows issues no call -/
theorem destroy_closed (f : WF) (orc : Oracle) : (destroy (close f orc).f (close f orc).orc).1 = [] := rfl

theorem writeBody_ok (cap : Nat) (name : FName) (data : Bytes) (orc : Oracle)
    (hok : (writeBody cap name data true orc).rc = .ok) :
    ∃ B, (writeBody cap name data true orc).ev = B ++ [Sys.fsync false none, Sys.close false none] ∧
      (∀ e ∈ B, e.isBody = true) ∧ transferred B = data := by
  unfold writeBody at hok ⊢
  simp only at hok ⊢
  have FA := append0_facts cap { buf := [], manifest := isManifest name, fdOpen := true } (Nat.zero_le _) data orc
  generalize append0 cap { buf := [], manifest := isManifest name, fdOpen := true } data orc = A at FA hok ⊢
  by_cases h1 : A.rc = .ok
  · simp only [h1, and_self, ↓reduceIte] at hok ⊢
    have FS := sync0_facts cap A.f FA.buf_le A.orc
    by_cases h2 : (sync0 A.f A.orc).rc = .ok
    · simp only [h2, ↓reduceIte] at hok ⊢
      obtain ⟨hbuf, B, hB, hT⟩ := sync0_ok h2
      -- the buffer is empty: the flush of the close writes nothing, and the descriptor is closed before `destroy`
      obtain ⟨_, hcl⟩ := close_ok _ _ hok
      simp only [hok, ne_eq, not_true_eq_false, ↓reduceIte, List.append_nil]
      rw [destroy_closed, hcl, (flush_nil _ _ hbuf).1, hB]
      refine ⟨A.ev ++ B, by simp, fun e he => ?_, ?_⟩
      · exact (List.mem_append.mp he).elim (FA.body e) (fun h => FS.body e (hB ▸ List.mem_append_left _ h))
      · rw [transferred_append, hT]
        exact FA.ok h1
    · simp only [h2, ↓reduceIte] at hok
  · simp only [h1, false_and, ↓reduceIte] at hok

theorem writeFile_fail (cap : Nat) (name : FName) (data : Bytes) (sync : Bool) (orc : Oracle) (e : Errno)
    (h : (osOpen (Sys.openW name) orc.o).r = some e) :
    writeFile cap name data sync orc = ⟨(osOpen (Sys.openW name) orc.o).ev, .err e, { orc with o := (osOpen (Sys.openW name) orc.o).rest }⟩ := by
  simp only [writeFile, h]

theorem writeFile_opened (cap : Nat) (name : FName) (data : Bytes) (sync : Bool) (orc : Oracle)
    (h : (osOpen (Sys.openW name) orc.o).r = none) :
    writeFile cap name data sync orc =
      ⟨(osOpen (Sys.openW name) orc.o).ev ++ (writeBody cap name data sync { orc with o := (osOpen (Sys.openW name) orc.o).rest }).ev,
       (writeBody cap name data sync { orc with o := (osOpen (Sys.openW name) orc.o).rest }).rc,
       (writeBody cap name data sync { orc with o := (osOpen (Sys.openW name) orc.o).rest }).orc⟩ := by
  simp only [writeFile, h]

theorem writeFile_avoids (cap : Nat) (name g : FName) (hne : name ≠ g) (data : Bytes) (sync : Bool) (orc : Oracle) :
    ∀ e ∈ (writeFile cap name data sync orc).ev, e.avoids g = true := by
  have hopen : ∀ e ∈ (osOpen (Sys.openW name) orc.o).ev, e.avoids g = true := by
    intro e he
    obtain ⟨r, hr⟩ := (osOpen_facts _ _).mem e he
    subst hr
    cases r <;> simp [Sys.avoids, hne]
  intro e he
  cases h : (osOpen (Sys.openW name) orc.o).r with
  | some x => rw [writeFile_fail _ _ _ _ _ x h] at he; exact hopen e he
  | none =>
    rw [writeFile_opened _ _ _ _ _ h] at he
    simp only [List.mem_append] at he
    rcases he with he | he
    · exact hopen e he
    · exact writeBody_avoids cap name g hne data sync _ e he

theorem setCurrentFile_cases (cap n : Nat) (orc : Oracle) :
    (∃ pre x, (setCurrentFile cap n orc).ev = pre ++ [Sys.unlink (.tmp n) x] ∧ (∀ e ∈ pre, e.avoids .current = true) ∧
      (setCurrentFile cap n orc).rc ≠ .ok) ∨
    (∃ D, (setCurrentFile cap n orc).ev =
        (writeFile cap (.tmp n) (ptrBytes n) true orc).ev ++ [Sys.rename (.tmp n) .current none] ++ D ∧
      (∀ e ∈ D, e.isDirEv = true) ∧ (writeFile cap (.tmp n) (ptrBytes n) true orc).rc = .ok ∧
      (setCurrentFile cap n orc).rc = .ok) := by
  have hwav := writeFile_avoids cap (.tmp n) .current (fun h => nomatch h) (ptrBytes n) true orc
  unfold setCurrentFile
  generalize writeFile cap (.tmp n) (ptrBytes n) true orc = W at hwav ⊢
  by_cases hw : W.rc = .ok
  · simp only [hw, ↓reduceIte]
    cases hr : (popAns W.orc.r).1 with
    | some e =>
      exact Or.inl ⟨W.ev ++ [.rename (.tmp n) .current (some e)], _, rfl,
        List.forall_mem_append.mpr ⟨hwav, List.forall_mem_singleton.mpr rfl⟩, fun h => nomatch h⟩
    | none => exact Or.inr ⟨_, rfl, (syncDir_facts _).dirEv, trivial, rfl⟩
  · simp only [hw, ↓reduceIte]
    exact Or.inl ⟨W.ev, _, rfl, hwav, hw⟩

/-- what the system calls on the open file `f`, apart from the write that completes the record, abstract to -/
def OnlySyncs (f : FName) (l : List Disk.Ev) : Prop := ∀ e ∈ l, e = Disk.Ev.sync f ∨ e = Disk.Ev.syncDir

theorem onlySyncs_nil (f : FName) : OnlySyncs f [] := fun _ h => nomatch h

def syncEv (f : FName) : Sys → List Disk.Ev
  | .fsync false none => [Disk.Ev.sync f]
  | .fsync true none => [Disk.Ev.syncDir]
  | _ => []

theorem onlySyncs_syncEv_append (f : FName) (e : Sys) {b : List Disk.Ev} (hb : OnlySyncs f b) :
    OnlySyncs f (syncEv f e ++ b) := by
  unfold syncEv
  split
  · exact List.forall_mem_cons.mpr ⟨Or.inl rfl, hb⟩
  · exact List.forall_mem_cons.mpr ⟨Or.inr rfl, hb⟩
  · exact hb

/-- what one event of the open file contributes to the abstraction while the file holds `cur` -/
def absBody (f : FName) (full : Bytes) (r : Disk.Rec) (cur : Bytes) (e : Sys) : List Disk.Ev :=
  (if cur ≠ full ∧ cur ++ transferred [e] = full then [Disk.Ev.append f r] else []) ++ syncEv f e

theorem absGo_cons_body {f : FName} {full : Bytes} {r : Disk.Rec} {cur : Bytes} {e : Sys} {t : List Sys} (he : e.isBody = true) :
    absGo f full r cur (e :: t) = absBody f full r cur e ++ absGo f full r (cur ++ transferred [e]) t := by
  cases e with
  | openW | rename | unlink => cases he
  | fsync dir x => cases dir <;> cases x <;> simp [absGo, absBody, syncEv, transferred]
  | _ => simp [absGo, absBody, syncEv, transferred]

theorem full_cross_false {full cur d : Bytes} (hp : full <+: cur) : ¬ (cur ≠ full ∧ cur ++ d = full) :=
  fun ⟨h1, h2⟩ => h1 (List.IsPrefix.eq_of_length ⟨d, h2⟩ (Nat.le_antisymm (List.IsPrefix.length_le ⟨d, h2⟩) hp.length_le))

theorem absGo_done (f : FName) (full : Bytes) (r : Disk.Rec) : ∀ (t : List Sys) (cur : Bytes),
    (∀ e ∈ t, e.isBody = true) → full <+: cur → OnlySyncs f (absGo f full r cur t)
  | [], _, _, _ => onlySyncs_nil f
  | e :: t, cur, h, hp => by
    rw [absGo_cons_body (h e (List.mem_cons_self ..)), absBody, if_neg (full_cross_false hp)]
    exact onlySyncs_syncEv_append f e
      (absGo_done f full r t _ (fun x hx => h x (List.mem_cons_of_mem _ hx)) (hp.trans (List.prefix_append _ _)))

theorem absGo_cross (f : FName) (full : Bytes) (r : Disk.Rec) : ∀ (t : List Sys) (cur : Bytes),
    (∀ e ∈ t, e.isBody = true) → cur ≠ full → cur ++ transferred t = full →
    ∃ A B, absGo f full r cur t = A ++ [Disk.Ev.append f r] ++ B ∧ OnlySyncs f A ∧ OnlySyncs f B
  | [], cur, _, h1, h2 => absurd ((List.append_nil cur).symm.trans h2) h1
  | e :: t, cur, h, h1, h2 => by
    have ht : ∀ x ∈ t, x.isBody = true := fun x hx => h x (List.mem_cons_of_mem _ hx)
    rw [absGo_cons_body (h e (List.mem_cons_self ..)), absBody]
    by_cases hC : cur ≠ full ∧ cur ++ transferred [e] = full
    · -- this event completes the record
      rw [if_pos hC]
      exact ⟨[], _, List.append_assoc _ _ _, onlySyncs_nil f, onlySyncs_syncEv_append f e
        (absGo_done f full r t _ ht ⟨[], (List.append_nil _).trans hC.2.symm⟩)⟩
    · rw [if_neg hC]
      obtain ⟨A, B, e1, e2, e3⟩ := absGo_cross f full r t _ ht (fun h => hC ⟨h1, h⟩)
        (by rw [List.append_assoc, ← transferred_append]; exact h2)
      exact ⟨syncEv f e ++ A, B, by rw [e1]; simp only [List.nil_append, List.append_assoc],
        onlySyncs_syncEv_append f e e2, e3⟩

theorem absGo_append_body (f : FName) (full : Bytes) (r : Disk.Rec) : ∀ (t1 : List Sys) (cur : Bytes) (t2 : List Sys),
    (∀ e ∈ t1, e.isBody = true) →
    absGo f full r cur (t1 ++ t2) = absGo f full r cur t1 ++ absGo f full r (cur ++ transferred t1) t2
  | [], cur, t2, _ => by rw [transferred_nil, List.append_nil]; rfl
  | e :: t, cur, t2, h => by
    have he := h e (List.mem_cons_self ..)
    rw [List.cons_append, absGo_cons_body he, absGo_cons_body he,
      absGo_append_body f full r t _ t2 (fun x hx => h x (List.mem_cons_of_mem _ hx)), List.append_assoc, List.append_assoc,
      ← transferred_append]
    rfl

theorem flush_so (f : WF) (orc : Oracle) : (flush f orc).orc.s = orc.s ∧ (flush f orc).orc.o = orc.o := ⟨rfl, rfl⟩

end Lcdb.WFile
