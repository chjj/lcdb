/-
  The db_iter.c state machine (Model/DbIterImpl.lean) over an internal iterator that simulates a
  cursor over a run `r`, for the seek targets in `P` (`InternalIter.SimOn`; db_iter.c seeks
  the internal iterator only from `ldb_dbiter_seek`, with the trailer `seekPacked s`).

  The lemmas on the loops and on the operations each have two halves:

  * whatever the run holds, it does not fault and leaves the internal iterator at a cut of the run
    (`FNPost`/`FPPost`/`PSPost`, `SInv`) — this is where fuel sufficiency is shown; `run_total` is this
    half for every sequence of operations;
  * for a sorted run with kinds ≤ 1 that cut is the answer the invariants of Lemmas/DbIterScan.lean
    describe, a live index (Lemmas/DbIterLive.lean), and the state is related by `DRel` to where the
    reference cursor over the live keys goes; `dbiter_sim` is this half for `DbIter.ops`.

  Positions of the internal iterator are written as cuts (`toPos`, `predPos`, `cutIdx`: Lemmas/ListBasic.lean;
  the run cursor in these terms: Lemmas/IterSim.lean): `toPos n r.length` where it moves forward,
  `predPos k` (`k` entries at or before it) where it moves back, so that a position needs no range
  hypothesis and "off the end" / "off the front" are `n = r.length` / `k = 0`.
-/
import LcdbModel.Lemmas.DbIterLive
import LcdbModel.Lemmas.Cursor
import LcdbModel.Lemmas.IterSim
namespace Lcdb.DbIt
open Lcdb Lcdb.Lsm Lcdb.CmpBasic Lcdb.RunCursor

theorem _root_.Lcdb.Dir.forward_or_reverse (d : Dir) : d = .forward ∨ d = .reverse := by
  cases d <;> simp

section Sim
variable {σ : Type} {I : InternalIter σ} {c : Cmp} {r : Run} {R : σ → Option Nat → Prop}
  {P : Bytes → Nat → Prop}

theorem runEntry_some (r : Run) (p : Nat) : runEntry r (some p) = r[p]? := rfl
theorem runEntry_none (r : Run) : runEntry r none = none := rfl

/-- find_next_user_entry has stopped at `res` (`none`: ran off the end); the status changes only when
    an entry does not parse -/
def FNPost (R : σ → Option Nat → Prop) (r : Run) (st st' : DbIter σ) (res : Option Nat) : Prop :=
  st'.dir = st.dir ∧ ((∀ e ∈ r, e.kind ≤ 1) → st'.status = st.status) ∧
  match res with
  | some q => q < r.length ∧ st'.valid = true ∧ R st'.it (some q)
  | none => st'.valid = false ∧ R st'.it none

def FPPost (R : σ → Option Nat → Prop) (r : Run) (st st' : DbIter σ) (vt' : Nat) (res : BRes) : Prop :=
  vt' = res.vt ∧ st'.savedKey = res.sk ∧ st'.savedValue = res.sv ∧ R st'.it (predPos res.pos) ∧
  res.pos ≤ r.length ∧ st'.dir = st.dir ∧
  ((∀ e ∈ r, e.kind ≤ 1) → st'.status = st.status)

def PSPost (R : σ → Option Nat → Prop) (r : Run) (st st' : DbIter σ) (b : Bool) (res : Nat) : Prop :=
  st'.status = st.status ∧ R st'.it (predPos res) ∧ res ≤ r.length ∧
  match res with
  | 0 => b = true ∧ st'.valid = false
  | _ + 1 => b = false

def FNOut (R : σ → Option Nat → Prop) (c : Cmp) (s : Nat) (r : Run) (st : DbIter σ) (p : Nat) (skipping : Bool)
    (st' : DbIter σ) : Prop :=
  ∃ res, FNPost R r st st' res ∧
    (RunSorted c r → (∀ e ∈ r, e.kind ≤ 1) → FwdInv c s r p skipping st.savedKey →
      FwdPost s r p skipping st.savedKey res)

def FPOut (R : σ → Option Nat → Prop) (c : Cmp) (s : Nat) (r : Run) (st : DbIter σ) (k vt : Nat)
    (st' : DbIter σ) (vt' : Nat) : Prop :=
  ∃ res, FPPost R r st st' vt' res ∧
    (RunSorted c r → (∀ e ∈ r, e.kind ≤ 1) → ∀ hi, k ≤ hi → hi ≤ r.length →
      BInv s r hi k vt st.savedKey st.savedValue → BPost s r hi res)

variable (hsim : InternalIter.SimOn P I (runIter c r) R)
include hsim

theorem sim_entry {a : σ} {p : Nat} (h : R a (some p)) (hp : p < r.length) :
    ∃ e, r[p]? = some e ∧ e ∈ r ∧ I.entry a = some e := by
  obtain ⟨e, he, hmem⟩ := get_of_lt hp
  exact ⟨e, he, hmem, (hsim.entry a (some p) h).trans he⟩

theorem sim_valid {a : σ} {p : Option Nat} (h : R a p) :
    I.valid a = (runEntry r p).isSome := hsim.valid a p h

theorem sim_valid_some {a : σ} {p : Nat} (h : R a (some p))
    (hp : p < r.length) : I.valid a = true := by
  rw [sim_valid hsim h, runEntry_some]
  obtain ⟨e, he, _⟩ := get_of_lt hp
  simp [he]

theorem sim_valid_none {a : σ} (h : R a none) :
    I.valid a = false := by
  rw [sim_valid hsim h]; rfl

theorem sim_next {a : σ} {p : Nat} (h : R a (some p))
    (hp : p < r.length) : ∃ a', I.next a = some a' ∧ R a' (toPos (p + 1) r.length) := by
  obtain ⟨a', b', h1, h2, h3⟩ := hsim.next a (some p) h (sim_valid_some hsim h hp)
  cases h2.symm.trans (runNext_eq hp)
  exact ⟨a', h1, h3⟩

theorem sim_prev {a : σ} {p : Nat} (h : R a (some p))
    (hp : p < r.length) : ∃ a', I.prev a = some a' ∧ R a' (predPos p) := by
  obtain ⟨a', b', h1, h2, h3⟩ := hsim.prev a (some p) h (sim_valid_some hsim h hp)
  cases h2.symm.trans (runPrev_eq hp)
  exact ⟨a', h1, h3⟩

theorem sim_first {a : σ} {p : Option Nat} (h : R a p) :
    ∃ a', I.first a = some a' ∧ R a' (toPos 0 r.length) := by
  obtain ⟨a', _, h1, h2, h3⟩ := hsim.first a p h
  cases h2.symm.trans (congrArg some (runFirst_eq r))
  exact ⟨a', h1, h3⟩

theorem sim_last {a : σ} {p : Option Nat} (h : R a p) :
    ∃ a', I.last a = some a' ∧ R a' (predPos r.length) := by
  obtain ⟨a', _, h1, h2, h3⟩ := hsim.last a p h
  cases h2.symm.trans (congrArg some (runLast_eq r))
  exact ⟨a', h1, h3⟩

theorem sim_seek {a : σ} {p : Option Nat} (h : R a p) (k : Bytes) (pk : Nat) (hP : P k pk) :
    ∃ a', I.seek k pk a = some a' ∧
      R a' (toPos (cutIdx (fun e => ikLt c e.ukey e.packed k pk) r) r.length) := by
  obtain ⟨a', _, h1, h2, h3⟩ := hsim.seek k pk a p hP h
  cases h2.symm.trans (congrArg some (runSeekIdx_eq c k pk r))
  exact ⟨a', h1, h3⟩

/-- the tail of the loop body, entered with the state `st` the body has made of `st0` -/
theorem fnStep_spec {s fuel : Nat} {skipping : Bool}
    {st0 st : DbIter σ} {p : Nat} (hR : R st.it (some p)) (hp : p < r.length) (hd : st.dir = st0.dir)
    (hst : (∀ e ∈ r, e.kind ≤ 1) → st.status = st0.status)
    (ih : ∀ (skipping : Bool) (st2 : DbIter σ) (p2 : Nat), R st2.it (some p2) → p2 < r.length →
      r.length < fuel + p2 →
      ∃ st', DbIter.findNextUserEntry I c s fuel skipping st2 = some st' ∧ FNOut R c s r st2 p2 skipping st')
    (hf : r.length < fuel + 1 + p) :
    ∃ st' res, DbIter.fnStep I (DbIter.findNextUserEntry I c s fuel) skipping st = some st' ∧
      FNPost R r st0 st' res ∧
      (RunSorted c r → (∀ e ∈ r, e.kind ≤ 1) → FwdInv c s r (p + 1) skipping st.savedKey →
        FwdPost s r (p + 1) skipping st.savedKey res) := by
  obtain ⟨a', hn, hR'⟩ := sim_next hsim hR hp
  unfold DbIter.fnStep
  rw [hn]
  by_cases hp1 : p + 1 < r.length
  · rw [toPos_of_lt hp1] at hR'
    have hv := sim_valid_some hsim hR' hp1
    simp only [hv, if_true]
    obtain ⟨st', h1, res, ⟨g1, g2, g3⟩, g4⟩ := ih skipping { st with it := a' } (p + 1) hR' hp1
      (by rw [Nat.add_right_comm] at hf; exact hf)
    exact ⟨st', res, h1, ⟨g1.trans hd, fun hk => (g2 hk).trans (hst hk), g3⟩, g4⟩
  · rw [toPos_of_ge (Nat.le_of_not_lt hp1)] at hR'
    have hv := sim_valid_none hsim hR'
    simp only [hv, Bool.false_eq_true, if_false]
    exact ⟨_, none, rfl, ⟨hd, hst, rfl, hR'⟩, fun _ _ _ => fwdPost_none_of_ge (Nat.le_of_not_lt hp1)⟩

/-- each round advances the iterator, so `r.length < fuel + p` is all the fuel it needs -/
theorem findNext_spec (s : Nat) :
    ∀ (fuel : Nat) (skipping : Bool) (st : DbIter σ) (p : Nat), R st.it (some p) → p < r.length →
      r.length < fuel + p →
      ∃ st', DbIter.findNextUserEntry I c s fuel skipping st = some st' ∧ FNOut R c s r st p skipping st' := by
  intro fuel
  induction fuel with
  | zero =>
    intro _ _ p _ hp hf
    rw [Nat.zero_add] at hf
    exact absurd hp (Nat.lt_asymm hf)
  | succ fuel ih =>
    intro skipping st p hR hp hf
    obtain ⟨e, he, hmem, hent⟩ := sim_entry hsim hR hp
    unfold DbIter.findNextUserEntry
    by_cases hek : e.kind ≤ 1
    · by_cases hv : e.seq ≤ s
      · have hvp : vis s r p = true := (vis_of he).trans (decide_eq_true hv)
        by_cases hk0 : e.kind = 0
        · -- visible deletion: no live index after `p` has its key, nor the key skipped so far
          simp only [hent, DbIter.parseKey, hv, hk0, beq_self_eq_true, if_true, decide_true, Bool.true_and,
            Nat.zero_le]
          rw [← uk_of he]
          obtain ⟨st', res, h1, h2, h3⟩ :=
            fnStep_spec (st0 := st) (st := { st with savedKey := uk r p }) hsim hR hp rfl (fun _ => rfl) ih hf
          refine ⟨st', h1, res, h2, fun hs hk hinv => (h3 hs hk (hinv.delete hs hvp)).pass
            (fun hl => absurd hl.2 (by rw [knd_of he, hk0]; decide)) (fun j hj hl => ?_)⟩
          have hne : uk r p ≠ uk r j := fun hu => not_head_of_vis hj hu hvp hl.1
          exact ⟨fun h => absurd h.2.symm hne,
            fun h => absurd ((hinv.key_eq hs hvp (Nat.le_of_lt hj) hl.lt h.1 h.2).trans h.2.symm) hne⟩
        · have hne : (e.kind == 0) = false := beq_eq_false_iff_ne.mpr hk0
          cases hh : (skipping && c.compare e.ukey st.savedKey != .gt) with
          | true =>
            -- hidden value: it has the skipped key
            simp only [hent, DbIter.parseKey, hek, hv, hne, hh, if_true, decide_true, Bool.true_and,
              Bool.false_eq_true, if_false]
            obtain ⟨st', res, h1, h2, h3⟩ := fnStep_spec (st0 := st) hsim hR hp rfl (fun _ => rfl) ih hf
            refine ⟨st', h1, res, h2, fun hs hk hinv => ?_⟩
            simp only [Bool.and_eq_true, bne_iff_ne, ne_eq] at hh
            have hup : skipping = true ∧ uk r p = st.savedKey := by
              refine ⟨hh.1, ?_⟩
              have h1 := hinv.low hh.1 p (Nat.le_refl p) hp hvp
              rw [uk_of he] at h1 ⊢
              exact compare_antisymm c hh.2 h1
            exact (h3 hs hk (hinv.pass fun _ => hup)).pass (fun _ => hup) (fun _ _ _ => Iff.rfl)
          | false =>
            -- accepted
            simp only [hent, DbIter.parseKey, hek, hv, hne, hh, if_true, decide_true, Bool.true_and,
              Bool.false_eq_true, if_false]
            refine ⟨_, rfl, some p, ⟨rfl, fun _ => rfl, hp, rfl, hR⟩, fun _ _ hinv => ?_⟩
            have hnot : ¬ (skipping = true ∧ uk r p = st.savedKey) := by
              rintro ⟨hsk, hu⟩
              rw [hsk, ← uk_of he, hu, compare_refl] at hh
              cases hh
            have hk1 : knd r p = 1 := (knd_of he).trans (Nat.le_antisymm hek (Nat.pos_of_ne_zero hk0))
            refine ⟨Nat.le_refl p, ⟨⟨hvp, fun i hi hu => ?_⟩, hk1⟩, hnot,
              fun j hj hjp => absurd hjp (Nat.not_lt.mpr hj)⟩
            cases hvi : vis s r i with
            | false => rfl
            | true => exact absurd (hinv.shadow i p hi (Nat.le_refl p) hp hu hvi) hnot
      · -- invisible entry
        have hvp : vis s r p ≠ true := fun h => hv (of_decide_eq_true ((vis_of he).symm.trans h))
        simp only [hent, DbIter.parseKey, hek, hv, if_true, decide_false, Bool.true_and,
          Bool.false_eq_true, if_false]
        obtain ⟨st', res, h1, h2, h3⟩ := fnStep_spec (st0 := st) hsim hR hp rfl (fun _ => rfl) ih hf
        exact ⟨st', h1, res, h2, fun hs hk hinv => (h3 hs hk (hinv.pass fun h => absurd h hvp)).pass
          (fun hl => absurd hl.1.1 hvp) (fun _ _ _ => Iff.rfl)⟩
    · -- an entry that does not parse: passed over, status corrupt
      simp only [hent, DbIter.parseKey, hek, if_false, Bool.false_and, Bool.false_eq_true]
      obtain ⟨st', res, h1, h2, _⟩ := fnStep_spec (st0 := st) (st := { st with status := .corrupt }) hsim hR hp rfl
        (fun hk => absurd (hk e hmem) hek) ih hf
      exact ⟨st', h1, res, h2, fun _ hk => absurd (hk e hmem) hek⟩

theorem fwd_at_cut (s : Nat) {fuel : Nat} (hfuel : r.length < fuel) (skipping : Bool) {st2 stE : DbIter σ}
    {n : Nat} (hR : R st2.it (toPos n r.length)) (hE : R st2.it none → FNPost R r st2 stE none) :
    ∃ st', (if I.valid st2.it then DbIter.findNextUserEntry I c s fuel skipping st2 else some stE) = some st' ∧
      FNOut R c s r st2 n skipping st' := by
  by_cases hn : n < r.length
  · rw [toPos_of_lt hn] at hR
    simp only [sim_valid_some hsim hR hn, if_true]
    exact findNext_spec hsim s fuel skipping st2 n hR hn (Nat.lt_add_right n hfuel)
  · rw [toPos_of_ge (Nat.le_of_not_lt hn)] at hR
    simp only [sim_valid_none hsim hR, Bool.false_eq_true, if_false]
    exact ⟨_, rfl, none, hE hR, fun _ _ _ => fwdPost_none_of_ge (Nat.le_of_not_lt hn)⟩

/-- the tail of the loop body: `ldb_iter_prev`, then the loop test -/
theorem fpStep_spec {s fuel : Nat} {vt2 : Nat}
    {st st2 : DbIter σ} {p : Nat} (hR : R st2.it (some p)) (hp : p < r.length)
    (hst : (∀ e ∈ r, e.kind ≤ 1) → st2.status = st.status)
    (hd : st2.dir = st.dir)
    (ih : ∀ (vt : Nat) (st3 : DbIter σ) (p3 : Nat), R st3.it (some p3) → p3 < r.length → p3 < fuel →
      ∃ st' vt', DbIter.findPrevLoop I c s fuel vt st3 = some (st', vt') ∧ FPOut R c s r st3 (p3 + 1) vt st' vt')
    (hf : p < fuel + 1) :
    ∃ st' vt' res, (match I.prev st2.it with
        | none => none
        | some it' =>
          if I.valid it' then DbIter.findPrevLoop I c s fuel vt2 { st2 with it := it' }
          else some ({ st2 with it := it' }, vt2)) = some (st', vt') ∧
      FPPost R r st st' vt' res ∧
      (RunSorted c r → (∀ e ∈ r, e.kind ≤ 1) → ∀ hi, p ≤ hi → hi ≤ r.length →
        BInv s r hi p vt2 st2.savedKey st2.savedValue → BPost s r hi res) := by
  cases p with
  | zero =>
    obtain ⟨a', hn, (hR' : R a' none)⟩ := sim_prev hsim hR hp
    rw [hn]
    simp only [sim_valid_none hsim hR', Bool.false_eq_true, if_false]
    exact ⟨_, _, ⟨0, vt2, st2.savedKey, st2.savedValue⟩, rfl, ⟨rfl, rfl, rfl, hR', Nat.zero_le _, hd, hst⟩,
      fun _ _ _ _ _ hinv => hinv.post (pos := 0) (fun _ => rfl) (fun i hi => absurd hi (Nat.not_lt_zero i))⟩
  | succ j =>
    obtain ⟨a', hn, (hR' : R a' (some j))⟩ := sim_prev hsim hR hp
    rw [hn]
    simp only [sim_valid_some hsim hR' (Nat.lt_of_succ_lt hp), if_true]
    obtain ⟨st', vt', h1, res, ⟨g1, g2, g3, g4, g5, g6, g7⟩, g9⟩ :=
      ih vt2 { st2 with it := a' } j hR' (Nat.lt_of_succ_lt hp) (Nat.lt_of_succ_lt_succ hf)
    exact ⟨st', vt', res, h1, ⟨g1, g2, g3, g4, g5, g6.trans hd, fun hk => (g7 hk).trans (hst hk)⟩, g9⟩

/-- each round steps back, so `p < fuel` suffices -/
theorem findPrevLoop_spec (s : Nat) :
    ∀ (fuel : Nat) (vt : Nat) (st : DbIter σ) (p : Nat), R st.it (some p) → p < r.length → p < fuel →
      ∃ st' vt', DbIter.findPrevLoop I c s fuel vt st = some (st', vt') ∧ FPOut R c s r st (p + 1) vt st' vt' := by
  intro fuel
  induction fuel with
  | zero => intro _ _ p _ _ hf; exact absurd hf (Nat.not_lt_zero p)
  | succ fuel ih =>
    intro vt st p hR hp hf
    obtain ⟨e, he, hmem, hent⟩ := sim_entry hsim hR hp
    unfold DbIter.findPrevLoop
    by_cases hek : e.kind ≤ 1
    · by_cases hv : e.seq ≤ s
      · have hvp : vis s r p = true := (vis_of he).trans (decide_eq_true hv)
        cases hb : (vt != 0 && c.compare e.ukey st.savedKey == .lt) with
        | true =>
          -- break: all keys up to `p` are below the saved one
          simp only [hent, DbIter.parseKey, hek, hv, hb, if_true, decide_true, Bool.true_and]
          refine ⟨_, _, rfl, ⟨p + 1, vt, st.savedKey, st.savedValue⟩, ⟨rfl, rfl, rfl, hR, hp, rfl, fun _ => rfl⟩,
            fun hs _ hi _ _ hinv => ?_⟩
          simp only [Bool.and_eq_true, bne_iff_ne, ne_eq, beq_iff_eq] at hb
          refine hinv.post (pos := p + 1) (fun h => absurd h hb.1) (fun i hi hu => ?_)
          have h1 := uk_le hs (Nat.le_of_lt_succ hi) hp
          rw [hu, uk_of he] at h1
          exact h1 ((compare_lt_iff c _ _).mp hb.2)
        | false =>
          -- no entry processed so far is live: the one at `p` hides or replaces the saved one
          have hdead := fun (hs : RunSorted c r) {hi : Nat} (hhi : hi ≤ r.length)
              (hinv : BInv s r hi (p + 1) vt st.savedKey st.savedValue) =>
            hinv.dead hs hhi hvp (fun hvt hlt => by
              rw [uk_of he] at hlt
              simp [hvt, hlt] at hb)
          by_cases hk0 : e.kind = 0
          · simp only [hent, DbIter.parseKey, hv, hb, hk0, beq_self_eq_true, if_true, decide_true,
              Bool.true_and, Bool.false_eq_true, if_false, Nat.zero_le]
            obtain ⟨st', vt', res, h1, h2, h3⟩ := fpStep_spec (st := st)
              (st2 := { st with savedKey := [], savedValue := "" }) hsim hR hp (fun _ => rfl) rfl ih hf
            refine ⟨st', vt', h1, res, h2, fun hs hk hi hp1 hhi hinv => h3 hs hk hi (Nat.le_of_succ_le hp1) hhi
              (Or.inl ⟨rfl, fun j hj hjh hl => ?_⟩)⟩
            rcases Nat.lt_or_eq_of_le hj with h | rfl
            · exact hdead hs hhi hinv j h hjh hl
            · exact absurd (hk0.symm.trans ((knd_of he).symm.trans hl.2)) Nat.zero_ne_one
          · have hk1 : e.kind = 1 := Nat.le_antisymm hek (Nat.pos_of_ne_zero hk0)
            have hne : (e.kind == 0) = false := beq_eq_false_iff_ne.mpr hk0
            simp only [hent, DbIter.parseKey, hek, hv, hb, hne, if_true, decide_true, Bool.true_and,
              Bool.false_eq_true, if_false]
            obtain ⟨st', vt', res, h1, h2, h3⟩ := fpStep_spec (st := st)
              (st2 := { st with savedKey := e.ukey, savedValue := e.val }) hsim hR hp (fun _ => rfl) rfl ih hf
            exact ⟨st', vt', h1, res, h2, fun hs hk hi hp1 hhi hinv => h3 hs hk hi (Nat.le_of_succ_le hp1) hhi
              (Or.inr ⟨hk1, p, Nat.le_refl p, hp1, hvp, (knd_of he).trans hk1, (uk_of he).symm, (vl_of he).symm,
                fun i h1 h2 => absurd h2 (Nat.not_lt.mpr h1), hdead hs hhi hinv⟩)⟩
      · have hvp : vis s r p = false := (vis_of he).trans (decide_eq_false hv)
        simp only [hent, DbIter.parseKey, hek, hv, if_true, decide_false, Bool.true_and,
          Bool.false_eq_true, if_false, Bool.false_and]
        obtain ⟨st', vt', res, h1, h2, h3⟩ :=
          fpStep_spec (st := st) (st2 := st) hsim hR hp (fun _ => rfl) rfl ih hf
        exact ⟨st', vt', h1, res, h2, fun hs hk hi hp1 hhi hinv =>
          h3 hs hk hi (Nat.le_of_succ_le hp1) hhi (hinv.invisible hvp)⟩
    · simp only [hent, DbIter.parseKey, hek, if_false, Bool.false_and, Bool.false_eq_true]
      obtain ⟨st', vt', res, h1, h2, _⟩ := fpStep_spec (st := st) (st2 := { st with status := .corrupt }) hsim hR hp
        (fun hk => absurd (hk e hmem) hek) rfl ih hf
      exact ⟨st', vt', h1, res, h2, fun _ hk => absurd (hk e hmem) hek⟩

/-- the `for (;;)` loop of `ldb_dbiter_prev` entered with the internal iterator on index `p`, the saved key
    being the user key of `q` (in a sorted run, of every entry from `p` to `q`): it stops with `res` entries
    at or before the iterator, right before the entries of that key -/
theorem prevScan_spec :
    ∀ (fuel : Nat) (st : DbIter σ) (p : Nat), R st.it (some p) → p < r.length → p < fuel →
      ∃ st' b res, DbIter.prevScan I c fuel st = some (st', b) ∧ PSPost R r st st' b res ∧ res ≤ p ∧
        (RunSorted c r → ∀ q, q < r.length → st.savedKey = uk r q →
          (∀ j, p ≤ j → j ≤ q → uk r j = uk r q) → ∀ j, res ≤ j → j ≤ q → uk r j = uk r q) := by
  intro fuel
  induction fuel with
  | zero => intro _ p _ _ hf; exact absurd hf (Nat.not_lt_zero p)
  | succ fuel ih =>
    intro st p hR hp hf
    unfold DbIter.prevScan
    cases p with
    | zero =>
      obtain ⟨a', hn, (hR' : R a' none)⟩ := sim_prev hsim hR hp
      rw [hn]
      simp only [sim_valid_none hsim hR', Bool.not_false, if_true]
      exact ⟨_, _, 0, rfl, ⟨rfl, hR', Nat.zero_le _, rfl, rfl⟩, Nat.le_refl 0, fun _ _ _ _ h => h⟩
    | succ j =>
      obtain ⟨a', hn, (hR' : R a' (some j))⟩ := sim_prev hsim hR hp
      have hj : j < r.length := Nat.lt_of_succ_lt hp
      obtain ⟨e, he, _, hent⟩ := sim_entry hsim hR' hj
      rw [hn]
      simp only [sim_valid_some hsim hR' hj, Bool.not_true, Bool.false_eq_true, if_false, hent]
      cases hlt : (c.compare e.ukey st.savedKey == .lt) with
      | true => exact ⟨_, _, j + 1, rfl, ⟨rfl, hR', hj, rfl⟩, Nat.le_refl _, fun _ _ _ _ h => h⟩
      | false =>
        obtain ⟨st', b, res, h1, h2, h3, h4⟩ := ih { st with it := a' } j hR' hj (Nat.lt_of_succ_lt_succ hf)
        refine ⟨st', b, res, h1, h2, Nat.le_succ_of_le h3, fun hs q hq hK hinv => h4 hs q hq hK (fun i hi hiq => ?_)⟩
        rcases Nat.lt_or_eq_of_le hi with h | rfl
        · exact hinv i h hiq
        · refine cmp_eq_of_not_lt c (fun h => ?_) (uk_le hs hiq hq)
          rw [uk_of he, ← hK] at h
          rw [h] at hlt
          cases hlt

theorem findPrev_spec (s : Nat)
    {fuel : Nat} (hfuel : r.length < fuel) {st : DbIter σ} {k : Nat} (hR : R st.it (predPos k))
    (hk : k ≤ r.length) :
    ∃ st' res, DbIter.findPrevUserEntry I c s fuel st = some st' ∧
      ((∀ e ∈ r, e.kind ≤ 1) → st'.status = st.status) ∧ R st'.it (predPos res.pos) ∧
      res.pos ≤ r.length ∧
      (res.vt = 0 → st'.valid = false) ∧
      (res.vt ≠ 0 → st'.valid = true ∧ st'.dir = st.dir ∧ st'.savedKey = res.sk ∧
        st'.savedValue = res.sv) ∧
      (RunSorted c r → (∀ e ∈ r, e.kind ≤ 1) → BPost s r k res) := by
  unfold DbIter.findPrevUserEntry
  cases k with
  | zero =>
    simp only [sim_valid_none hsim hR, Bool.false_eq_true, if_false, beq_self_eq_true, if_true]
    exact ⟨_, ⟨0, 0, st.savedKey, st.savedValue⟩, rfl, fun _ => rfl, hR, Nat.zero_le _, fun _ => rfl,
      fun h => absurd rfl h, fun _ _ => Or.inl ⟨rfl, fun j hj => absurd hj (Nat.not_lt_zero j)⟩⟩
  | succ p =>
    have hp : p < r.length := hk
    simp only [sim_valid_some hsim hR hp, if_true]
    obtain ⟨st1, vt', h1, res, ⟨g1, g2, g3, g4, g5, g6, g7⟩, g9⟩ :=
      findPrevLoop_spec hsim s fuel 0 st p hR hp (Nat.lt_trans hp hfuel)
    rw [h1]
    subst g1
    have hpost := fun hs hk' => g9 hs hk' (p + 1) (Nat.le_refl _) hk
      (Or.inl ⟨rfl, fun j h1 h2 => absurd h2 (Nat.not_lt.mpr h1)⟩)
    simp only
    cases hvt : res.vt == 0 with
    | true =>
      simp only [if_true]
      exact ⟨_, res, rfl, g7, g4, g5, fun _ => rfl, fun h => absurd (beq_iff_eq.mp hvt) h, hpost⟩
    | false =>
      simp only [Bool.false_eq_true, if_false]
      exact ⟨_, res, rfl, g7, g4, g5, fun h => absurd (beq_iff_eq.mpr h) (by rw [hvt]; exact Bool.false_ne_true),
        fun _ => ⟨rfl, g6, g2, g3⟩, hpost⟩

end Sim

section Core
variable {c : Cmp} {s : Nat} {r : Run}

theorem fwdPost_get {p m : Nat} {skipping : Bool} {skip : Bytes} {res : Option Nat}
    (h : FwdPost s r p skipping skip res) (hpm : p ≤ m)
    (hbelow : ∀ j, p ≤ j → j < m → Live s r j → skipping = true ∧ uk r j = skip)
    (habove : ∀ j, m ≤ j → Live s r j → ¬ (skipping = true ∧ uk r j = skip)) :
    (liveIdxs s r)[rank s r m]? = res := by
  cases res with
  | some q =>
    obtain ⟨h1, h2, h3, h4⟩ := h
    have hmq : m ≤ q := Nat.le_of_not_lt (fun hlt => h3 (hbelow q h1 hlt h2))
    exact liveIdxs_get.mpr ⟨h2, rank_eq_of_none hmq (fun j hj hjq hlj =>
      habove j hj hlj (h4 j (Nat.le_trans hpm hj) hjq hlj))⟩
  | none =>
    apply List.getElem?_eq_none
    rw [liveIdxs_length]
    rcases Nat.le_total m r.length with hm | hm
    · exact Nat.le_of_eq (rank_eq_of_none hm (fun j hj _ hlj =>
        habove j hj hlj (h j (Nat.le_trans hpm hj) hlj)))
    · exact rank_mono s r hm

theorem first_core {lo : Nat} {skip : Bytes} {res : Option Nat}
    (hsh : ∀ i j, i < lo → lo ≤ j → j < r.length → uk r i = uk r j → vis s r i = false)
    (hpost : FwdInv c s r lo false skip → FwdPost s r lo false skip res) :
    (liveIdxs s r)[rank s r lo]? = res :=
  fwdPost_get (hpost ⟨fun i j hi hj hjl hu hvi => (by rw [hsh i j hi hj hjl hu] at hvi; cases hvi),
      fun h => (by cases h)⟩)
    (Nat.le_refl lo) (fun j hj hjl => absurd hj (Nat.not_le.mpr hjl)) (fun _ _ _ h => by cases h.1)

theorem next_core (hs : RunSorted c r) (hk : ∀ e ∈ r, e.kind ≤ 1) {q₀ a : Nat} (hl : Live s r q₀)
    (ha : a ≤ q₀ + 1) (hinv : ∀ j, a ≤ j → j < q₀ → vis s r j = false)
    {res : Option Nat} (hpost : FwdInv c s r a true (uk r q₀) → FwdPost s r a true (uk r q₀) res) :
    (liveIdxs s r)[rank s r q₀ + 1]? = res := by
  rw [← rank_succ_live hl]
  refine fwdPost_get (hpost (fwdInv_after hs hk ha hinv)) ha
    (fun j hj hjq hlj => ⟨rfl, ?_⟩) (fun j hj hlj h => not_head_of_vis hj h.2.symm hl.1.1 hlj.1)
  rcases Nat.lt_or_eq_of_le (Nat.le_of_lt_succ hjq) with h | rfl
  · have := hlj.1.1; rw [hinv j hj h] at this; cases this
  · rfl

def keysOf (s : Nat) (r : Run) : List Bytes := (liveIdxs s r).map (uk r)

theorem keysOf_length (s : Nat) (r : Run) : (keysOf s r).length = (liveIdxs s r).length := by
  simp [keysOf]

theorem keysOf_getD {s : Nat} {r : Run} {i q : Nat} (h : (liveIdxs s r)[i]? = some q) :
    (keysOf s r).getD i [] = uk r q := by
  simp [keysOf, List.getD_eq_getElem?_getD, h]

theorem keysOf_eq_map (s : Nat) (r : Run) : keysOf s r = (liveMap s r).map (·.1) := by
  simp [keysOf, liveMap, List.map_map, Function.comp_def]

/-- a visible entry before the internal seek point, the cut below the seek key (`k`, `s`, SEEK), has a user
    key below `k`: its sequence number would be above `s` otherwise -/
theorem seek_point (hs : RunSorted c r) (hk : ∀ e ∈ r, e.kind ≤ 1) (s : Nat) (k : Bytes) :
    (∀ i, i < cutIdx (fun e => ikLt c e.ukey e.packed k (seekPacked s)) r → vis s r i = true →
      c.compare (uk r i) k = .lt) ∧
    (∀ j, cutIdx (fun e => ikLt c e.ukey e.packed k (seekPacked s)) r ≤ j → j < r.length →
      c.compare (uk r j) k ≠ .lt) := by
  have hcut := fun {j} (hj : j < r.length) => lt_cutIdx_iff (j := j)
    (P := fun e => ikLt c e.ukey e.packed k (seekPacked s)) (hs.imp fun h1 h2 => Lsm.ikLt_trans c h1 h2) hj
  refine ⟨fun i hi hvi => ?_, fun j hj hjl hlt => ?_⟩
  · have hil := vis_lt hvi
    have he := List.getElem?_eq_getElem hil
    rw [uk_of he]
    rcases (ikLt_iff c _ _ _ _).mp ((hcut hil).mpr hi) with h1 | ⟨_, h1⟩
    · exact h1
    · exfalso
      rw [vis_of he] at hvi
      have := hk _ (List.getElem_mem hil)
      simp only [Entry.packed, seekPacked, valtypeSeek, decide_eq_true_eq] at h1 hvi
      omega
  · rw [uk_of (List.getElem?_eq_getElem hjl)] at hlt
    exact Nat.not_lt.mpr hj ((hcut hjl).mp (ikLt_of_ult hlt))

theorem seek_cursor {s : Nat} {k : Bytes} {lo : Nat} (hlo : lo ≤ r.length)
    (hlow : ∀ i, i < lo → vis s r i = true → c.compare (uk r i) k = .lt)
    (hhigh : ∀ j, lo ≤ j → j < r.length → c.compare (uk r j) k ≠ .lt) :
    (keysOf s r).findIdx? (fun k' => c.compare k' k != .lt) = toPos (rank s r lo) (keysOf s r).length := by
  have hlive : ∀ j (hj : j < (keysOf s r).length),
      ∃ q, Live s r q ∧ rank s r q = j ∧ (keysOf s r)[j] = uk r q := by
    intro j hj
    have hj' : j < (liveIdxs s r).length := keysOf_length s r ▸ hj
    obtain ⟨hl, hrq⟩ := liveIdxs_get.mp (List.getElem?_eq_getElem hj')
    exact ⟨_, hl, hrq, by simp only [keysOf, List.getElem_map]⟩
  -- the live key of rank `j` is below `k` exactly when its index is below `lo`, i.e. when `j < rank lo`
  have hn : rank s r lo ≤ (keysOf s r).length := by
    rw [keysOf_length, liveIdxs_length]
    exact rank_mono s r hlo
  -- `findIdx?_ge` gives the position as `toPos (rankLt ..)`, and `rankLt` is by definition a `cutIdx`
  rw [findIdx?_ge]
  congr 1
  refine cutIdx_eq hn (fun j hj => ?_) (fun h => ?_)
  · obtain ⟨q, hl, hrq, hkey⟩ := hlive j (Nat.lt_of_lt_of_le hj hn)
    have hq : q < lo := Nat.lt_of_not_le fun hle =>
      absurd (rank_mono s r hle) (by rw [hrq]; exact Nat.not_le.mpr hj)
    rw [hkey]
    exact beq_iff_eq.mpr (hlow q hq hl.1.1)
  · obtain ⟨q, hl, hrq, hkey⟩ := hlive _ h
    have hq : lo ≤ q := Nat.le_of_not_lt fun hlt =>
      absurd (rank_lt_of_live hlt hl) (by rw [hrq]; exact Nat.lt_irrefl _)
    rw [hkey]
    exact beq_false_of_ne (hhigh q hq hl.lt)

end Core

section Main
variable {σ : Type} {I : InternalIter σ} {c : Cmp} {r : Run} {R : σ → Option Nat → Prop}
  {P : Bytes → Nat → Prop}

/-- the loops need `r.length < fuel`; the `+ 2` in the hypotheses of `dbiter_is_map_cursor_on` and `dbiter_total`
    is the shape of `dbIterFuel` -/
theorem lt_of_add_two_le {n m : Nat} (h : n + 2 ≤ m) : n < m := Nat.lt_of_succ_lt (Nat.lt_of_succ_le h)

/-- the state shows the live index `q₀`, with `k` entries at or before the internal iterator: it stands on
    `q₀` (forward), or is parked before it with nothing visible in between, key and value saved (reverse) -/
def OnLive (s : Nat) (r : Run) (st : DbIter σ) (k q₀ : Nat) : Prop :=
  Live s r q₀ ∧ k ≤ q₀ + 1 ∧ (∀ j, k ≤ j → j < q₀ → vis s r j = false) ∧
  (st.dir = .forward → k = q₀ + 1) ∧
  (st.dir = .reverse → k ≤ q₀ ∧ st.savedKey = uk r q₀ ∧ st.savedValue = vl r q₀)

def DRel (R : σ → Option Nat → Prop) (s : Nat) (r : Run) (st : DbIter σ) (cp : Option Nat) : Prop :=
  st.status = .ok ∧
  match cp with
  | none => st.valid = false ∧ ∃ p, R st.it p
  | some i => st.valid = true ∧ ∃ q₀ k, rank s r q₀ = i ∧ R st.it (predPos k) ∧ OnLive s r st k q₀

theorem DRel.pos {s : Nat} {st : DbIter σ} {cp : Option Nat} (h : DRel R s r st cp) : ∃ p, R st.it p := by
  cases cp with
  | none =>
    obtain ⟨_, _, hp⟩ := h
    exact hp
  | some i =>
    obtain ⟨_, _, _, k, _, hR, _⟩ := h
    exact ⟨_, hR⟩

theorem drel_valid {s : Nat} {st : DbIter σ} {cp : Option Nat} (h : DRel R s r st cp) (hv : st.valid = true) :
    ∃ q₀ k, cp = some (rank s r q₀) ∧ R st.it (predPos k) ∧ OnLive s r st k q₀ := by
  cases cp with
  | none =>
    obtain ⟨_, hv', _⟩ := h
    exact Bool.noConfusion (hv.symm.trans hv')
  | some i =>
    obtain ⟨_, _, q₀, k, rfl, hR, hon⟩ := h
    exact ⟨q₀, k, rfl, hR, hon⟩

theorem drel_of_fnpost {s : Nat} {st st' : DbIter σ} {res : Option Nat} {i : Nat}
    (hpost : FNPost R r st st' res) (hk : ∀ e ∈ r, e.kind ≤ 1) (hst : st.status = .ok)
    (hdir : st.dir = .forward) (hres : (liveIdxs s r)[i]? = res) :
    DRel R s r st' (toPos i (keysOf s r).length) := by
  obtain ⟨h1, h2, h3⟩ := hpost
  have hst' := (h2 hk).trans hst
  rw [keysOf_length]
  subst hres
  cases hq : (liveIdxs s r)[i]? with
  | none =>
    rw [hq] at h3
    rw [toPos_of_ge (List.getElem?_eq_none_iff.mp hq)]
    exact ⟨hst', h3.1, none, h3.2⟩
  | some q =>
    rw [hq] at h3
    rw [toPos_of_lt (getElem?_lt hq)]
    obtain ⟨hl, hr⟩ := liveIdxs_get.mp hq
    exact ⟨hst', h3.2.1, q, q + 1, hr, h3.2.2, hl, Nat.le_refl _,
      fun j h1 h2 => absurd h2 (Nat.not_lt.mpr (Nat.le_of_succ_le h1)), fun _ => rfl,
      fun h => (by rw [h1, hdir] at h; cases h)⟩

theorem drel_observe (hsim : InternalIter.SimOn P I (runIter c r) R) {s : Nat} {st : DbIter σ} {cp : Option Nat}
    (h : DRel R s r st cp) :
    st.isValid = cp.isSome ∧ st.getStatus I = .ok ∧
      ∀ i, cp = some i → ∃ q, (liveIdxs s r)[i]? = some q ∧ st.key? I = some (uk r q) ∧
        st.value? I = some (vl r q) := by
  have hstatus : ∀ {p0}, R st.it p0 → st.getStatus I = .ok := by
    intro p0 hR0
    unfold DbIter.getStatus
    rw [h.1, hsim.status st.it p0 hR0]
    rfl
  cases cp with
  | none =>
    obtain ⟨_, hv, _, hR0⟩ := h
    exact ⟨hv, hstatus hR0, fun i hi => by cases hi⟩
  | some i =>
    obtain ⟨_, hv, q, k, hr, hR, hl, _, _, hf, hrv⟩ := h
    refine ⟨hv, hstatus hR, fun i' hi' => ?_⟩
    cases hi'
    refine ⟨q, liveIdxs_get.mpr ⟨hl, hr⟩, ?_⟩
    unfold DbIter.key? DbIter.value?
    cases st.dir.forward_or_reverse with
    | inl hdir =>
      cases hf hdir
      obtain ⟨e, he, _, hent⟩ := sim_entry hsim hR hl.lt
      rw [hdir, hent, uk_of he, vl_of he]
      exact ⟨rfl, rfl⟩
    | inr hdir =>
      rw [hdir, (hrv hdir).2.1, (hrv hdir).2.2]
      exact ⟨rfl, rfl⟩

theorem drel_key (hsim : InternalIter.SimOn P I (runIter c r) R) {s : Nat} {st : DbIter σ} {cp : Option Nat}
    (h : DRel R s r st cp) (hv : st.valid = true) :
    (st.key? I).getD [] = (cursorOps c.compare (keysOf s r)).key cp := by
  obtain ⟨h1, _, h3⟩ := drel_observe hsim h
  cases cp with
  | none => exact Bool.noConfusion (hv.symm.trans h1)
  | some i =>
    obtain ⟨q, hq, hkey, _⟩ := h3 i rfl
    rw [hkey]
    exact (keysOf_getD hq).symm

/-- safety invariant: `k ≤ r.length` entries are at or before the internal iterator, and a valid
    forward iterator sits on an entry -/
def SInv (R : σ → Option Nat → Prop) (r : Run) (st : DbIter σ) : Prop :=
  ∃ k, R st.it (predPos k) ∧ k ≤ r.length ∧ (st.valid = true → st.dir = .forward → ∃ q, k = q + 1)

theorem sinv_of_fnpost {st st' : DbIter σ} {res : Option Nat} (h : FNPost R r st st' res) :
    SInv R r st' := by
  obtain ⟨_, _, h3⟩ := h
  cases res with
  | none => exact ⟨0, h3.2, Nat.zero_le _, fun hv => by rw [h3.1] at hv; cases hv⟩
  | some q => exact ⟨q + 1, h3.2.2, h3.1, fun _ _ => ⟨q, rfl⟩⟩

section Ops
variable (hsim : InternalIter.SimOn P I (runIter c r) R)
include hsim

theorem enter_spec (s : Nat) {fuel : Nat} (hfuel : r.length < fuel) {st2 : DbIter σ} {n : Nat}
    (hR : R st2.it (toPos n r.length)) (hd : st2.dir = .forward) :
    ∃ st', (if I.valid st2.it then DbIter.findNextUserEntry I c s fuel false st2
        else some { st2 with valid := false }) = some st' ∧ SInv R r st' ∧
      (RunSorted c r → (∀ e ∈ r, e.kind ≤ 1) → st2.status = .ok →
        (∀ i j, i < n → n ≤ j → j < r.length → uk r i = uk r j → vis s r i = false) →
        DRel R s r st' (toPos (rank s r n) (keysOf s r).length)) := by
  obtain ⟨st', h1, res, h2, h3⟩ := fwd_at_cut hsim s hfuel false (stE := { st2 with valid := false }) hR
    (fun h => ⟨rfl, fun _ => rfl, rfl, h⟩)
  exact ⟨st', h1, sinv_of_fnpost h2, fun hs hk hst hsh => drel_of_fnpost h2 hk hst hd (first_core hsh (h3 hs hk))⟩

theorem first_spec (s : Nat) {fuel : Nat} (hfuel : r.length < fuel) {st : DbIter σ} {p0 : Option Nat}
    (hR0 : R st.it p0) :
    ∃ st', DbIter.first I c s fuel st = some st' ∧ SInv R r st' ∧
      (RunSorted c r → (∀ e ∈ r, e.kind ≤ 1) → st.status = .ok →
        DRel R s r st' (toPos 0 (keysOf s r).length)) := by
  obtain ⟨a', hf, hR'⟩ := sim_first hsim hR0
  obtain ⟨st', h1, h2, h3⟩ := enter_spec hsim s hfuel
    (st2 := { st with dir := .forward, savedValue := "", it := a' }) hR' rfl
  refine ⟨st', ?_, h2, fun hs hk hst => h3 hs hk hst (fun i j hi => absurd hi (Nat.not_lt_zero i))⟩
  simp only [DbIter.first, hf]
  exact h1

theorem seek_spec (s : Nat) {fuel : Nat} (hfuel : r.length < fuel) {st : DbIter σ} {p0 : Option Nat}
    (hR0 : R st.it p0) (k : Bytes) (hT : P k (seekPacked s)) :
    ∃ st', DbIter.seek I c s fuel k st = some st' ∧ SInv R r st' ∧
      (RunSorted c r → (∀ e ∈ r, e.kind ≤ 1) → st.status = .ok →
        DRel R s r st' ((keysOf s r).findIdx? (fun k' => c.compare k' k != .lt))) := by
  obtain ⟨a', hf, hR'⟩ := sim_seek hsim hR0 k (seekPacked s) hT
  obtain ⟨st', h1, h2, h3⟩ := enter_spec hsim s hfuel
    (st2 := { st with dir := .forward, savedValue := "", savedKey := ikeyEnc k s valtypeSeek, it := a' }) hR' rfl
  refine ⟨st', ?_, h2, fun hs hk hst => ?_⟩
  · simp only [DbIter.seek, hf]
    exact h1
  · obtain ⟨hlow, hhigh⟩ := seek_point hs hk s k
    rw [seek_cursor cutIdx_le hlow hhigh]
    refine h3 hs hk hst (fun i j hi hj hjl hu => ?_)
    cases hvi : vis s r i with
    | false => rfl
    | true =>
      have h1 := hlow i hi hvi
      rw [hu] at h1
      exact absurd h1 (hhigh j hj hjl)

theorem findPrev_finish (s : Nat) {fuel : Nat} (hfuel : r.length < fuel)
    {st0 : DbIter σ} {k : Nat} (hR : R st0.it (predPos k)) (hkl : k ≤ r.length) (hdir : st0.dir = .reverse) :
    ∃ st', DbIter.findPrevUserEntry I c s fuel st0 = some st' ∧ SInv R r st' ∧
      (RunSorted c r → (∀ e ∈ r, e.kind ≤ 1) → st0.status = .ok → ∀ q₀, k ≤ q₀ → q₀ ≤ r.length →
        (∀ j, k ≤ j → j < q₀ → ¬ Live s r j) → DRel R s r st' (predPos (rank s r q₀))) := by
  obtain ⟨st', res, h1, hst', hRes, hrange, h0, hne, hpost⟩ := findPrev_spec hsim s hfuel hR hkl
  refine ⟨st', h1, ⟨_, hRes, hrange, fun hv hd => ?_⟩, fun hs hk hst q₀ hle hq₀ hgap => ?_⟩
  · by_cases hvt : res.vt = 0
    · rw [h0 hvt] at hv; cases hv
    · rw [(hne hvt).2.1, hdir] at hd; cases hd
  · replace hst' := (hst' hk).trans hst
    have hrank : ∀ x, x ≤ q₀ → (∀ j, x ≤ j → j < k → ¬ Live s r j) → rank s r q₀ = rank s r x := fun x hx hn =>
      rank_eq_of_none hx fun j hj hjq => (Nat.lt_or_ge j k).elim (hn j hj) (fun h => hgap j h hjq)
    rcases hpost hs hk with ⟨hvt, hn⟩ | ⟨hvt, q, hq, hlq, hn, hsk, hsv, hpos⟩
    · rw [hrank 0 (Nat.zero_le _) (fun j _ => hn j)]
      exact ⟨hst', h0 hvt, _, hRes⟩
    · obtain ⟨g1, g2, g3, g4⟩ := hne (by rw [hvt]; decide)
      rw [hrank (q + 1) (Nat.le_trans hq hle) hn, rank_succ_live hlq]
      exact ⟨hst', g1, q, _, rfl, hRes, hlq, Nat.le_succ_of_le hpos.1, hpos.2,
        fun h => (by rw [g2, hdir] at h; cases h), fun _ => ⟨hpos.1, g3.trans hsk, g4.trans hsv⟩⟩

theorem last_spec (s : Nat) {fuel : Nat} (hfuel : r.length < fuel) {st : DbIter σ} {p0 : Option Nat}
    (hR0 : R st.it p0) :
    ∃ st', DbIter.last I c s fuel st = some st' ∧ SInv R r st' ∧
      (RunSorted c r → (∀ e ∈ r, e.kind ≤ 1) → st.status = .ok →
        DRel R s r st' (predPos (keysOf s r).length)) := by
  obtain ⟨a', hf, hR'⟩ := sim_last hsim hR0
  obtain ⟨st', h1, h2, h3⟩ := findPrev_finish hsim s hfuel
    (st0 := { st with dir := .reverse, savedValue := "", it := a' }) hR' (Nat.le_refl _) rfl
  refine ⟨st', ?_, h2, fun hs hk hst => ?_⟩
  · simp only [DbIter.last, hf]
    exact h1
  · rw [keysOf_length, liveIdxs_length]
    exact h3 hs hk hst r.length (Nat.le_refl _) (Nat.le_refl _) (fun j h1 h2 => absurd h2 (Nat.not_lt.mpr h1))

theorem next_spec (s : Nat) {fuel : Nat}
    (hfuel : r.length < fuel) {st : DbIter σ} {k : Nat} (hR : R st.it (predPos k))
    (hk : k ≤ r.length) (hfw : st.dir = .forward → ∃ q, k = q + 1) :
    ∃ st', DbIter.next I c s fuel st = some st' ∧ SInv R r st' ∧
      (RunSorted c r → (∀ e ∈ r, e.kind ≤ 1) → st.status = .ok → ∀ q₀, OnLive s r st k q₀ →
        DRel R s r st' (toPos (rank s r q₀ + 1) (keysOf s r).length)) := by
  -- the tail of `ldb_dbiter_next`: `find_next_user_entry`, or nothing to do off the end
  have tail : ∀ {st2 : DbIter σ}, R st2.it (toPos k r.length) → st2.dir = .forward →
      ∃ st', (if !I.valid st2.it then some { st2 with valid := false, savedKey := [] }
          else DbIter.findNextUserEntry I c s fuel true st2) = some st' ∧ SInv R r st' ∧
        (RunSorted c r → (∀ e ∈ r, e.kind ≤ 1) → st2.status = .ok → ∀ q₀, Live s r q₀ → k ≤ q₀ + 1 →
          (∀ j, k ≤ j → j < q₀ → vis s r j = false) → st2.savedKey = uk r q₀ →
          DRel R s r st' (toPos (rank s r q₀ + 1) (keysOf s r).length)) := by
    intro st2 hR2 hd2
    obtain ⟨st', h1, res, h2, h3⟩ := fwd_at_cut hsim s hfuel true
      (stE := { st2 with valid := false, savedKey := [] }) hR2 (fun h => ⟨rfl, fun _ => rfl, rfl, h⟩)
    refine ⟨st', ?_, sinv_of_fnpost h2, fun hs hk hst q₀ hl hle hinv hK => ?_⟩
    · cases hv : I.valid st2.it <;> rw [hv] at h1 <;> exact h1
    · rw [hK] at h3
      exact drel_of_fnpost h2 hk hst hd2 (next_core hs hk hl hle hinv (h3 hs hk))
  unfold DbIter.next
  cases st.dir.forward_or_reverse with
  | inl hd =>
    obtain ⟨q, rfl⟩ := hfw hd
    have hq : q < r.length := hk
    replace hR : R st.it (some q) := hR
    obtain ⟨e, he, _, hent⟩ := sim_entry hsim hR hq
    obtain ⟨a', hn, hR'⟩ := sim_next hsim hR hq
    have hne : (st.dir == Dir.reverse) = false := by rw [hd]; rfl
    simp only [hne, Bool.false_eq_true, if_false, hent, hn]
    obtain ⟨st', h1, h2, h3⟩ := tail (st2 := { st with savedKey := e.ukey, it := a' }) hR' hd
    refine ⟨st', h1, h2, fun hs hk hst q₀ ⟨hl, hle, hinv, hf, _⟩ => h3 hs hk hst q₀ hl hle hinv ?_⟩
    cases hf hd
    exact (uk_of he).symm
  | inr hd =>
    have hne : (st.dir == Dir.reverse) = true := by rw [hd]; rfl
    simp only [hne, if_true]
    -- an iterator that ran off the front is restarted by `first`
    have hstep : ∃ a', (if (!I.valid st.it) = true then I.first st.it else I.next st.it) = some a' ∧
        R a' (toPos k r.length) := by
      cases k with
      | zero =>
        simp only [sim_valid_none hsim hR, Bool.not_false, if_true]
        exact sim_first hsim hR
      | succ p =>
        simp only [sim_valid_some hsim hR hk, Bool.not_true, Bool.false_eq_true, if_false]
        exact sim_next hsim hR hk
    obtain ⟨a', h1, hR'⟩ := hstep
    simp only [h1]
    obtain ⟨st', g1, g2, g3⟩ := tail (st2 := { st with dir := .forward, it := a' }) hR' rfl
    exact ⟨st', g1, g2, fun hs hk hst q₀ ⟨hl, hle, hinv, _, hr⟩ => g3 hs hk hst q₀ hl hle hinv (hr hd).2.1⟩

theorem prev_spec (s : Nat) {fuel : Nat}
    (hfuel : r.length < fuel) {st : DbIter σ} {k : Nat} (hR : R st.it (predPos k))
    (hk : k ≤ r.length) (hfw : st.dir = .forward → ∃ q, k = q + 1) :
    ∃ st', DbIter.prev I c s fuel st = some st' ∧ SInv R r st' ∧
      (RunSorted c r → (∀ e ∈ r, e.kind ≤ 1) → st.status = .ok → ∀ q₀, OnLive s r st k q₀ →
        DRel R s r st' (predPos (rank s r q₀))) := by
  unfold DbIter.prev
  cases st.dir.forward_or_reverse with
  | inl hd =>
    -- forward: re-scan to before the current key, then the reverse scan
    obtain ⟨q, rfl⟩ := hfw hd
    have hq : q < r.length := hk
    replace hR : R st.it (some q) := hR
    obtain ⟨e, he, _, hent⟩ := sim_entry hsim hR hq
    have hne : (st.dir == Dir.forward) = true := by rw [hd]; rfl
    simp only [hne, if_true, hent]
    rw [← uk_of he]
    obtain ⟨st1, b, res, h1, ⟨g2, hR1, hlen, g3⟩, hh, hblock⟩ :=
      prevScan_spec hsim fuel { st with savedKey := uk r q } q hR hq (Nat.lt_trans hq hfuel)
    rw [h1]
    -- entries of the current key before its head are not live
    have hgap : RunSorted c r → ∀ q₀, Live s r q₀ → q + 1 = q₀ + 1 → ∀ j, res ≤ j → j < q₀ → ¬ Live s r j := by
      intro hs q₀ hl hqq j hj1 hj2 hlj
      cases hqq
      have := hblock hs q hq rfl (fun j h1 h2 => by rw [Nat.le_antisymm h2 h1]) j hj1 (Nat.le_of_lt hj2)
      exact Bool.noConfusion ((hl.1.2 j hj2 this).symm.trans hlj.1.1)
    cases res with
    | zero =>
      obtain ⟨rfl, hv1⟩ := g3
      refine ⟨st1, rfl, ⟨0, hR1, hlen, fun h => by rw [hv1] at h; cases h⟩,
        fun hs _ hst q₀ ⟨hl, _, _, hf, _⟩ => ?_⟩
      rw [rank_eq_of_none (Nat.zero_le q₀) (hgap hs q₀ hl (hf hd))]
      exact ⟨g2.trans hst, hv1, none, hR1⟩
    | succ h =>
      obtain rfl := g3
      obtain ⟨st', h2, h3, h4⟩ := findPrev_finish hsim s hfuel (st0 := { st1 with dir := .reverse }) hR1 hlen rfl
      refine ⟨st', h2, h3, fun hs hk hst q₀ ⟨hl, _, _, hf, _⟩ => ?_⟩
      have hqq := hf hd
      exact h4 hs hk (g2.trans hst) q₀ (by cases hqq; exact hh) (Nat.le_of_lt hl.lt) (hgap hs q₀ hl hqq)
  | inr hd =>
    have hne : (st.dir == Dir.forward) = false := by rw [hd]; rfl
    simp only [hne, Bool.false_eq_true, if_false]
    obtain ⟨st', h2, h3, h4⟩ := findPrev_finish hsim s hfuel hR hk hd
    exact ⟨st', h2, h3, fun hs hk hst q₀ ⟨hl, _, hinv, _, hr⟩ => h4 hs hk hst q₀ (hr hd).1 (Nat.le_of_lt hl.lt)
      (fun j hj1 hj2 hlj => Bool.noConfusion ((hinv j hj1 hj2).symm.trans hlj.1.1))⟩

theorem dbiter_sim (hs : RunSorted c r)
    (hk : ∀ e ∈ r, e.kind ≤ 1) (s : Nat) {fuel : Nat} (hfuel : r.length < fuel) :
    IterOps.Sim (DbIter.ops I c s fuel) (cursorOps c.compare (keysOf s r)) (DRel R s r) (fun t => P t (seekPacked s)) where
  valid st cp h := (drel_observe hsim h).1
  key st cp h hv := drel_key hsim h hv
  compare st cp x h hv _ := by
    show some (c.compare ((st.key? I).getD []) x) = _ ∧ _
    rw [drel_key hsim h hv]
    exact ⟨rfl, rfl⟩
  first st cp h := by
    obtain ⟨p0, hR0⟩ := h.pos
    obtain ⟨st', h1, _, h3⟩ := first_spec hsim s hfuel hR0
    refine ⟨st', _, h1, ?_, h3 hs hk h.1⟩
    show some (if (keysOf s r).isEmpty then none else some 0) = _
    cases keysOf s r <;> rfl
  last st cp h := by
    obtain ⟨p0, hR0⟩ := h.pos
    obtain ⟨st', h1, _, h3⟩ := last_spec hsim s hfuel hR0
    refine ⟨st', _, h1, ?_, h3 hs hk h.1⟩
    show some (if (keysOf s r).isEmpty then none else some ((keysOf s r).length - 1)) = _
    cases keysOf s r <;> rfl
  next st cp h hv := by
    obtain ⟨q₀, k, rfl, hR, hon⟩ := drel_valid h hv
    obtain ⟨st', h1, _, h3⟩ := next_spec hsim s hfuel hR
      (Nat.le_trans hon.2.1 hon.1.lt) (fun h => ⟨q₀, hon.2.2.2.1 h⟩)
    exact ⟨st', _, h1, rfl, h3 hs hk h.1 q₀ hon⟩
  prev st cp h hv := by
    obtain ⟨q₀, k, rfl, hR, hon⟩ := drel_valid h hv
    obtain ⟨st', h1, _, h3⟩ := prev_spec hsim s hfuel hR
      (Nat.le_trans hon.2.1 hon.1.lt) (fun h => ⟨q₀, hon.2.2.2.1 h⟩)
    refine ⟨st', _, h1, ?_, h3 hs hk h.1 q₀ hon⟩
    generalize rank s r q₀ = i
    cases i <;> rfl
  seek st cp k h hT := by
    obtain ⟨p0, hR0⟩ := h.pos
    obtain ⟨st', h1, _, h3⟩ := seek_spec hsim s hfuel hR0 k hT
    exact ⟨st', _, h1, rfl, h3 hs hk h.1⟩

end Ops

theorem run_total (hsim : InternalIter.Sim I (runIter c r) R) (s : Nat) {fuel : Nat} (hlt : r.length < fuel)
    (ops : List IterOp) (st : DbIter σ) (h : SInv R r st) :
    ∃ st', DbIter.run I c s fuel ops st = some st' ∧ SInv R r st' := by
  rw [DbIter.run_eq_iterOps_run]
  -- "no fault, and `SInv` again" says nothing of the state an operation starts from, so it composes
  refine IterOps.Prims.run_total (o := DbIter.ops I c s fuel) (P := SInv R r)
    (G := fun _ st' => SInv R r st') ⟨?first, ?last, ?next, ?prev, ?seek⟩ (fun _ h => h)
    (fun _ _ _ _ h => h) (fun _ _ h => h) (fun _ _ _ _ _ _ => ⟨_, rfl⟩) _ h
  case first =>
    rintro st ⟨_, hR0, _, _⟩
    obtain ⟨st', h1, h2, _⟩ := first_spec hsim.simOn s hlt hR0
    exact ⟨st', h1, h2⟩
  case seek =>
    rintro k st ⟨_, hR0, _, _⟩
    obtain ⟨st', h1, h2, _⟩ := seek_spec hsim.simOn s hlt hR0 k trivial
    exact ⟨st', h1, h2⟩
  case last =>
    rintro st ⟨_, hR0, _, _⟩
    obtain ⟨st', h1, h2, _⟩ := last_spec hsim.simOn s hlt hR0
    exact ⟨st', h1, h2⟩
  case next =>
    rintro st ⟨k, hR0, hk, hv0⟩ hv
    obtain ⟨st', h1, h2, _⟩ := next_spec hsim.simOn s hlt hR0 hk (hv0 hv)
    exact ⟨st', h1, h2⟩
  case prev =>
    rintro st ⟨k, hR0, hk, hv0⟩ hv
    obtain ⟨st', h1, h2, _⟩ := prev_spec hsim.simOn s hlt hR0 hk (hv0 hv)
    exact ⟨st', h1, h2⟩

end Main
end Lcdb.DbIt
