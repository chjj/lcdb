/-
  The reference map of the LRU cache (per key the latest insert that no erase followed), the coherence invariant between a
  shard and it (`Coh`: the table of the shard is a forgetful image of the map), and what every well-formed run keeps
  (`run_inv`).
-/
import LcdbModel.Lemmas.LruCacheRun
namespace Lcdb.LruCache

/-- reference map: number of inserts so far; per key the id of the most recent insert not followed by an erase -/
structure Spec where
  n : Nat
  m : Bytes → Option Nat

def Spec.init : Spec := ⟨0, fun _ => none⟩

def specStep (sp : Spec) : Op → Spec
  | .insert k _ _ => { n := sp.n + 1, m := fun k' => if k' = k then some sp.n else sp.m k' }
  | .erase k => { sp with m := fun k' => if k' = k then none else sp.m k' }
  | _ => sp

def specOf (ops : List Op) : Spec := ops.foldl specStep Spec.init

/-- the id of the latest insert of `k` that no `erase k` followed -/
def latest (ops : List Op) (k : Bytes) : Option Nat := (specOf ops).m k

theorem specOf_snoc (pre : List Op) (op : Op) : specOf (pre ++ [op]) = specStep (specOf pre) op := by
  simp [specOf, List.foldl_append]

structure Coh (s : Shard) (sp : Spec) : Prop where
  len : s.entries.length = sp.n
  tab : Forgets sp.m s.table
  capZero : s.capacity = 0 → ∀ k, s.table k = none

/-- A step writes the slot the reference map writes (`Forgets.set`), or, with capacity 0, nothing into a table that is empty;
    whatever the table forgets besides keeps it coherent. -/
theorem coh_step {s s' : Shard} {sp : Spec} (op : Op) (hc : Coh s sp) (hcap : s'.capacity = s.capacity)
    (hk : s'.entries.map kvc = s.entries.map kvc ++ insertsOf [op]) (ht : Forgets (tableStep s op) s'.table) :
    Coh s' (specStep sp op) := by
  have hlen : s'.entries.length = s.entries.length + (insertsOf [op]).length := by
    simpa using congrArg List.length hk
  have hm : Forgets (specStep sp op).m (tableStep s op) := by
    cases op with
    | insert k v c =>
      simp only [tableStep]; split
      · rw [hc.len]; exact hc.tab.set k _
      · exact fun k' => .inl (hc.capZero (by omega) k')
    | erase k => exact hc.tab.set k none
    | _ => exact hc.tab
  refine ⟨?_, hm.trans ht, fun h0 k => ?_⟩
  · rw [hlen, hc.len]; cases op <;> rfl
  · rw [hcap] at h0
    have h0t : tableStep s op k = none := by
      cases op <;> simp [tableStep, tableSet, h0, hc.capZero h0]
    exact (ht k).elim id fun h => h.trans h0t

theorem run_inv (s : Shard) (pre ops : List Op) (hi : Inv s) (hc : Coh s (specOf pre)) (hw : wf s ops = true) :
    ∃ s' outs, run s ops = some (s', outs) ∧ outs.length = ops.length ∧ Inv s' ∧ Coh s' (specOf (pre ++ ops)) ∧
      s'.entries.map kvc = s.entries.map kvc ++ insertsOf ops ∧ s'.capacity = s.capacity := by
  induction ops generalizing s pre with
  | nil => exact ⟨s, [], rfl, rfl, hi, by rwa [List.append_nil], (List.append_nil _).symm, rfl⟩
  | cons op ops ih =>
    obtain ⟨hok, hw'⟩ := wf_cons s op ops hw
    obtain ⟨s1, o, hs, hi1, hcap, hk, ht⟩ := step_inv s op hi hok
    obtain ⟨s2, outs, hr, hl, hi2, hc2, hk2, hcap2⟩ :=
      ih s1 (pre ++ [op]) hi1 (specOf_snoc pre op ▸ coh_step op hc hcap hk ht) (hw' s1 o hs)
    exact ⟨s2, o :: outs, by simp [run, hs, hr], by simp [hl], hi2, by simpa using hc2,
      by rw [hk2, hk, List.append_assoc, ← insertsOf_append]; rfl, hcap2.trans hcap⟩

theorem specStep_other {sp : Spec} {op : Op} {k : Bytes} (he : op ≠ .erase k) (hi : ∀ v c, op ≠ .insert k v c) :
    (specStep sp op).m k = sp.m k := by
  cases op with
  | insert k' v c => exact if_neg fun h : k = k' => hi v c (by rw [h])
  | erase k' => exact if_neg fun h : k = k' => he (by rw [h])
  | _ => rfl

theorem spec_fold_char (ops : List Op) (sp : Spec) (k : Bytes) (id : Nat)
    (h : (ops.foldl specStep sp).m k = some id) :
    (sp.m k = some id ∧ ∀ op ∈ ops, op ≠ .erase k ∧ ∀ v c, op ≠ .insert k v c) ∨
    ∃ pre post v c, ops = pre ++ .insert k v c :: post ∧ id = sp.n + (insertsOf pre).length ∧
      ∀ op ∈ post, op ≠ .erase k ∧ ∀ v c, op ≠ .insert k v c := by
  induction ops generalizing sp with
  | nil => exact .inl ⟨h, fun _ h => nomatch h⟩
  | cons op rest ih =>
    simp only [List.foldl_cons] at h
    rcases ih (specStep sp op) h with ⟨h1, h2⟩ | ⟨pre, post, v, c, he, hid, hp⟩
    · by_cases he : op = .erase k
      · subst he; simp [specStep] at h1
      · by_cases hins : ∃ v c, op = .insert k v c
        · obtain ⟨v, c, rfl⟩ := hins
          simp [specStep] at h1
          right; exact ⟨[], rest, v, c, rfl, by simp [insertsOf, h1], h2⟩
        · have hins' : ∀ v c, op ≠ .insert k v c := fun v c h => hins ⟨v, c, h⟩
          rw [specStep_other he hins'] at h1
          left; refine ⟨h1, fun o ho => ?_⟩
          rcases List.mem_cons.1 ho with rfl | ho
          · exact ⟨he, hins'⟩
          · exact h2 o ho
    · right
      refine ⟨op :: pre, post, v, c, by simp [he], ?_, hp⟩
      have : (specStep sp op).n = sp.n + (insertsOf [op]).length := by cases op <;> rfl
      rw [hid, this, show op :: pre = [op] ++ pre from rfl, insertsOf_append, List.length_append]
      omega

end Lcdb.LruCache
