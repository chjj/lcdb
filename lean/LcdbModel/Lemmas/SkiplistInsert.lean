/-
  The mechanics of `ldb_skiplist_insert` after the search: node creation (`withNode`), `prev` raised to the new height,
  the link loop, whose final state (`LinkSt`) gives every link in terms of the list with the fresh, still unlinked node.

  `ldb_skiplist_insert` preserves the invariant and puts the new node at its place in key order (`insert_ok`; that a
  duplicate is refused is `insert_dup_faults` in Props/SkiplistProps.lean).  For the links each level is taken as a
  linked list: below its height the new node is spliced in behind `prev[lvl]`, the levels above are untouched.
-/
import LcdbModel.Lemmas.Skiplist
namespace Lcdb.Skiplist
variable {α : Type} {cmp : α → α → Ordering} {sl : SkipList α} {L : List Nat}

theorem setNext_ok {sl : SkipList α} {x lvl : Nat} (v : Option Nat) (h : lvl < heightOf sl x) :
    ∃ sl', setNext sl x lvl v = some sl' ∧
      sl'.nodes.length = sl.nodes.length ∧ sl'.maxHeight = sl.maxHeight ∧ sl'.rnd = sl.rnd ∧
      (∀ y, keyOf sl' y = keyOf sl y) ∧ (∀ y, heightOf sl' y = heightOf sl y) ∧
      (∀ y l, getNext sl' y l = if y = x ∧ l = lvl then some v else getNext sl y l) := by
  unfold heightOf at h
  unfold setNext
  cases hx : sl.nodes[x]? with
  | none => simp [hx] at h
  | some n =>
    simp only [hx] at h
    obtain ⟨hxl, hxn⟩ := List.getElem?_eq_some_iff.mp hx
    refine ⟨_, if_pos h, by simp, rfl, rfl, ?_, ?_, ?_⟩
    · intro y
      simp only [keyOf, List.getElem?_set]
      by_cases hy : x = y
      · subst hy; simp [hxl, hxn]
      · simp [hy]
    · intro y
      simp only [heightOf, List.getElem?_set]
      by_cases hy : x = y
      · subst hy; simp [hxl, hxn]
      · simp [hy]
    · intro y l
      simp only [getNext, List.getElem?_set]
      by_cases hy : x = y
      · subst hy
        simp only [hxl, if_true, true_and, hx]
        by_cases hll : l = lvl
        · subst hll; simp [h]
        · simp [hll, List.getElem?_set_ne (Ne.symm hll)]
      · have : ¬ y = x := fun e => hy e.symm
        simp [hy, this]

/-- the list with the new node appended (`ldb_skipnode_create`, links not yet set) -/
def withNode (sl : SkipList α) (k : α) (h mh : Nat) : SkipList α :=
  { sl with nodes := sl.nodes ++ [{ key := some k, next := List.replicate h none }], maxHeight := mh }

theorem withNode_get (sl : SkipList α) (k : α) (h mh y : Nat) :
    (withNode sl k h mh).nodes[y]? =
      if y = sl.nodes.length then some { key := some k, next := List.replicate h none } else sl.nodes[y]? := by
  show (sl.nodes ++ [_])[y]? = _
  rw [List.getElem?_append]
  split
  · rw [if_neg (by omega)]
  · split
    · subst y; simp
    · rw [List.getElem?_eq_none (by simp; omega), List.getElem?_eq_none (by omega)]

theorem withNode_keyOf (sl : SkipList α) (k : α) (h mh y : Nat) :
    keyOf (withNode sl k h mh) y = if y = sl.nodes.length then some k else keyOf sl y := by
  unfold keyOf
  rw [withNode_get]
  by_cases hy : y = sl.nodes.length <;> simp only [hy, if_true, if_false]

theorem withNode_heightOf (sl : SkipList α) (k : α) (h mh y : Nat) :
    heightOf (withNode sl k h mh) y = if y = sl.nodes.length then h else heightOf sl y := by
  unfold heightOf
  rw [withNode_get]
  by_cases hy : y = sl.nodes.length <;> simp only [hy, if_true, if_false, List.length_replicate]

theorem withNode_getNext (sl : SkipList α) (k : α) (h mh y l : Nat) :
    getNext (withNode sl k h mh) y l =
      if y = sl.nodes.length then (if l < h then some none else none) else getNext sl y l := by
  unfold getNext
  rw [withNode_get]
  by_cases hy : y = sl.nodes.length <;> simp only [hy, if_true, if_false, List.getElem?_replicate]

/-- state of the link loop when levels `< i` are done; `s0` = list with the fresh node `n`, `P l` = `prev[l]` -/
structure LinkSt (s0 : SkipList α) (n : Nat) (P : Nat → Nat) (i : Nat) (s : SkipList α) : Prop where
  len : s.nodes.length = s0.nodes.length
  mh : s.maxHeight = s0.maxHeight
  rnd : s.rnd = s0.rnd
  key : ∀ y, keyOf s y = keyOf s0 y
  height : ∀ y, heightOf s y = heightOf s0 y
  next : ∀ y l, getNext s y l =
    if y = n then (if l < i then getNext s0 (P l) l else getNext s0 n l)
    else if l < i ∧ y = P l then some (some n) else getNext s0 y l

/-- `hcount` is the height of the new node, `cnt` the number of levels left -/
theorem linkGo_spec (s0 : SkipList α) (n : Nat) (P : Nat → Nat) (prev : List (Option Nat)) (hcount : Nat) :
    ∀ (cnt i : Nat) (s : SkipList α), i + cnt = hcount → LinkSt s0 n P i s →
      (∀ l, l < hcount → prev[l]? = some (some (P l)) ∧ P l ≠ n ∧ l < heightOf s0 (P l) ∧ (getNext s0 (P l) l).isSome) →
      hcount ≤ heightOf s0 n →
      ∃ s', linkGo s n prev i cnt = some s' ∧ LinkSt s0 n P hcount s' := by
  intro cnt
  induction cnt with
  | zero =>
    intro i s hi hs _ _
    have : i = hcount := by omega
    subst this
    exact ⟨s, rfl, hs⟩
  | succ cnt ih =>
    intro i s hi hs hP hn
    obtain ⟨hpi, hne, hlt, hsome⟩ := hP i (by omega)
    simp only [linkGo, hpi]
    have hgn : getNext s (P i) i = getNext s0 (P i) i := by
      rw [hs.next]; simp [hne]
    obtain ⟨nx, hnx⟩ := Option.isSome_iff_exists.mp hsome
    rw [hgn, hnx]
    simp only
    obtain ⟨s1, hs1, l1, m1, r1, k1, h1, n1⟩ := setNext_ok (sl := s) (x := n) (lvl := i) nx (by rw [hs.height]; omega)
    obtain ⟨s2, hs2, l2, m2, r2, k2, h2, n2⟩ := setNext_ok (sl := s1) (x := P i) (lvl := i) (some n)
      (by rw [h1, hs.height]; exact hlt)
    rw [hs1]
    simp only
    rw [hs2]
    apply ih (i + 1) s2 (by omega) _ hP hn
    refine ⟨by rw [l2, l1, hs.len], by rw [m2, m1, hs.mh], by rw [r2, r1, hs.rnd], fun y => by rw [k2, k1, hs.key],
      fun y => by rw [h2, h1, hs.height], ?_⟩
    intro y l
    rw [n2, n1, hs.next]
    by_cases hli : l = i
    · subst hli
      by_cases hyn : y = n
      · simp [hyn, Ne.symm hne, hnx]
      · by_cases hyp : y = P l <;> simp [hyp, hyn, hne]
    · have h1 : (l < i + 1) = (l < i) := propext (by omega)
      simp [hli, h1]

theorem raisePrev_get (prev : List (Option Nat)) (lo hi i : Nat) :
    (raisePrev prev lo hi)[i]? = if lo ≤ i ∧ i < hi then prev[i]?.map fun _ => some 0 else prev[i]? := by
  have step : ∀ m, ((List.range m).foldl (fun p j => p.set (lo + j) (some 0)) prev)[i]? =
      if lo ≤ i ∧ i < lo + m then prev[i]?.map fun _ => some 0 else prev[i]? := by
    intro m
    induction m with
    | zero => exact (if_neg (by omega)).symm
    | succ m ih =>
      rw [List.range_succ, List.foldl_append, List.foldl_cons, List.foldl_nil]
      by_cases he : lo + m = i
      · subst he
        rw [List.getElem?_set_self', ih, if_neg (by omega), if_pos (by omega)]; rfl
      · rw [List.getElem?_set_ne he, ih]
        exact ite_cond_congr (propext (by omega))
  rw [raisePrev, step]
  exact ite_cond_congr (propext (by omega))

theorem insertAt_ok (h : Inv cmp sl L) (k : α) (height : Nat)
    (hh : 1 ≤ height ∧ height ≤ kMaxHeight) (A B : List Nat) (hL : L = A ++ B) (prev : List (Option Nat))
    (hplen : prev.length = kMaxHeight)
    (hlow : ∀ i, i < sl.maxHeight → ∃ p, prev[i]? = some (some p) ∧ PrevOk sl A i p) :
    ∃ s' P, insertAt sl k height prev = some s' ∧ (∀ l, l < height → PrevOk sl A l (P l) ∧ P l ≠ sl.nodes.length) ∧
      LinkSt (withNode sl k height (if height > sl.maxHeight then height else sl.maxHeight)) sl.nodes.length P height s' := by
  have hmh := h.mhRange
  have hlen := h.len
  let prev' := if height > sl.maxHeight then raisePrev prev sl.maxHeight height else prev
  -- raising is the identity unless the new node is higher than the list
  have hraise : prev' = raisePrev prev sl.maxHeight height := by
    show (if _ then _ else _) = _
    split
    · rfl
    · rw [raisePrev, Nat.sub_eq_zero_of_le (by omega)]; rfl
  -- every level below `height` has its `prev`: the one the search found, or the head for the new levels
  have hprev : ∀ l, l < height → ∃ p, prev'[l]? = some (some p) ∧ PrevOk sl A l p := by
    intro l hl
    rw [hraise, raisePrev_get]
    by_cases hlm : l < sl.maxHeight
    · rw [if_neg (by omega)]; exact hlow l hlm
    · rw [if_pos (by omega), List.getElem?_eq_getElem (by omega)]
      refine ⟨0, rfl, [], A, rfl, by rw [h.headHeight]; omega, fun a ha => ?_⟩
      have := (h.heights a (by rw [hL]; simp [ha])).2
      omega
  obtain ⟨P, hP⟩ : ∃ P : Nat → Nat, ∀ l, l < height → prev'[l]? = some (some (P l)) ∧ PrevOk sl A l (P l) := by
    refine ⟨fun l => (prev'[l]?.join).getD 0, fun l hl => ?_⟩
    obtain ⟨p, hp1, hp2⟩ := hprev l hl
    simp only [hp1, Option.join_some, Option.getD_some]
    exact ⟨trivial, hp2⟩
  have hPn : ∀ l, l < height → P l ≠ sl.nodes.length := by
    intro l hl
    rcases List.mem_cons.mp (hP l hl).2.mem with e | hm
    · omega
    · have := (h.mem_iff (P l)).mp (by rw [hL]; simp [hm]); omega
  let s0 := withNode sl k height (if height > sl.maxHeight then height else sl.maxHeight)
  have hs0 : LinkSt s0 sl.nodes.length P 0 s0 := by
    refine ⟨rfl, rfl, rfl, fun _ => rfl, fun _ => rfl, fun y l => ?_⟩
    by_cases hy : y = sl.nodes.length <;> simp [hy]
  obtain ⟨s', hrun, hst⟩ := linkGo_spec s0 sl.nodes.length P prev' height height 0 s0 (by omega) hs0
    (by
      intro l hl
      obtain ⟨hp1, A1, A2, hs, hlt, hA2⟩ := hP l hl
      refine ⟨hp1, hPn l hl, ?_, ?_⟩
      · rw [withNode_heightOf, if_neg (hPn l hl)]; exact hlt
      · rw [withNode_getNext, if_neg (hPn l hl),
          h.next A1 (P l) (A2 ++ B) (by rw [hL, ← List.cons_append, hs]; simp) l hlt]
        rfl)
    (by rw [withNode_heightOf]; simp)
  exact ⟨s', P, hrun, fun l hl => ⟨(hP l hl).2, hPn l hl⟩, hst⟩

theorem keyOf_len_none (sl : SkipList α) : keyOf sl sl.nodes.length = none := by
  simp [keyOf]

theorem heightOf_len (sl : SkipList α) : heightOf sl sl.nodes.length = 0 := by
  simp [heightOf]

theorem mem_insert_iff {x n : Nat} {A B : List Nat} : x ∈ A ++ n :: B ↔ x = n ∨ x ∈ A ++ B := by
  simp only [List.mem_append, List.mem_cons]
  exact or_left_comm

theorem inserted_inv {sl s' : SkipList α} (hc : CmpOk cmp) (h : Inv cmp sl L)
    (k : α) (height : Nat) (hh : 1 ≤ height ∧ height ≤ kMaxHeight) (A B : List Nat) (hL : L = A ++ B)
    (hA : ∀ a ∈ A, ∃ ka, keyOf sl a = some ka ∧ cmp ka k = .lt)
    (hB : ∀ b ∈ B, ∃ kb, keyOf sl b = some kb ∧ cmp k kb = .lt)
    (P : Nat → Nat) (hP : ∀ l, l < height → PrevOk sl A l (P l) ∧ P l ≠ sl.nodes.length)
    (hst : LinkSt (withNode sl k height (if height > sl.maxHeight then height else sl.maxHeight)) sl.nodes.length P height s') :
    Inv cmp s' (A ++ sl.nodes.length :: B) := by
  subst hL
  have hlen := h.len
  have hlen' : s'.nodes.length = sl.nodes.length + 1 := hst.len.trans List.length_append
  have hmh : s'.maxHeight = if height > sl.maxHeight then height else sl.maxHeight := hst.mh
  have hLn : ∀ y ∈ A ++ B, y ≠ sl.nodes.length := fun y hy => by have := (h.mem_iff y).mp hy; omega
  have hAL : ∀ y ∈ A, y ∈ A ++ B := fun y => List.mem_append_left B
  have hBL : ∀ y ∈ B, y ∈ A ++ B := fun y => List.mem_append_right A
  have hkey : ∀ y, y ≠ sl.nodes.length → keyOf s' y = keyOf sl y := fun y hy => by rw [hst.key, withNode_keyOf, if_neg hy]
  have hht : ∀ y, y ≠ sl.nodes.length → heightOf s' y = heightOf sl y := fun y hy => by
    rw [hst.height, withNode_heightOf, if_neg hy]
  have hkeyn : keyOf s' sl.nodes.length = some k := by rw [hst.key, withNode_keyOf, if_pos rfl]
  have hhtn : heightOf s' sl.nodes.length = height := by rw [hst.height, withNode_heightOf, if_pos rfl]
  have htransfer : ∀ a b, NodeLt cmp sl a b → NodeLt cmp s' a b := by
    rintro a b ⟨ka, kb, h1, h2, h3⟩
    have ha : a ≠ sl.nodes.length := fun e => by rw [e, keyOf_len_none] at h1; cases h1
    have hb : b ≠ sl.nodes.length := fun e => by rw [e, keyOf_len_none] at h2; cases h2
    exact ⟨ka, kb, (hkey a ha).trans h1, (hkey b hb).trans h2, h3⟩
  have hsorted := List.pairwise_append.mp h.sorted
  refine ⟨?_, ?_, ?_, ?_, ?_, ?_, ?_, ?_, ?_, ?_⟩
  · rw [hkey 0 (by omega)]; exact h.headKey
  · rw [hht 0 (by omega)]; exact h.headHeight
  · intro x
    rw [mem_insert_iff, h.mem_iff, hlen']
    omega
  · rw [hlen', ← hlen]; simp; omega
  · refine List.pairwise_append.mpr ⟨hsorted.1.imp (htransfer _ _), ?_, ?_⟩
    · refine List.pairwise_cons.mpr ⟨?_, hsorted.2.1.imp (htransfer _ _)⟩
      intro b hb
      obtain ⟨kb, h1, h2⟩ := hB b hb
      exact ⟨k, kb, hkeyn, (hkey b (hLn b (hBL b hb))).trans h1, h2⟩
    · intro a ha b hb
      rcases List.mem_cons.mp hb with rfl | hb
      · obtain ⟨ka, h1, h2⟩ := hA a ha
        exact ⟨ka, k, (hkey a (hLn a (hAL a ha))).trans h1, hkeyn, h2⟩
      · exact htransfer _ _ (hsorted.2.2 a ha b hb)
  · intro x hx
    rcases mem_insert_iff.mp hx with rfl | hx
    · exact ⟨k, hkeyn⟩
    · rw [hkey x (hLn x hx)]; exact h.hasKey x hx
  · intro x hx
    rw [hmh]
    rcases mem_insert_iff.mp hx with rfl | hx
    · rw [hhtn]; split <;> omega
    · rw [hht x (hLn x hx)]
      have := h.heights x hx
      split <;> omega
  · rw [hmh]
    have := h.mhRange
    split <;> omega
  · rw [hmh]
    by_cases hgt : height > sl.maxHeight
    · rw [if_pos hgt]
      exact .inr ⟨_, mem_insert_iff.mpr (.inl rfl), hhtn⟩
    · rw [if_neg hgt]
      exact h.mhExact.imp_right fun ⟨x, hx, hxh⟩ => ⟨x, mem_insert_iff.mpr (.inr hx), (hht x (hLn x hx)).trans hxh⟩
  · -- level by level: the old nodes keep their heights, and their links unless they are `prev[lvl]`
    refine (linked_filter_iff (getNext s') (heightOf s') _).mp fun lvl => ?_
    have hold := h.linked lvl
    have hold0 : ∀ y ∈ 0 :: (A ++ B), y ≠ sl.nodes.length := fun y hy => by
      rcases List.mem_cons.mp hy with rfl | hy
      · omega
      · exact hLn y hy
    have hnx : ∀ y, y ≠ sl.nodes.length → ¬ (lvl < height ∧ y = P lvl) → getNext s' y lvl = getNext sl y lvl :=
      fun y hy hp => by rw [hst.next, if_neg hy, if_neg hp, withNode_getNext, if_neg hy]
    rw [← List.cons_append, List.filter_append] at hold
    have qeq : ∀ l : List Nat, (∀ y ∈ l, y ∈ 0 :: A ++ B) →
        l.filter (fun y => decide (lvl < heightOf s' y)) = l.filter (fun y => decide (lvl < heightOf sl y)) :=
      fun l hl => List.filter_congr fun y hy => by rw [hht y (hold0 y (hl y hy))]
    rw [← List.cons_append, List.filter_append, List.filter_cons (x := sl.nodes.length), hhtn,
      qeq (0 :: A) (fun y => List.mem_append_left B), qeq B (fun y => List.mem_append_right (0 :: A))]
    by_cases hlh : lvl < height
    · -- `prev[lvl]` is the last node before the new one that reaches the level: splice behind it
      obtain ⟨⟨A1, A2, hs, hlt, hA2⟩, hPn⟩ := hP lvl hlh
      have hnd : (A1 ++ P lvl :: (A2 ++ B)).Nodup := by
        have := h.nodup hc
        rwa [← List.cons_append, hs, List.append_assoc, List.cons_append] at this
      have hnp := (List.nodup_cons.mp ((List.pairwise_middle fun h => Ne.symm h).mp hnd)).1
      have e : (0 :: A).filter (fun y => decide (lvl < heightOf sl y)) =
          A1.filter (fun y => decide (lvl < heightOf sl y)) ++ [P lvl] := by
        rw [hs, List.filter_append, List.filter_cons, if_pos (decide_eq_true hlt),
          (List.filter_eq_nil_iff (l := A2)).mpr fun a ha => by simpa using hA2 a ha]
      rw [e, List.append_assoc, List.singleton_append] at hold ⊢
      rw [if_pos (decide_eq_true hlh)]
      refine hold.splice ?_ ?_ fun y hy => ?_
      · rw [hst.next, if_neg hPn, if_pos ⟨hlh, rfl⟩]
      · rw [hst.next, if_pos rfl, if_pos hlh, withNode_getNext, if_neg hPn]
      · -- any other node of the level is an old node other than `prev[lvl]`
        have hy' : y ∈ A1 ++ (A2 ++ B) :=
          (List.filter_sublist.append (List.filter_sublist.trans (List.sublist_append_right A2 B))).subset hy
        refine hnx y (hold0 y ?_) fun hp => hnp (hp.2 ▸ hy')
        rw [← List.cons_append, hs, List.append_assoc]
        exact List.mem_append.mpr ((List.mem_append.mp hy').imp_right (List.mem_cons_of_mem _))
    · -- the new node does not reach the level, nothing changes on it
      rw [if_neg (by simpa using hlh)]
      exact hold.congr fun y hy => hnx y (hold0 y ((List.filter_sublist.append List.filter_sublist).subset hy))
        fun hp => hlh hp.1

theorem insert_ok (hc : CmpOk cmp) (h : Inv cmp sl L) (k : α)
    (height : Nat) (hh : 1 ≤ height ∧ height ≤ kMaxHeight) (A B : List Nat) (hL : L = A ++ B)
    (hA : ∀ a ∈ A, afterKey cmp sl k a = some true) (hB : ∀ b ∈ B, afterKey cmp sl k b = some false)
    (hdup : ∀ b kb, B.head? = some b → keyOf sl b = some kb → cmp k kb ≠ .eq) :
    ∃ s', insert cmp sl k height = some s' ∧ Inv cmp s' (A ++ sl.nodes.length :: B) ∧
      s'.rnd = sl.rnd ∧ s'.nodes.length = sl.nodes.length + 1 ∧
      (∀ y, keyOf s' y = if y = sl.nodes.length then some k else keyOf sl y) ∧
      (∀ b ∈ B, ∃ kb, keyOf sl b = some kb ∧ cmp k kb = .lt) := by
  -- the head of `B` is not below `k` and not equal to it, so it is above, and the rest of `B` is above the head
  have hB' : ∀ b ∈ B, ∃ kb, keyOf sl b = some kb ∧ cmp k kb = .lt := by
    intro b hb
    cases B with
    | nil => cases hb
    | cons b0 t =>
      obtain ⟨k0, hk0, hnlt⟩ := afterKey_false (hB b0 (by simp))
      have hlt0 : cmp k k0 = .lt := hc.lt_of_not_lt_of_ne hnlt (hdup b0 k0 rfl hk0)
      rcases List.mem_cons.mp hb with rfl | hb
      · exact ⟨k0, hk0, hlt0⟩
      · have hs := h.sorted
        rw [hL, List.pairwise_append] at hs
        obtain ⟨ka, kb, h1, h2, h3⟩ := (List.pairwise_cons.mp hs.2.1).1 b hb
        rw [hk0] at h1
        cases h1
        exact ⟨kb, h2, hc.trans _ _ _ hlt0 h3⟩
  obtain ⟨prev, hfind, hplen, hlow, _⟩ := findGE_of_split h k A B hL hA hB
  have hd : isDup cmp sl k B.head? = some false := by
    cases hb : B.head? with
    | none => rfl
    | some b =>
      obtain ⟨kb, hkb, hlt⟩ := hB' b (List.mem_of_mem_head? hb)
      simp [isDup, hkb, hlt]
  obtain ⟨s', P, hrun, hP, hst⟩ := insertAt_ok h k height hh A B hL prev hplen hlow
  refine ⟨s', ?_, ?_, hst.rnd, hst.len.trans List.length_append, fun y => (hst.key y).trans (withNode_keyOf ..), hB'⟩
  · unfold insert
    rw [if_neg (by omega), hfind]
    simp only [hd]
    exact hrun
  · exact inserted_inv hc h k height hh A B hL (fun a ha => afterKey_true (hA a ha)) hB' P hP hst

end Lcdb.Skiplist
