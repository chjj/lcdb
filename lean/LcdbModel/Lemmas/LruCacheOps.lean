/-
  Every operation of a shard of the LRU cache preserves the invariant (Lemmas/LruCache.lean), never faults on well-formed
  use, and has the frame described by its `…Spec` structure.  `erase`, one eviction step and the cached branch of `insert`
  are one table write followed by `finish` (`displace`); both loops are one induction (`loop_inv`).
-/
import LcdbModel.Lemmas.LruCache
namespace Lcdb.LruCache

theorem filter_ne_self_of_not_mem {l : List Nat} {x : Nat} (h : x ∉ l) : l.filter (· != x) = l :=
  List.filter_eq_self.2 fun _ ha => bne_iff_ne.2 fun h' => h (h' ▸ ha)

theorem getElem?_snoc_ne {α} (l : List α) (a : α) {i : Nat} (hi : i ≠ l.length) : (l ++ [a])[i]? = l[i]? := by
  rcases Nat.lt_or_gt_of_ne hi with h | h
  · exact List.getElem?_append_left h
  · rw [List.getElem?_eq_none (by simp; omega), List.getElem?_eq_none (by omega)]

/-- Evictions make the table of a shard forget, and a shard of capacity 0 never writes its table; nothing else makes it
    differ from the reference map (`Coh`, Lemmas/LruCacheSpec.lean). -/
def Forgets (t t' : Bytes → Option Nat) : Prop := ∀ k, t' k = none ∨ t' k = t k

theorem Forgets.refl (t : Bytes → Option Nat) : Forgets t t := fun _ => .inr rfl

theorem Forgets.trans {a b c : Bytes → Option Nat} (h1 : Forgets a b) (h2 : Forgets b c) : Forgets a c := fun k =>
  (h2 k).elim .inl fun h => h ▸ h1 k

theorem Forgets.set {t t' : Bytes → Option Nat} (h : Forgets t t') (k : Bytes) (v : Option Nat) :
    Forgets (tableSet t k v) (tableSet t' k v) := fun k' => by
  simp only [tableSet]; split
  · exact .inr rfl
  · exact h k'

structure EraseSpec (s s' : Shard) (k : Bytes) : Prop where
  frame : Frame s s'
  table : s'.table = tableSet s.table k none
  held : s'.held = s.held
  lruSub : ∀ id, id ∈ s'.lru → id ∈ s.lru
  lruEq : s'.lru = match s.table k with | none => s.lru | some x => s.lru.filter (· != x)
  usageLe : s'.usage ≤ s.usage
  deleted : s'.deleted = s.deleted ++ (match s.table k with
      | none => [] | some x => if s.held.count x = 0 then [x] else [])

/-- `lru_shard_finish(lru, lru_table_insert/remove(&lru->table, ..))`: slot `k` of the table is written and the entry it
    held, if any, leaves the cache. -/
def displace (s : Shard) (k : Bytes) (v : Option Nat) : Option Shard :=
  finish { s with table := tableSet s.table k v } (s.table k)

structure DisplaceSpec (s s' : Shard) (k : Bytes) (v : Option Nat) : Prop where
  frame : Frame s s'
  table : s'.table = tableSet s.table k v
  held : s'.held = s.held
  lru : s'.lru = match s.table k with | none => s.lru | some x => s.lru.filter (· != x)
  inUse : s'.inUse = match s.table k with | none => s.inUse | some x => s.inUse.filter (· != x)
  deleted : s'.deleted = s.deleted ++ (match s.table k with
      | none => [] | some x => if s.held.count x = 0 then [x] else [])
  usageLe : s'.usage ≤ s.usage
  usage : ∀ (x : Nat) (e : CEntry), s.table k = some x → s.entries[x]? = some e → s'.usage + e.charge = s.usage

theorem displace_inv {s : Shard} {x : Option Nat} (hi : InvX s x) (k : Bytes) (v : Option Nat)
    (hv : ∀ n, v = some n → ∃ e, s.entries[n]? = some e ∧ e.inCache = true ∧ e.key = k)
    (hx : ∀ n, x = some n → v = some n) (hne : ∀ y, s.table k = some y → v ≠ some y) :
    ∃ s', displace s k v = some s' ∧ Inv s' ∧ DisplaceSpec s s' k v := by
  obtain ⟨h1, h2⟩ := hi.setTable k v hv hx
  cases hk : s.table k with
  | none =>
    rw [hk] at h1
    exact ⟨_, by simp [displace, hk, finish], h1, ⟨rfl, rfl, Frame.refl.kv⟩, rfl, rfl, by simp [hk], by simp [hk],
      by simp [hk], Nat.le_refl _, fun x e h => by rw [hk] at h; cases h⟩
  | some y =>
    rw [hk] at h1
    obtain ⟨e, hy, hc, -⟩ := hi.tabIn k y hk
    obtain ⟨he, hinv, sp⟩ := finish_inv h1 hy hc (h2 y hk (hne y hk))
    have hu := sp.usage e hy
    refine ⟨_, by simpa [displace, hk] using he, hinv, ⟨sp.frame.cap, sp.frame.len, sp.frame.kv⟩, sp.table, sp.held,
      by rw [sp.lru, hk], by rw [sp.inUse, hk], by rw [sp.deleted, hk], ?_, ?_⟩
    · show _ ≤ s.usage; simp only at hu; omega
    · intro x e' hx' he'; rw [hk] at hx'; cases hx'; rw [hy] at he'; cases he'; exact hu

theorem erase_inv {s : Shard} (k : Bytes) (hi : Inv s) :
    ∃ s', erase s k = some s' ∧ Inv s' ∧ EraseSpec s s' k := by
  obtain ⟨s', h, hi', sp⟩ := displace_inv hi k none nofun nofun fun _ _ => nofun
  refine ⟨s', h, hi', sp.frame, sp.table, sp.held, fun id h => ?_, sp.lru, sp.usageLe, sp.deleted⟩
  rw [sp.lru] at h
  split at h
  · exact h
  · exact (List.mem_filter.1 h).1

structure EvictSpec (s s' : Shard) (old : Nat) : Prop where
  frame : Frame s s'
  table : ∀ k, s'.table k = s.table k ∨ s'.table k = none
  tableOld : ∀ e : CEntry, s.entries[old]? = some e → s'.table = tableSet s.table e.key none
  held : s'.held = s.held
  inUse : s'.inUse = s.inUse
  lru : s.lru = old :: s'.lru
  deleted : s'.deleted = s.deleted ++ [old]
  usage : ∀ e : CEntry, s.entries[old]? = some e → s'.usage + e.charge = s.usage

theorem evictOne_inv {s : Shard} {old : Nat} {rest : List Nat} (hi : Inv s) (hl : s.lru = old :: rest) :
    ∃ s', evictOne s old = some s' ∧ Inv s' ∧ EvictSpec s s' old := by
  obtain ⟨e, hx, hc, hr⟩ := (hi.lruIff old).1 (by rw [hl]; simp)
  have hk := hi.tab old e hx (by simp) hc
  have hcount : s.held.count old = 0 := by have := hi.refs old e hx; simp [hc] at this; omega
  obtain ⟨s', h, hi', sp⟩ := displace_inv hi e.key none nofun nofun fun _ _ => nofun
  have hlru := sp.lru; have huse := sp.inUse; have hdel := sp.deleted
  simp only [hk] at hlru huse hdel
  have hnotin : old ∉ rest := (List.nodup_cons.1 (hl ▸ hi.ndLru)).1
  have hnu : old ∉ s.inUse := fun h => by have := (mem_iff_at hi.useIff hx).1 h; omega
  refine ⟨s', by simp only [evictOne, hx]; exact h, hi', sp.frame, ?_, ?_, sp.held, ?_, ?_, ?_, fun e' h' => sp.usage old e' hk h'⟩
  · intro k; rw [sp.table]; simp only [tableSet]; split <;> simp
  · intro e' h'; rw [hx] at h'; cases h'; exact sp.table
  · rw [huse]; exact filter_ne_self_of_not_mem hnu
  · rw [hlru, hl]; simp [filter_ne_self_of_not_mem hnotin]
  · rw [hdel]; simp [hcount]

structure LoopSpec (s s' : Shard) : Prop where
  frame : Frame s s'
  table : Forgets s.table s'.table
  held : s'.held = s.held
  inUse : s'.inUse = s.inUse
  pre : ∃ n, n ≤ s.lru.length ∧ s'.lru = s.lru.drop n ∧ s'.deleted = s.deleted ++ s.lru.take n

theorem LoopSpec.refl {s : Shard} : LoopSpec s s :=
  ⟨.refl, .refl _, rfl, rfl, ⟨0, by simp⟩⟩

theorem LoopSpec.step {s s1 s2 : Shard} {old : Nat} (h1 : EvictSpec s s1 old) (h2 : LoopSpec s1 s2) : LoopSpec s s2 := by
  obtain ⟨n, hn, hl, hd⟩ := h2.pre
  refine ⟨h1.frame.trans h2.frame, .trans (fun k => (h1.table k).symm) h2.table, h2.held.trans h1.held,
    h2.inUse.trans h1.inUse, ⟨n + 1, ?_, ?_, ?_⟩⟩
  · rw [h1.lru]; simp; omega
  · rw [h1.lru]; simpa using hl
  · rw [h1.lru, hd, h1.deleted]; simp

/-- Both loops; `g` is the loop test (`fun _ => True` for `lru_shard_prune`). -/
theorem loop_inv {loop : Nat → Shard → Option Shard} {g : Shard → Prop} [DecidablePred g]
    (hloop : ∀ fuel s, loop fuel s = if g s then
        (match s.lru with
         | [] => some s
         | old :: _ => match fuel with
           | 0 => none
           | n + 1 => (evictOne s old).bind (loop n)) else some s)
    (fuel : Nat) (s : Shard) (hi : Inv s) (hf : s.lru.length ≤ fuel) :
    ∃ s', loop fuel s = some s' ∧ Inv s' ∧ LoopSpec s s' ∧ (¬ g s' ∨ s'.lru = []) := by
  induction fuel generalizing s with
  | zero =>
    have : s.lru = [] := List.eq_nil_of_length_eq_zero (by omega)
    exact ⟨s, by rw [hloop]; simp [this], hi, .refl, .inr this⟩
  | succ n ih =>
    rw [hloop]
    by_cases hg : g s
    · cases hl : s.lru with
      | nil => exact ⟨s, by simp [hg], hi, .refl, .inr hl⟩
      | cons old rest =>
        obtain ⟨s1, he, hi1, sp1⟩ := evictOne_inv hi hl
        obtain ⟨s2, he2, hi2, sp2, hp⟩ := ih s1 hi1 (by have := sp1.lru; rw [this] at hf; simp at hf; omega)
        exact ⟨s2, by simp [hg, he, he2], hi2, .step sp1 sp2, hp⟩
    · exact ⟨s, by simp [hg], hi, .refl, .inl hg⟩

theorem evictLoop_inv (fuel : Nat) (s : Shard) (hi : Inv s) (hf : s.lru.length ≤ fuel) :
    ∃ s', evictLoop fuel s = some s' ∧ Inv s' ∧ LoopSpec s s' ∧ (s'.usage ≤ s'.capacity ∨ s'.lru = []) := by
  obtain ⟨s', h, hi', sp, hr⟩ := loop_inv (loop := evictLoop) (g := fun s => s.usage > s.capacity)
    (fun fuel s => by unfold evictLoop; rfl) fuel s hi hf
  exact ⟨s', h, hi', sp, hr.imp Nat.le_of_not_gt id⟩

theorem prune_inv {s : Shard} (hi : Inv s) :
    ∃ s', prune s = some s' ∧ Inv s' ∧ LoopSpec s s' ∧ s'.lru = [] := by
  obtain ⟨s', h, hi', sp, hr⟩ := loop_inv (loop := pruneLoop) (g := fun _ => True)
    (fun fuel s => by unfold pruneLoop; rw [if_pos trivial]; rfl) s.lru.length s hi (Nat.le_refl _)
  exact ⟨s', h, hi', sp, hr.resolve_left fun h => h trivial⟩

structure LookupSpec (s s' : Shard) (r : Option Nat) : Prop where
  frame : Frame s s'
  table : s'.table = s.table
  usage : s'.usage = s.usage
  deleted : s'.deleted = s.deleted
  held : s'.held = s.held ++ r.toList
  lru : s'.lru = s.lru.filter (fun x => r != some x)

theorem lookup_inv {s : Shard} (k : Bytes) (hi : Inv s) :
    ∃ s', lookup s k = some (s', s.table k) ∧ Inv s' ∧ LookupSpec s s' (s.table k) := by
  cases hk : s.table k with
  | none =>
    exact ⟨s, by simp [lookup, hk], hi, .refl, rfl, rfl, rfl, by simp, (List.filter_eq_self.2 (fun _ _ => rfl)).symm⟩
  | some id =>
    obtain ⟨e, hx, hc, hkey⟩ := hi.tabIn k id hk
    have hlt := getElem?_lt hx
    have hrefs : e.refs = s.held.count id + 1 := by simpa [hc] using hi.refs id e hx
    have hl := mem_iff_at hi.lruIff hx
    have hu := mem_iff_at hi.useIff hx
    have hd := mem_iff_at hi.delIff hx
    let s' : Shard := { s with lru := s.lru.filter (· != id),
                               inUse := if e.refs = 1 then s.inUse.filter (· != id) ++ [id] else s.inUse,
                               entries := s.entries.set id { e with refs := e.refs + 1 },
                               held := s.held ++ [id] }
    have heq : lookup s k = some (s', some id) := by
      have hne : e.refs ≠ 0 := by omega
      simp only [lookup, hk, ref, hx, hne, if_false, hc, and_true]
      by_cases h1 : e.refs = 1
      · simp [h1, unlink, s', hc]
      · simp [h1, s', hc, filter_ne_self_of_not_mem (fun h => h1 (hl.1 h).2)]
    refine ⟨s', heq, ?_, ?_⟩
    · apply hi.update (s' := s') (id := id) (e' := { e with refs := e.refs + 1 }) (List.getElem?_set_self hlt)
        (fun j hj => List.getElem?_set_ne (Ne.symm hj)) rfl (mlru := .filter)
        (muse := .ite (Moved.filter.snoc (by simp)) .refl) (mdel := .refl)
      case hxx => exact fun _ _ _ => nofun
      case hheld => intro j hj; simp [s', List.count_append, Ne.symm hj]
      case refs => simp [s', hc, hrefs]
      case lruIff => simp [s']; omega
      case useIff =>
        simp only [s']; split
        · simp [hc]; omega
        · simp [hu, hc]; omega
      case delIff => simp [s', hd]; omega
      case tab => exact fun _ _ => hkey ▸ hk
      case tabIn => exact fun k hk => hi.of_table (e := e) hk hx
      case usage => exact hi.usage.trans (sumCharge_set_same (e' := { e with refs := e.refs + 1 }) hx rfl).symm
    · exact ⟨Frame.set hx rfl rfl rfl rfl rfl, rfl, rfl, rfl, by simp [s'],
        List.filter_congr fun x _ => by rw [bne_comm]; rfl⟩

structure ReleaseSpec (s s' : Shard) (id : Nat) : Prop where
  frame : Frame s s'
  table : s'.table = s.table
  usage : s'.usage = s.usage
  held : s'.held = s.held.erase id
  lru : ∀ e : CEntry, s.entries[id]? = some e →
    s'.lru = if e.inCache = true ∧ s.held.count id = 1 then s.lru ++ [id] else s.lru
  deleted : ∀ e : CEntry, s.entries[id]? = some e →
    s'.deleted = if e.inCache = false ∧ s.held.count id = 1 then s.deleted ++ [id] else s.deleted

theorem release_inv {s : Shard} (id : Nat) (hi : Inv s) (hh : id ∈ s.held) :
    ∃ s', release s id = some s' ∧ Inv s' ∧ ReleaseSpec s s' id := by
  obtain ⟨hnd, e, hx, hne⟩ := hi.pinned hh
  have hlt := getElem?_lt hx
  have hrefs := hi.refs id e hx
  have hcnt : 0 < s.held.count id := List.count_pos_iff.2 hh
  have hu := mem_iff_at hi.useIff hx
  have hnl : id ∉ s.lru := fun h => by have := (mem_iff_at hi.lruIff hx).1 h; simp [this.1] at hrefs; omega
  -- the two tests of `unref`, in terms of the handle count
  have hfree : e.refs - 1 = 0 ↔ e.inCache = false ∧ s.held.count id = 1 := by
    cases hc : e.inCache <;> simp [hc] at hrefs ⊢ <;> omega
  have hlast : e.inCache = true ∧ e.refs - 1 = 1 ↔ e.inCache = true ∧ s.held.count id = 1 :=
    and_congr_right fun hc => by simp [hc] at hrefs; omega
  let s' : Shard := { s with
      entries := s.entries.set id { e with refs := e.refs - 1 },
      lru := if e.inCache = true ∧ e.refs - 1 = 1 then s.lru ++ [id] else s.lru,
      inUse := if e.inCache = true ∧ e.refs - 1 = 1 then s.inUse.filter (· != id) else s.inUse,
      deleted := if e.refs - 1 = 0 then s.deleted ++ [id] else s.deleted,
      held := s.held.erase id }
  have heq : release s id = some s' := by
    simp only [release, hh, if_true, unref, hx, Nat.ne_of_gt hne, if_false]
    by_cases h1 : e.refs - 1 = 0
    · simp only [h1, (hfree.1 h1).1, if_true, Bool.false_eq_true, if_false, false_and, Option.map_some, s']
    · by_cases h2 : e.inCache = true ∧ e.refs - 1 = 1
      · simp [h2, s', unlink, filter_ne_self_of_not_mem hnl]
      · simp only [h1, h2, if_false, Option.map_some, s']
  refine ⟨s', heq, ?_, ?_⟩
  · apply hi.update (s' := s') (id := id) (e' := { e with refs := e.refs - 1 }) (List.getElem?_set_self hlt)
      (fun j hj => List.getElem?_set_ne (Ne.symm hj)) rfl (mlru := .ite (Moved.refl.snoc hnl) .refl)
      (muse := .ite .filter .refl) (mdel := .ite (Moved.refl.snoc hnd) .refl)
    case hxx => exact fun _ _ _ => nofun
    case hheld => intro j hj; exact List.count_erase_of_ne hj
    case refs =>
      show e.refs - 1 = (s.held.erase id).count id + (if e.inCache then 1 else 0)
      rw [List.count_erase_self]; omega
    case lruIff => exact mem_ite_snoc hnl
    case useIff =>
      simp only [s']; split
      next h => simp [h.2]
      next h => rw [hu]; exact and_congr_right fun hc => by simp [hc] at hrefs h; omega
    case delIff => exact mem_ite_snoc hnd
    case tab => exact fun h _ => hi.tab id e hx nofun h
    case tabIn => exact fun k hk => hi.of_table (e := e) hk hx
    case usage => exact hi.usage.trans (sumCharge_set_same (e' := { e with refs := e.refs - 1 }) hx rfl).symm
  · refine ⟨Frame.set hx rfl rfl rfl rfl rfl, rfl, rfl, rfl, ?_, ?_⟩
    · intro e1 h1; rw [hx] at h1; cases h1; simp only [s', hlast]
    · intro e1 h1; rw [hx] at h1; cases h1; simp only [s', hfree]

/-- what both branches of `lru_shard_insert` do first (with capacity 0 that is all; otherwise the table write follows) -/
def alloc (s : Shard) (e0 : CEntry) : Shard :=
  { s with held := s.held ++ [s.entries.length], entries := s.entries ++ [e0],
           inUse := if e0.inCache then s.inUse ++ [s.entries.length] else s.inUse, usage := s.usage + wt e0 }

theorem alloc_inv {s : Shard} (e0 : CEntry) (hi : Inv s) (hr : e0.refs = 1 + (if e0.inCache then 1 else 0)) :
    InvX (alloc s e0) (if e0.inCache then some s.entries.length else none) := by
  obtain ⟨hl, hu, hd, hh, ht⟩ := hi.fresh (Nat.le_refl _)
  apply hi.update (s' := alloc s e0) (id := s.entries.length) (e' := e0) List.getElem?_concat_length
    (fun j hj => getElem?_snoc_ne _ _ hj) rfl (mlru := .refl) (muse := .ite (Moved.refl.snoc hu) .refl) (mdel := .refl)
  case hxx => exact fun _ _ _ => nofun
  case hheld => intro j hj; simp [alloc, List.count_append, Ne.symm hj]
  case refs => simp [alloc, hr, List.count_eq_zero.2 hh]
  case lruIff => cases hc : e0.inCache <;> simp [alloc, hc, hl, hr]
  case useIff => cases hc : e0.inCache <;> simp [alloc, hc, hu, hr]
  case delIff => simp [alloc, hd, hr]
  case tab => intro hc h; simp [hc] at h
  case tabIn => exact fun k hk => absurd hk (ht k)
  case usage =>
    show s.usage + wt e0 = sumCharge (s.entries ++ [e0])
    rw [sumCharge_append, hi.usage]; simp [sumCharge]

/-- `lru` after the old entry of the key (if any) has been `finish`ed, before the eviction loop -/
def insMid (s : Shard) (key : Bytes) : List Nat :=
  if 0 < s.capacity then (match s.table key with | some x => s.lru.filter (· != x) | none => s.lru) else s.lru

/-- deleter call caused by replacing the old entry of the key -/
def insOld (s : Shard) (key : Bytes) : List Nat :=
  if 0 < s.capacity then (match s.table key with
    | some x => if s.held.count x = 0 then [x] else [] | none => []) else []

structure InsertSpec (s s' : Shard) (key : Bytes) (val charge : Nat) : Prop where
  cap : s'.capacity = s.capacity
  kvc : s'.entries.map kvc = s.entries.map kvc ++ [(key, val, charge)]
  table : Forgets (if 0 < s.capacity then tableSet s.table key (some s.entries.length) else s.table) s'.table
  /-- the eviction loop ran to its exit condition -/
  respected : s'.usage ≤ s'.capacity ∨ s'.lru = []
  order : ∃ n, n ≤ (insMid s key).length ∧ s'.lru = (insMid s key).drop n ∧
    s'.deleted = s.deleted ++ insOld s key ++ (insMid s key).take n

/-- intermediate state, before the eviction loop -/
structure MidSpec (s s1 : Shard) (key : Bytes) (val charge : Nat) : Prop where
  cap : s1.capacity = s.capacity
  len : s1.entries.length = s.entries.length + 1
  kvOld : ∀ (j : Nat) (e : CEntry), s.entries[j]? = some e →
    ∃ e' : CEntry, s1.entries[j]? = some e' ∧ e'.key = e.key ∧ e'.val = e.val ∧ e'.charge = e.charge
  kvNew : ∃ e' : CEntry, s1.entries[s.entries.length]? = some e' ∧ e'.key = key ∧ e'.val = val ∧ e'.charge = charge
  held : s1.held = s.held ++ [s.entries.length]
  table : s1.table = fun k => if 0 < s.capacity ∧ k = key then some s.entries.length else s.table k
  lru : s1.lru = insMid s key
  deleted : s1.deleted = s.deleted ++ insOld s key

theorem kv_snoc {s s1 : Shard} {e0 : CEntry} (hf : Frame (alloc s e0) s1) :
    s1.entries.map kvc = s.entries.map kvc ++ [kvc e0] ∧ s1.entries.length = s.entries.length + 1 ∧
    (∀ (j : Nat) (e : CEntry), s.entries[j]? = some e →
      ∃ e' : CEntry, s1.entries[j]? = some e' ∧ e'.key = e.key ∧ e'.val = e.val ∧ e'.charge = e.charge) ∧
    ∃ e' : CEntry, s1.entries[s.entries.length]? = some e' ∧ e'.key = e0.key ∧ e'.val = e0.val ∧ e'.charge = e0.charge :=
  have h0 : (alloc s e0).entries = s.entries ++ [e0] := rfl
  ⟨by rw [frame_kvc hf, h0, List.map_append]; rfl, by rw [hf.len, h0]; simp,
   fun j e h => hf.kv j e (by rw [h0, getElem?_snoc_ne _ _ (Nat.ne_of_lt (getElem?_lt h))]; exact h),
   hf.kv _ e0 (by rw [h0]; simp)⟩

theorem insert_mid (s : Shard) (key : Bytes) (val charge : Nat) (hi : Inv s) :
    ∃ s1, insert s key val charge = ((evictLoop s1.lru.length s1).map fun s2 => (s2, s.entries.length)) ∧
      Inv s1 ∧ MidSpec s s1 key val charge ∧ s1.entries.map kvc = s.entries.map kvc ++ [(key, val, charge)] := by
  obtain ⟨-, -, -, -, hfr⟩ := hi.fresh (Nat.le_refl _)
  by_cases hcap : 0 < s.capacity
  · have hcap' : s.capacity > 0 := hcap
    let e0 : CEntry := { key := key, val := val, charge := charge, refs := 2, inCache := true }
    obtain ⟨s1, hd, hi1, sp⟩ := displace_inv (alloc_inv e0 hi rfl) key (some s.entries.length)
      (fun m hm => ⟨e0, by cases hm; exact List.getElem?_concat_length, rfl, rfl⟩) (fun m hm => hm)
      (fun y hy h => hfr key (hy.trans h.symm))
    obtain ⟨h0, h1, h2, h3⟩ := kv_snoc sp.frame
    refine ⟨s1, ?_, hi1, ⟨sp.frame.cap, h1, h2, h3, sp.held, ?_, ?_, ?_⟩, h0⟩
    · have : insert s key val charge = (displace (alloc s e0) key (some s.entries.length)).bind fun s1 =>
          (evictLoop s1.lru.length s1).map fun s2 => (s2, s.entries.length) := by
        simp [insert, hcap', displace, alloc, e0, wt]
      rw [this, hd]; rfl
    · rw [sp.table]; funext k; simp only [alloc, tableSet, hcap, true_and]
    · rw [sp.lru]; simp only [insMid, hcap, if_true, alloc]; cases s.table key <;> rfl
    · rw [sp.deleted]; simp only [insOld, hcap, if_true, alloc]
      cases hk : s.table key with
      | none => rfl
      | some x =>
        have : x ≠ s.entries.length := fun h => hfr key (h ▸ hk)
        simp [List.count_append, Ne.symm this]
  · have hcap0 : ¬ (s.capacity > 0) := hcap
    let e0 : CEntry := { key := key, val := val, charge := charge, refs := 1, inCache := false }
    obtain ⟨h0, h1, h2, h3⟩ := kv_snoc (s := s) (e0 := e0) .refl
    exact ⟨alloc s e0, by simp [insert, hcap0, alloc, e0, wt], alloc_inv e0 hi rfl,
      ⟨rfl, h1, h2, h3, rfl, by funext k; simp [alloc, hcap], by simp [alloc, insMid, hcap, e0],
      by simp [alloc, insOld, hcap]⟩, h0⟩

theorem insert_inv {s : Shard} (key : Bytes) (val charge : Nat) (hi : Inv s) :
    ∃ s', insert s key val charge = some (s', s.entries.length) ∧ Inv s' ∧ InsertSpec s s' key val charge := by
  obtain ⟨s1, heq, hi1, ms, hk⟩ := insert_mid s key val charge hi
  obtain ⟨s2, he2, hi2, ls, hresp⟩ := evictLoop_inv s1.lru.length s1 hi1 (Nat.le_refl _)
  refine ⟨s2, by rw [heq, he2]; rfl, hi2, ?_⟩
  obtain ⟨n, hn, hl, hd⟩ := ls.pre
  refine ⟨ls.frame.cap.trans ms.cap, (frame_kvc ls.frame).trans hk, ?_, hresp,
    ⟨n, by rw [← ms.lru]; exact hn, by rw [hl, ms.lru], by rw [hd, ms.deleted, ms.lru]⟩⟩
  have : s1.table = if 0 < s.capacity then tableSet s.table key (some s.entries.length) else s.table := by
    rw [ms.table]; by_cases hcap : 0 < s.capacity <;> simp only [hcap, true_and, false_and, if_true, if_false] <;> rfl
  exact this ▸ ls.table

end Lcdb.LruCache
