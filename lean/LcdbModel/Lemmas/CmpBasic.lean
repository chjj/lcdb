/-
  Comparator facts: for every `c : Cmp`, `c.compare` is a lawful total order on byte strings
  (`cmp3_compare`) whose `.eq` class is equality.  `bytesCmp` compares the first bytes and then
  the rest; the reverse comparator is its flip, the length-first comparator compares the lengths
  and then bytewise.
-/
import LcdbModel.Model.InternalKey
import LcdbModel.Lemmas.Cmp3
namespace Lcdb.CmpBasic

theorem bytesCmp_cons (a b : UInt8) (as bs : Bytes) :
    bytesCmp (a :: as) (b :: bs) = (compare a.toNat b.toNat).then (bytesCmp as bs) := by
  rw [← ite_lt_gt_eq_then]
  simp only [bytesCmp, UInt8.lt_iff_toNat_lt, gt_iff_lt]

theorem bytesCmp_cons_self (x : UInt8) (as bs : Bytes) :
    bytesCmp (x :: as) (x :: bs) = bytesCmp as bs := by
  rw [bytesCmp_cons, Nat.compare_eq_eq.mpr rfl]; rfl

theorem bytesCmp_cons_of_lt {a b : UInt8} (h : a.toNat < b.toNat) (as bs : Bytes) :
    bytesCmp (a :: as) (b :: bs) = .lt := by
  rw [bytesCmp_cons, Nat.compare_eq_lt.mpr h]; rfl

/-- `bytesCmp` is core's lexicographic `compare` on the byte values, whose laws are instances of core -/
theorem bytesCmp_eq_compare (a b : Bytes) :
    bytesCmp a b = compare (a.map UInt8.toNat) (b.map UInt8.toNat) := by
  induction a generalizing b with
  | nil => cases b <;> rfl
  | cons x xs ih =>
    cases b with
    | nil => rfl
    | cons y ys => rw [bytesCmp_cons, ih, List.map_cons, List.map_cons, List.compare_cons_cons]

theorem bytesCmp_refl (a : Bytes) : bytesCmp a a = .eq := by
  rw [bytesCmp_eq_compare]; exact Std.ReflCmp.compare_self

theorem bytesCmp_swap (a b : Bytes) : bytesCmp b a = (bytesCmp a b).swap := by
  rw [bytesCmp_eq_compare, bytesCmp_eq_compare]; exact Std.OrientedCmp.eq_swap

theorem bytesCmp_eq_iff (a b : Bytes) : bytesCmp a b = .eq ↔ a = b := by
  rw [bytesCmp_eq_compare, Std.compare_eq_iff_eq]
  exact List.map_inj_right fun _ _ => UInt8.toNat_inj.mp

theorem bytesCmp_lt_trans (a b d : Bytes) (h1 : bytesCmp a b = .lt) (h2 : bytesCmp b d = .lt) :
    bytesCmp a d = .lt := by
  rw [bytesCmp_eq_compare] at *; exact Std.TransCmp.lt_trans h1 h2

theorem bytesCmp_length_of_eq {a b : Bytes} (h : bytesCmp a b = .eq) : a.length = b.length := by
  rw [(bytesCmp_eq_iff a b).mp h]

theorem cmp3_bytesCmp : Cmp3 bytesCmp :=
  ⟨bytesCmp_refl, bytesCmp_swap, bytesCmp_lt_trans,
    fun a b _ h => by rw [(bytesCmp_eq_iff a b).mp h]⟩

theorem compare_lenFirst (a b : Bytes) :
    Cmp.compare .lenFirst a b = (compare a.length b.length).then (bytesCmp a b) :=
  (ite_lt_gt_eq_then _ _ _).symm ▸ rfl

theorem cmp3_compare (c : Cmp) : Cmp3 c.compare := by
  cases c with
  | bytewise => exact cmp3_bytesCmp
  | reverse => exact cmp3_bytesCmp.flip
  | lenFirst =>
    have e : Cmp.compare .lenFirst = fun a b => (compare a.length b.length).then (bytesCmp a b) :=
      funext fun a => funext fun b => compare_lenFirst a b
    rw [e]
    exact (Cmp3.nat.lex cmp3_bytesCmp).comap (fun a : Bytes => (a.length, a))

theorem compare_eq_iff (c : Cmp) (a b : Bytes) : c.compare a b = .eq ↔ a = b := by
  cases c
  · exact bytesCmp_eq_iff a b
  · exact (bytesCmp_eq_iff b a).trans eq_comm
  · rw [compare_lenFirst, Ordering.then_eq_eq, bytesCmp_eq_iff]
    exact ⟨(·.2), fun h => ⟨Nat.compare_eq_eq.mpr (congrArg _ h), h⟩⟩

theorem compare_refl (c : Cmp) (a : Bytes) : c.compare a a = .eq := (cmp3_compare c).refl a

theorem compare_swap (c : Cmp) (a b : Bytes) : c.compare b a = (c.compare a b).swap :=
  (cmp3_compare c).swap a b

theorem compare_gt_iff (c : Cmp) (a b : Bytes) : c.compare a b = .gt ↔ c.compare b a = .lt :=
  (cmp3_compare c).gt_iff a b

theorem compare_lt_iff (c : Cmp) (a b : Bytes) : c.compare a b = .lt ↔ c.compare b a = .gt :=
  (cmp3_compare c).lt_iff_gt a b

theorem compare_lt_trans (c : Cmp) {a b d : Bytes} (h1 : c.compare a b = .lt)
    (h2 : c.compare b d = .lt) : c.compare a d = .lt :=
  (cmp3_compare c).lt_trans a b d h1 h2

theorem compare_eq_trans (c : Cmp) {a b d : Bytes} (h1 : c.compare a b = .eq)
    (h2 : c.compare b d = .eq) : c.compare a d = .eq :=
  (cmp3_compare c).eq_trans h1 h2

theorem compare_antisymm (c : Cmp) {a b : Bytes} (h1 : c.compare a b ≠ .gt) (h2 : c.compare b a ≠ .gt) :
    a = b := by
  cases h : c.compare a b with
  | lt => exact absurd ((compare_lt_iff c a b).mp h) h2
  | eq => exact (compare_eq_iff c a b).mp h
  | gt => exact absurd h h1

end Lcdb.CmpBasic
