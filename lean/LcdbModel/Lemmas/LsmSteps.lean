/-
  Lemmas about the steps of the LSM model (`LcdbModel.Model.Lsm`): what the operations a step is made
  of do to membership, order and `view`.  `Rec` and `NumsRel` are relational forms of `Inv.recency`
  and `Inv.numsDistinct` that do not mention `mergeSort`, with the constructor `Inv.ofRel`, the frame
  lemma `Inv.of_levels_eq` for steps that leave the levels alone, and `InvRel` for concrete states.
  Then the vocabulary of the statements about runs of steps, and the states an added file or a
  compaction leads to.
-/
import LcdbModel.Lemmas.Lsm
namespace Lcdb

theorem NewerThan.mono {c : Cmp} {a b a' b' : Run} (h : NewerThan c a b)
    (ha : ∀ x ∈ a', x ∈ a) (hb : ∀ y ∈ b', y ∈ b) : NewerThan c a' b' :=
  fun x hx y hy he => h x (ha x hx) y (hb y hy) he

theorem newerThan_nil_left {c : Cmp} {b : Run} : NewerThan c [] b := fun _ hx => by cases hx

theorem newerThan_flatMap_right {c : Cmp} {a : Run} {B : List FileMeta} :
    NewerThan c a (B.flatMap (·.run)) ↔ ∀ b ∈ B, NewerThan c a b.run :=
  ⟨fun h b hb x hx y hy => h x hx y (List.mem_flatMap.mpr ⟨b, hb, hy⟩),
    fun h x hx y hy => (List.mem_flatMap.mp hy).elim fun b hb => h b hb.1 x hx y hb.2⟩

theorem newerThan_flatMap_left {c : Cmp} {A : List FileMeta} {b : Run} :
    NewerThan c (A.flatMap (·.run)) b ↔ ∀ a ∈ A, NewerThan c a.run b :=
  ⟨fun h a ha x hx => h x (List.mem_flatMap.mpr ⟨a, ha, hx⟩),
    fun h x hx => (List.mem_flatMap.mp hx).elim fun a ha => h a ha.1 x ha.2⟩

theorem runInsert_perm (c : Cmp) (e : Entry) (r : Run) : (runInsert c e r).Perm (e :: r) := by
  induction r with
  | nil => exact List.Perm.refl _
  | cons x xs ih =>
    simp only [runInsert]
    split
    · exact List.Perm.refl _
    · exact ((List.Perm.cons x ih).trans (List.Perm.swap e x xs))

theorem mem_runInsert {c : Cmp} {e y : Entry} {r : Run} : y ∈ runInsert c e r ↔ y = e ∨ y ∈ r :=
  (runInsert_perm c e r).mem_iff.trans List.mem_cons

theorem filter_runInsert_of_false {c : Cmp} (p : Entry → Bool) {e : Entry} (r : Run)
    (h : p e = false) : (runInsert c e r).filter p = r.filter p := by
  induction r with
  | nil => simp [runInsert, h]
  | cons x xs ih =>
    unfold runInsert
    split
    · simp [List.filter_cons, h]
    · simp [List.filter_cons, ih]

theorem runInsert_sorted {c : Cmp} {e : Entry} {r : Run} (hs : RunSorted c r)
    (h : ∀ x ∈ r, entryLt c e x = false → entryLt c x e = true) : RunSorted c (runInsert c e r) := by
  induction r with
  | nil => simp [runInsert, RunSorted]
  | cons x xs ih =>
    unfold RunSorted at hs
    rw [List.pairwise_cons] at hs
    unfold runInsert
    split
    · rename_i hlt
      unfold RunSorted
      rw [List.pairwise_cons, List.pairwise_cons]
      refine ⟨?_, hs⟩
      intro y hy
      rcases List.mem_cons.mp hy with rfl | hy'
      · exact hlt
      · exact Lsm.entryLt_trans c hlt (hs.1 y hy')
    · rename_i hnlt
      unfold RunSorted
      rw [List.pairwise_cons]
      refine ⟨?_, ih hs.2 (fun y hy => h y (List.mem_cons_of_mem _ hy))⟩
      intro y hy
      rcases mem_runInsert.mp hy with rfl | hy'
      · exact h x (by simp) (by simpa using hnlt)
      · exact hs.1 y hy'

/-- each entry has to be comparable with what was inserted before it -/
theorem foldl_runInsert_sorted {c : Cmp} {es : List Entry} {acc : Run} (hs : RunSorted c acc)
    (hp : es.Pairwise fun a e => entryLt c e a = false → entryLt c a e = true)
    (hx : ∀ a ∈ acc, ∀ e ∈ es, entryLt c e a = false → entryLt c a e = true) :
    RunSorted c (es.foldl (fun r e => runInsert c e r) acc) := by
  induction es generalizing acc with
  | nil => exact hs
  | cons e es ih =>
    rw [List.pairwise_cons] at hp
    refine ih (runInsert_sorted hs fun x hx' => hx x hx' e List.mem_cons_self) hp.2 fun a ha e' he' => ?_
    rcases mem_runInsert.mp ha with rfl | ha
    · exact hp.1 e' he'
    · exact hx a ha e' (List.mem_cons_of_mem _ he')

def opsEntries (seq : Nat) : List WOp → List Entry
  | [] => []
  | o :: os => { ukey := o.ukey, seq := seq, kind := o.kind, val := o.val } :: opsEntries (seq + 1) os

theorem mem_opsEntries {n : Nat} {ops : List WOp} {e : Entry} (h : e ∈ opsEntries n ops) :
    n ≤ e.seq ∧ e.seq < n + ops.length ∧ ∃ o ∈ ops, e.kind = o.kind := by
  induction ops generalizing n with
  | nil => cases h
  | cons o os ih =>
    rw [List.length_cons]
    rcases List.mem_cons.mp h with rfl | h'
    · exact ⟨Nat.le_refl _, Nat.lt_add_of_pos_right (Nat.succ_pos _), o, List.mem_cons_self, rfl⟩
    · have := ih h'
      refine ⟨by omega, by omega, ?_⟩
      obtain ⟨o', ho', hk⟩ := this.2.2
      exact ⟨o', List.mem_cons_of_mem _ ho', hk⟩

theorem opsEntries_pairwise (n : Nat) (ops : List WOp) :
    (opsEntries n ops).Pairwise fun a b => a.seq < b.seq := by
  induction ops generalizing n with
  | nil => exact .nil
  | cons o os ih => exact List.pairwise_cons.mpr ⟨fun e he => (mem_opsEntries he).1, ih _⟩

theorem opsEntries_seq_inj {n : Nat} {ops : List WOp} {x y : Entry} (hx : x ∈ opsEntries n ops)
    (hy : y ∈ opsEntries n ops) (h : x.seq = y.seq) : x = y := by
  rcases pairwise_rel_or_of_mem (opsEntries_pairwise n ops) hx hy with rfl | hlt | hlt
  · rfl
  · exact absurd h (Nat.ne_of_lt hlt)
  · exact absurd h.symm (Nat.ne_of_lt hlt)

theorem applyOps_eq_foldl (c : Cmp) (mem : Run) (n : Nat) (ops : List WOp) :
    applyOps c mem n ops = (opsEntries n ops).foldl (fun r e => runInsert c e r) mem := by
  induction ops generalizing mem n with
  | nil => rfl
  | cons o os ih => exact ih _ _

theorem mem_applyOps {c : Cmp} {mem : Run} {n : Nat} {ops : List WOp} {y : Entry} :
    y ∈ applyOps c mem n ops ↔ y ∈ mem ∨ y ∈ opsEntries n ops := by
  rw [applyOps_eq_foldl, (foldl_insert_perm (runInsert_perm c) _ mem).mem_iff, List.mem_append]

theorem filter_applyOps_of_false {c : Cmp} (p : Entry → Bool) (mem : Run) (n : Nat) (ops : List WOp)
    (h : ∀ e ∈ opsEntries n ops, p e = false) : (applyOps c mem n ops).filter p = mem.filter p :=
  applyOps_eq_foldl c mem n ops ▸
    List.foldlRecOn (motive := fun r => r.filter p = mem.filter p) _ _ rfl fun r ih e he =>
      (filter_runInsert_of_false p r (h e he)).trans ih

theorem entryLt_of_not_of_seq_gt {c : Cmp} {e x : Entry} (hseq : x.seq < e.seq) (hk : x.kind ≤ 1)
    (h : entryLt c e x = false) : entryLt c x e = true := by
  rcases Lsm.entryLt_trichotomy c e x with h' | ⟨_, hp⟩ | h'
  · rw [h'] at h; cases h
  · unfold Entry.packed at hp
    omega
  · exact h'

theorem applyOps_sorted {c : Cmp} {mem : Run} {n : Nat} {ops : List WOp} (hs : RunSorted c mem)
    (hm : ∀ x ∈ mem, x.seq < n ∧ x.kind ≤ 1) (ho : ∀ o ∈ ops, o.kind ≤ 1) :
    RunSorted c (applyOps c mem n ops) := by
  rw [applyOps_eq_foldl]
  refine foldl_runInsert_sorted hs ((opsEntries_pairwise n ops).imp_of_mem fun ha _ hlt => ?_)
    fun a ha e he =>
      entryLt_of_not_of_seq_gt (Nat.lt_of_lt_of_le (hm a ha).1 (mem_opsEntries he).1) (hm a ha).2
  obtain ⟨o, ho', hko⟩ := (mem_opsEntries ha).2.2
  exact entryLt_of_not_of_seq_gt hlt (hko ▸ ho o ho')

theorem inserted_runInsert (c : Cmp) (e : Entry) (mem rest : List Entry) :
    Inserted e (mem ++ rest) (runInsert c e mem ++ rest) where
  mem := List.mem_append.mpr (.inl (mem_runInsert.mpr (.inl rfl)))
  sub := fun x hx => by simpa [mem_runInsert, or_assoc] using hx
  filt := by
    intro p hp
    rw [List.filter_append, List.filter_append, filter_runInsert_of_false p mem hp]

/-- the map a batch applies to the answer for key `k`: the last operation on `k` decides -/
def applyOpsView (c : Cmp) (k : Bytes) : List WOp → Option String → Option String
  | [], v => v
  | o :: os, v =>
    applyOpsView c k os
      (if c.compare o.ukey k = .eq then (if o.kind == 1 then some o.val else none) else v)

theorem view_applyOps (c : Cmp) (mem rest : List Entry) (n : Nat) (ops : List WOp) (k : Bytes)
    (hb : ∀ x ∈ mem ++ rest, x.seq ≤ n) :
    view c (applyOps c mem (n + 1) ops ++ rest) k (n + ops.length) =
      applyOpsView c k ops (view c (mem ++ rest) k n) := by
  induction ops generalizing mem n with
  | nil => rfl
  | cons o os ih =>
    have hI := inserted_runInsert c { ukey := o.ukey, seq := n + 1, kind := o.kind, val := o.val } mem rest
    rw [applyOps, applyOpsView, List.length_cons, ← Nat.add_assoc, Nat.add_right_comm n os.length 1,
      ih _ (n + 1) (hI.bound hb (Nat.le_refl _)), view_inserted hI hb rfl k]
    rfl

theorem allEntries_write (c : Cmp) (st : DbState) (ops : List WOp) :
    allEntries (applyStep c st (.write ops)) =
      applyOps c st.mem (st.lastSeq + 1) ops ++ (st.imm.getD [] ++ (allFiles st).flatMap (·.run)) := by
  simp [allEntries, applyStep, allFiles]

theorem allEntries_eq_mem_append (st : DbState) :
    allEntries st = st.mem ++ (st.imm.getD [] ++ (allFiles st).flatMap (·.run)) := by
  simp [allEntries]

/-- only the bound on the sequence numbers is needed, not `Inv`: the state right after repair
    (`Props/C19`) need not satisfy `Inv` -/
theorem view_write (c : Cmp) (st : DbState) (ops : List WOp) (k : Bytes)
    (hb : ∀ x ∈ allEntries st, x.seq ≤ st.lastSeq) :
    view c (allEntries (applyStep c st (.write ops))) k (st.lastSeq + ops.length) =
      applyOpsView c k ops (view c (allEntries st) k st.lastSeq) := by
  rw [allEntries_write, allEntries_eq_mem_append st]
  exact view_applyOps c _ _ _ ops k (allEntries_eq_mem_append st ▸ hb)

theorem view_append_opsEntries (c : Cmp) (H : List Entry) (n : Nat) (ops : List WOp) (k : Bytes)
    (hb : ∀ x ∈ H, x.seq ≤ n) :
    view c (H ++ opsEntries (n + 1) ops) k (n + ops.length) =
      applyOpsView c k ops (view c H k n) := by
  induction ops generalizing H n with
  | nil => rw [opsEntries, List.append_nil]; rfl
  | cons o os ih =>
    have hI := inserted_append { ukey := o.ukey, seq := n + 1, kind := o.kind, val := o.val } H
    rw [opsEntries, applyOpsView, List.length_cons, ← Nat.add_assoc, Nat.add_right_comm n os.length 1,
      List.append_cons, ih _ (n + 1) (hI.bound hb (Nat.le_refl _)), view_inserted hI hb rfl k]
    rfl

theorem level_setLevel {st : DbState} {l : Nat} {fs : List FileMeta} {i : Nat} :
    (setLevel st l fs).level i = if i = l ∧ l < st.levels.length then fs else st.level i := by
  simp only [DbState.level, setLevel, List.getD_eq_getElem?_getD, List.getElem?_set]
  by_cases h : l = i
  · subst h
    by_cases h2 : l < st.levels.length
    · simp [h2]
    · simp [h2]
  · have : ¬ i = l := fun h' => h h'.symm
    simp [h, this]

theorem levels_length_setLevel {st : DbState} {l : Nat} {fs : List FileMeta} :
    (setLevel st l fs).levels.length = st.levels.length := by
  simp [setLevel]

theorem mem_allEntries {st : DbState} {e : Entry} :
    e ∈ allEntries st ↔ e ∈ st.mem ∨ (∃ r ∈ st.imm, e ∈ r) ∨ ∃ f ∈ allFiles st, e ∈ f.run := by
  unfold allEntries
  simp only [List.mem_append, List.mem_flatMap, or_assoc]
  cases st.imm <;>
    simp only [Option.getD_none, Option.getD_some, List.not_mem_nil, false_or, Option.mem_def, reduceCtorEq,
      false_and, exists_const, Option.some.injEq, exists_eq_left']

/-- `KeyNoTies` (`Lemmas/Newest`) for the entries of a state, phrased with the comparator -/
def NoSeqTies (c : Cmp) (st : DbState) : Prop :=
  ∀ x ∈ allEntries st, ∀ y ∈ allEntries st, c.compare x.ukey y.ukey = .eq → x.seq = y.seq → x = y

instance (c : Cmp) (st : DbState) : Decidable (NoSeqTies c st) := by unfold NoSeqTies; infer_instance

theorem NoSeqTies.keyNoTies {c : Cmp} {st : DbState} (h : NoSeqTies c st) :
    KeyNoTies (allEntries st) :=
  fun x hx y hy hk hs => h x hx y hy ((CmpBasic.compare_eq_iff c _ _).mpr hk) hs

theorem NoSeqTies.of_subset {c : Cmp} {st st' : DbState} (h : NoSeqTies c st)
    (hsub : ∀ e ∈ allEntries st', e ∈ allEntries st) : NoSeqTies c st' :=
  fun x hx y hy hk hs => h x (hsub x hx) y (hsub y hy) hk hs

theorem NoSeqTies.of_old_new {c : Cmp} {st st' : DbState} {new : List Entry} (hnt : NoSeqTies c st)
    (hcov : ∀ e ∈ allEntries st', e ∈ allEntries st ∨ e ∈ new)
    (hnew : ∀ x ∈ new, ∀ y ∈ new, c.compare x.ukey y.ukey = .eq → x.seq = y.seq → x = y)
    (habove : ∀ x ∈ new, ∀ y ∈ allEntries st, c.compare x.ukey y.ukey = .eq → y.seq < x.seq) :
    NoSeqTies c st' := by
  intro x hx y hy hk hs
  rcases hcov x hx with hx' | hx' <;> rcases hcov y hy with hy' | hy'
  · exact hnt x hx' y hy' hk hs
  · have := habove y hy' x hx' (by rw [CmpBasic.compare_swap c x.ukey y.ukey, hk]; rfl)
    omega
  · have := habove x hx' y hy' hk
    omega
  · exact hnew x hx' y hy' hk hs

/-- `Inv.recency` clause by clause: `Pairwise NewerThan` along `sourceRuns` (memory, immutable
    memory, level 0 by descending file number, deeper levels) without the `mergeSort` -/
structure Rec (c : Cmp) (st : DbState) : Prop where
  memImm : ∀ r ∈ st.imm, NewerThan c st.mem r
  memFiles : ∀ f ∈ allFiles st, NewerThan c st.mem f.run
  immFiles : ∀ r ∈ st.imm, ∀ f ∈ allFiles st, NewerThan c r f.run
  l0 : ∀ a ∈ st.level 0, ∀ b ∈ st.level 0, a.num > b.num → NewerThan c a.run b.run
  levels : ∀ i j, i < j → ∀ a ∈ st.level i, ∀ b ∈ st.level j, NewerThan c a.run b.run

/-- `Inv.numsDistinct` level by level -/
structure NumsRel (st : DbState) : Prop where
  within : ∀ l, (st.level l).Pairwise (fun f g => f.num ≠ g.num)
  across : ∀ i j, i < j → ∀ a ∈ st.level i, ∀ b ∈ st.level j, a.num ≠ b.num

theorem numsRel_iff {st : DbState} :
    (allFiles st).Pairwise (fun f g => f.num ≠ g.num) ↔ NumsRel st := by
  unfold allFiles
  have hg := pairwise_getD_iff (Q := fun (l₁ l₂ : List FileMeta) => ∀ x ∈ l₁, ∀ y ∈ l₂, x.num ≠ y.num)
      (by intro A x _ y hy; cases hy) st.levels
  rw [List.pairwise_flatten, hg]
  constructor
  · rintro ⟨h1, h2⟩
    refine ⟨?_, h2⟩
    intro l
    by_cases hl : l < st.levels.length
    · rw [level_eq_getElem hl]; exact h1 _ (List.getElem_mem hl)
    · rw [Lsm.level_eq_nil_of_ge (by omega)]; exact List.Pairwise.nil
  · rintro ⟨h1, h2⟩
    refine ⟨?_, h2⟩
    intro L hL
    obtain ⟨i, hi, rfl⟩ := List.mem_iff_getElem.mp hL
    rw [← level_eq_getElem hi]; exact h1 i

theorem l0_pairwise_iff (c : Cmp) (l : List FileMeta) (hd : l.Pairwise (fun f g => f.num ≠ g.num)) :
    ((l.mergeSort (fun a b => decide (a.num ≥ b.num))).map (·.run)).Pairwise (NewerThan c) ↔
      ∀ a ∈ l, ∀ b ∈ l, a.num > b.num → NewerThan c a.run b.run := by
  rw [List.pairwise_map]
  have hperm := List.mergeSort_perm l (fun a b => decide (a.num ≥ b.num))
  have hsorted : (l.mergeSort (fun a b => decide (a.num ≥ b.num))).Pairwise (fun a b => a.num > b.num) := by
    refine ((List.pairwise_mergeSort Lsm.numGe_trans Lsm.numGe_total l).and
      ((hperm.pairwise_iff (fun h => Ne.symm h)).mpr hd)).imp ?_
    intro a b ⟨h, h'⟩
    have := of_decide_eq_true h
    omega
  constructor
  · intro h a ha b hb hab
    rcases pairwise_rel_or_of_mem (hsorted.and h) (hperm.mem_iff.mpr ha) (hperm.mem_iff.mpr hb) with
      rfl | h' | h'
    · omega
    · exact h'.2
    · omega
  · intro h
    exact hsorted.imp_of_mem (fun ha hb hab => h _ (hperm.mem_iff.mp ha) _ (hperm.mem_iff.mp hb) hab)

/-- `sourceRuns` uses `mergeSort`, which `decide` cannot unfold, so concrete examples go through the
    right-hand side -/
theorem forall_mem_sourceRuns (st : DbState) (P : Run → Prop)
    (hP : ∀ B : List FileMeta, P (B.flatMap (·.run)) ↔ ∀ b ∈ B, P b.run) :
    (∀ r ∈ sourceRuns st, P r) ↔ P st.mem ∧ (∀ r ∈ st.imm, P r) ∧ ∀ f ∈ allFiles st, P f.run := by
  unfold sourceRuns
  simp only [Lsm.allFiles_eq, List.mem_append, List.mem_singleton, Option.mem_toList, List.forall_mem_map,
    List.mem_mergeSort, List.mem_flatten, or_imp, forall_and, forall_eq, forall_exists_index, and_imp, hP,
    Option.mem_def]
  exact ⟨fun ⟨⟨⟨h1, h2⟩, h3⟩, h4⟩ => ⟨h1, h2, h3, fun f B hB hf => h4 B hB f hf⟩,
    fun ⟨h1, h2, h3, h4⟩ => ⟨⟨⟨h1, h2⟩, h3⟩, fun B hB f hf => h4 f B hB hf⟩⟩

theorem rec_iff (c : Cmp) (st : DbState) : Rec c st ↔
    (∀ r ∈ st.imm, NewerThan c st.mem r) ∧ (∀ f ∈ allFiles st, NewerThan c st.mem f.run) ∧
    (∀ r ∈ st.imm, ∀ f ∈ allFiles st, NewerThan c r f.run) ∧
    (∀ a ∈ st.level 0, ∀ b ∈ st.level 0, a.num > b.num → NewerThan c a.run b.run) ∧
    (∀ i j, i < j → ∀ a ∈ st.level i, ∀ b ∈ st.level j, NewerThan c a.run b.run) :=
  ⟨fun h => ⟨h.1, h.2, h.3, h.4, h.5⟩, fun ⟨h1, h2, h3, h4, h5⟩ => ⟨h1, h2, h3, h4, h5⟩⟩

/-- `sourceRuns` is memory, immutable memory, then level 0 newest first, then the deeper levels:
    `Pairwise` over it splits into the five clauses of `Rec`.  Both sides are stated over level 0 and
    the list of deeper levels; the rest is regrouping. -/
theorem recency_iff (c : Cmp) (st : DbState)
    (hd : (st.level 0).Pairwise (fun f g => f.num ≠ g.num)) :
    (sourceRuns st).Pairwise (NewerThan c) ↔ Rec c st := by
  have hlev : (∀ i j, i < j → ∀ a ∈ st.level i, ∀ b ∈ st.level j, NewerThan c a.run b.run) ↔
      (∀ B ∈ st.levels.drop 1, ∀ a ∈ st.level 0, ∀ b ∈ B, NewerThan c a.run b.run) ∧
        (st.levels.drop 1).Pairwise fun A B => ∀ a ∈ A, ∀ b ∈ B, NewerThan c a.run b.run := by
    refine (pairwise_getD_iff (Q := fun (A B : List FileMeta) => ∀ a ∈ A, ∀ b ∈ B, NewerThan c a.run b.run)
      (fun A a _ b hb => nomatch hb) st.levels).symm.trans ?_
    unfold DbState.level
    cases st.levels <;>
      simp only [List.pairwise_cons, List.Pairwise.nil, List.drop_succ_cons, List.drop_zero, List.drop_nil,
        List.getD_cons_zero, List.not_mem_nil, false_imp_iff, implies_true, and_self]
  have hPI : st.imm.toList.Pairwise (NewerThan c) := by
    cases st.imm with
    | none => exact .nil
    | some r => exact List.pairwise_singleton _ _
  rw [rec_iff, ← l0_pairwise_iff c (st.level 0) hd, hlev]
  unfold sourceRuns
  simp only [Lsm.allFiles_eq, List.pairwise_append, List.pairwise_cons, List.pairwise_map, newerThan_flatMap_left,
    newerThan_flatMap_right, List.mem_mergeSort, List.mem_flatten, List.mem_singleton, List.mem_append,
    Option.mem_toList, forall_eq, List.not_mem_nil, false_imp_iff, implies_true, List.Pairwise.nil,
    true_and, or_imp, forall_and, forall_exists_index, and_imp, List.forall_mem_map, Option.mem_def]
  constructor
  · rintro ⟨⟨⟨_, hMI⟩, hL0, hMA, hIA⟩, hD, ⟨hMR, hIR⟩, hAR⟩
    exact ⟨hMI, ⟨hMA, fun f B hB hf => hMR B hB f hf⟩,
      ⟨hIA, fun r hr f B hB hf => hIR r hr B hB f hf⟩, hL0,
      fun B hB a ha b hb => hAR a ha B hB b hb, hD.imp fun h a ha b hb => h b hb a ha⟩
  · rintro ⟨hMI, ⟨hMA, hMR⟩, ⟨hIA, hIR⟩, hL0, hAR, hD⟩
    exact ⟨⟨⟨hPI, hMI⟩, hL0, hMA, hIA⟩, hD.imp fun h b hb a ha => h a ha b hb,
      ⟨fun B hB f hf => hMR f B hB hf, fun r hr B hB f hf => hIR r hr f B hB hf⟩,
      fun a ha B hB b hb => hAR B hB a ha b hb⟩

theorem Inv.numsRel {c : Cmp} {st : DbState} (h : Inv c st) : NumsRel st :=
  numsRel_iff.mp h.numsDistinct

theorem Inv.toRec {c : Cmp} {st : DbState} (h : Inv c st) : Rec c st :=
  (recency_iff c st (h.numsRel.within 0)).mp h.recency

theorem Inv.ofRel {c : Cmp} {st : DbState}
    (nlevels : st.levels.length = 7)
    (memSorted : RunSorted c st.mem)
    (immSorted : ∀ r ∈ st.imm, RunSorted c r)
    (filesOk : ∀ f ∈ allFiles st, FileOk c f)
    (levelsSorted : ∀ l, 1 ≤ l → LevelSorted c (st.level l))
    (rec : Rec c st)
    (entries : ∀ e ∈ allEntries st, e.seq ≤ st.lastSeq ∧ e.kind ≤ 1)
    (nums : NumsRel st)
    (numsBound : ∀ f ∈ allFiles st, f.num < st.nextFile)
    (snapsBound : ∀ s ∈ st.snaps, s ≤ st.lastSeq) : Inv c st where
  nlevels := nlevels
  memSorted := memSorted
  immSorted := immSorted
  filesOk := filesOk
  levelsSorted := levelsSorted
  recency := (recency_iff c st (nums.within 0)).mpr rec
  seqBound := fun e he => (entries e he).1
  kinds := fun e he => (entries e he).2
  numsDistinct := numsRel_iff.mpr nums
  numsBound := numsBound
  snapsBound := snapsBound

theorem Inv.lt_length {c : Cmp} {st : DbState} (h : Inv c st) {l : Nat} (hl : l < 7) :
    l < st.levels.length := h.nlevels ▸ hl

theorem Inv.entry_bounds {c : Cmp} {st : DbState} (h : Inv c st) {e : Entry} (he : e ∈ allEntries st) :
    e.seq ≤ st.lastSeq ∧ e.kind ≤ 1 := ⟨h.seqBound e he, h.kinds e he⟩

theorem Inv.of_levels_eq {c : Cmp} {st st' : DbState} (h : Inv c st) (hlev : st'.levels = st.levels)
    (memSorted : RunSorted c st'.mem) (immSorted : ∀ r ∈ st'.imm, RunSorted c r)
    (memImm : ∀ r ∈ st'.imm, NewerThan c st'.mem r)
    (memFiles : ∀ f ∈ allFiles st, NewerThan c st'.mem f.run)
    (immFiles : ∀ r ∈ st'.imm, ∀ f ∈ allFiles st, NewerThan c r f.run)
    (memBound : ∀ e ∈ st'.mem, e.seq ≤ st'.lastSeq ∧ e.kind ≤ 1)
    (immBound : ∀ r ∈ st'.imm, ∀ e ∈ r, e.seq ≤ st'.lastSeq ∧ e.kind ≤ 1)
    (hseq : st.lastSeq ≤ st'.lastSeq) (hnf : st.nextFile ≤ st'.nextFile)
    (snapsBound : ∀ s ∈ st'.snaps, s ≤ st'.lastSeq) : Inv c st' := by
  obtain ⟨mem', imm', levels', lastSeq', snaps', nextFile'⟩ := st'
  dsimp only at hlev
  subst hlev
  have hR := h.toRec
  have hN := h.numsRel
  have hent : ∀ e ∈ allEntries ⟨mem', imm', st.levels, lastSeq', snaps', nextFile'⟩,
      e.seq ≤ lastSeq' ∧ e.kind ≤ 1 := by
    intro e he
    rcases mem_allEntries.mp he with he | ⟨r, hr, he⟩ | he
    · exact memBound e he
    · exact immBound r hr e he
    · have := h.entry_bounds (mem_allEntries.mpr (.inr (.inr he)))
      exact ⟨Nat.le_trans this.1 hseq, this.2⟩
  exact Inv.ofRel h.nlevels memSorted immSorted h.filesOk h.levelsSorted
    ⟨memImm, memFiles, immFiles, hR.l0, hR.levels⟩ hent ⟨hN.within, hN.across⟩
    (fun f hf => Nat.lt_of_lt_of_le (h.numsBound f hf) hnf) snapsBound

theorem NumsRel.level_unique {st : DbState} (h : NumsRel st) {g : FileMeta} {i j : Nat}
    (hi : g ∈ st.level i) (hj : g ∈ st.level j) : i = j := by
  rcases Nat.lt_trichotomy i j with hlt | heq | hgt
  · exact absurd rfl (h.across i j hlt g hi g hj)
  · exact heq
  · exact absurd rfl (h.across j i hgt g hj g hi)

/-- `Inv` in a form `decide` can evaluate: no `mergeSort`, bounded quantifiers -/
def InvRel (c : Cmp) (st : DbState) : Prop :=
  st.levels.length = 7 ∧ RunSorted c st.mem ∧ (∀ r ∈ st.imm, RunSorted c r) ∧
  (∀ f ∈ allFiles st, FileOk c f) ∧
  (∀ l ∈ List.range 7, 1 ≤ l → LevelSorted c (st.level l)) ∧
  (∀ r ∈ st.imm, NewerThan c st.mem r) ∧
  (∀ f ∈ allFiles st, NewerThan c st.mem f.run) ∧
  (∀ r ∈ st.imm, ∀ f ∈ allFiles st, NewerThan c r f.run) ∧
  (∀ a ∈ st.level 0, ∀ b ∈ st.level 0, a.num > b.num → NewerThan c a.run b.run) ∧
  (∀ i ∈ List.range 7, ∀ j ∈ List.range 7, i < j →
    ∀ a ∈ st.level i, ∀ b ∈ st.level j, NewerThan c a.run b.run) ∧
  (∀ e ∈ allEntries st, e.seq ≤ st.lastSeq) ∧ (∀ e ∈ allEntries st, e.kind ≤ 1) ∧
  (allFiles st).Pairwise (fun f g => f.num ≠ g.num) ∧
  (∀ f ∈ allFiles st, f.num < st.nextFile) ∧ (∀ s ∈ st.snaps, s ≤ st.lastSeq)

instance (c : Cmp) (st : DbState) : Decidable (InvRel c st) := by
  unfold InvRel; infer_instance

theorem inv_of_invRel {c : Cmp} {st : DbState} (h : InvRel c st) : Inv c st := by
  obtain ⟨h1, h2, h3, h4, h5, h6, h7, h8, h9, h10, h11, h12, h13, h14, h15⟩ := h
  apply Inv.ofRel h1 h2 h3 h4 (Lsm.levelsSorted_of_range h1 h5) _ (fun e he => ⟨h11 e he, h12 e he⟩) (numsRel_iff.mp h13) h14 h15
  refine ⟨h6, h7, h8, h9, ?_⟩
  intro i j hij a ha b hb
  have hj : j < 7 := by
    have := lt_length_of_mem_level hb; omega
  exact h10 i (List.mem_range.mpr (by omega)) j (List.mem_range.mpr hj) hij a ha b hb

theorem invRel_of_inv {c : Cmp} {st : DbState} (h : Inv c st) : InvRel c st :=
  have hR := h.toRec
  ⟨h.nlevels, h.memSorted, h.immSorted, h.filesOk, fun l _ hl => h.levelsSorted l hl, hR.memImm,
    hR.memFiles, hR.immFiles, hR.l0, fun i _ j _ hij => hR.levels i j hij, h.seqBound, h.kinds,
    h.numsDistinct, h.numsBound, h.snapsBound⟩

theorem insertSorted_perm (c : Cmp) (f : FileMeta) (l : List FileMeta) :
    (insertSorted c f l).Perm (f :: l) := by
  induction l with
  | nil => simp [insertSorted]
  | cons x xs ih =>
    unfold insertSorted
    split
    · exact List.Perm.refl _
    · exact (List.Perm.cons x ih).trans (List.Perm.swap f x xs)

theorem mem_insertSorted {c : Cmp} {f g : FileMeta} {l : List FileMeta} :
    g ∈ insertSorted c f l ↔ g = f ∨ g ∈ l :=
  (insertSorted_perm c f l).mem_iff.trans List.mem_cons

theorem addFiles_perm (c : Cmp) (lv : Nat) (l new : List FileMeta) :
    (addFiles c lv l new).Perm (l ++ new) :=
  foldl_insert_perm (insertSorted_perm c) new l

theorem mem_addFiles {c : Cmp} {lv : Nat} {l new : List FileMeta} {g : FileMeta} :
    g ∈ addFiles c lv l new ↔ g ∈ l ∨ g ∈ new := by
  rw [(addFiles_perm c lv l new).mem_iff, List.mem_append]

theorem addFiles_singleton (c : Cmp) (lv : Nat) (l : List FileMeta) (f : FileMeta) :
    addFiles c lv l [f] = insertSorted c f l := rfl

theorem mem_removeNums {l : List FileMeta} {nums : List Nat} {g : FileMeta} :
    g ∈ removeNums l nums ↔ g ∈ l ∧ g.num ∉ nums := by
  simp [removeNums]

theorem mem_pickNums {l : List FileMeta} {nums : List Nat} {g : FileMeta} :
    g ∈ pickNums l nums ↔ g ∈ l ∧ g.num ∈ nums := by
  simp [pickNums]

def Apart (c : Cmp) (f g : FileMeta) : Prop :=
  ikLt c g.lk g.lp f.sk f.sp = true ∨ ikLt c f.lk f.lp g.sk g.sp = true

theorem insertSorted_apart {c : Cmp} {f : FileMeta} {l : List FileMeta}
    (hs : LevelSorted c l) (hf : ikLt c f.lk f.lp f.sk f.sp = false)
    (hl : ∀ g ∈ l, ikLt c g.lk g.lp g.sk g.sp = false)
    (hap : ∀ g ∈ l, Apart c f g) : LevelSorted c (insertSorted c f l) := by
  induction l with
  | nil => exact List.pairwise_singleton _ _
  | cons g gs ih =>
    unfold LevelSorted at hs
    rw [List.pairwise_cons] at hs
    unfold insertSorted
    split
    · rename_i hlt
      unfold LevelSorted
      rw [List.pairwise_cons, List.pairwise_cons]
      refine ⟨?_, hs⟩
      intro h hh
      rcases hap h hh with h1 | h1
      · exfalso
        -- h.smallest ≤ h.largest < f.smallest < g.smallest ≤ h.smallest
        have a1 : ikLt c h.sk h.sp f.sk f.sp = true := Lsm.ikLt_of_not_lt_of_lt c (hl h hh) h1
        have a2 : ikLt c h.sk h.sp g.sk g.sp = true := Lsm.ikLt_trans c a1 hlt
        rcases List.mem_cons.mp hh with rfl | hh'
        · rw [Lsm.ikLt_irrefl] at a2; cases a2
        · have a3 : ikLt c g.sk g.sp h.sk h.sp = true :=
            Lsm.ikLt_of_not_lt_of_lt c (hl g List.mem_cons_self) (hs.1 h hh')
          exact absurd a3 (Bool.eq_false_iff.mp (Lsm.ikLt_asymm c a2))
      · exact h1
    · rename_i hnlt
      unfold LevelSorted
      rw [List.pairwise_cons]
      refine ⟨?_, ih hs.2 (fun g' hg' => hl g' (List.mem_cons_of_mem _ hg'))
        (fun g' hg' => hap g' (List.mem_cons_of_mem _ hg'))⟩
      intro h hh
      rcases mem_insertSorted.mp hh with rfl | hh'
      · rcases hap g List.mem_cons_self with h1 | h1
        · exact h1
        · exfalso
          exact hnlt (Lsm.ikLt_of_not_lt_of_lt c hf h1)
      · exact hs.1 h hh'

theorem addFiles_apart {c : Cmp} (lv : Nat) (outs acc : List FileMeta) (hs : LevelSorted c acc)
    (hbacc : ∀ g ∈ acc, ikLt c g.lk g.lp g.sk g.sp = false)
    (hbouts : ∀ f ∈ outs, ikLt c f.lk f.lp f.sk f.sp = false)
    (hpo : outs.Pairwise (fun f g => ikLt c f.lk f.lp g.sk g.sp = true))
    (hap : ∀ f ∈ outs, ∀ g ∈ acc, Apart c f g) :
    LevelSorted c (addFiles c lv acc outs) := by
  unfold addFiles
  induction outs generalizing acc with
  | nil => exact hs
  | cons f fs ih =>
    simp only [List.foldl_cons]
    have hpo' := List.pairwise_cons.mp hpo
    apply ih
    · exact insertSorted_apart hs (hbouts f List.mem_cons_self) hbacc (hap f List.mem_cons_self)
    · intro g hg
      rcases mem_insertSorted.mp hg with rfl | hg
      · exact hbouts g List.mem_cons_self
      · exact hbacc g hg
    · exact fun f' hf' => hbouts f' (List.mem_cons_of_mem _ hf')
    · exact hpo'.2
    · intro f' hf' g hg
      rcases mem_insertSorted.mp hg with rfl | hg
      · exact .inl (hpo'.1 f' hf')
      · exact hap f' (List.mem_cons_of_mem _ hf') g hg

theorem insertSorted_levelSorted {c : Cmp} {f : FileMeta} {l : List FileMeta}
    (hs : LevelSorted c l) (hf : FileOk c f) (hl : ∀ g ∈ l, FileOk c g)
    (hno : ∀ g ∈ l, userRangesOverlap c f g = false) : LevelSorted c (insertSorted c f l) :=
  insertSorted_apart hs (Lsm.fileOk_boundsOk hf) (fun g hg => Lsm.fileOk_boundsOk (hl g hg))
    fun g hg => (Lsm.userRangesOverlap_false_iff.mp (hno g hg)).symm.imp Lsm.ikLt_of_ult Lsm.ikLt_of_ult

theorem smallestProtected_le (st : DbState) : ∀ s ∈ protectedSeqs st, smallestProtected st ≤ s :=
  fun s hs => (foldl_min_least _ st.lastSeq).2 s (List.mem_cons_of_mem _ hs)

theorem smallestProtected_mem (st : DbState) : smallestProtected st ∈ protectedSeqs st := by
  unfold smallestProtected
  rcases List.mem_cons.mp (foldl_min_least (protectedSeqs st) st.lastSeq).1 with h | h
  · rw [h]; simp [protectedSeqs]
  · exact h

theorem keyInDeeperLevels_of_mem {c : Cmp} {st : DbState} {level i : Nat} {g : FileMeta} {e : Entry}
    {k : Bytes} (hi : level < i) (hg : g ∈ st.level i) (he : e ∈ g.run) (hk : e.ukey = k) :
    keyInDeeperLevels c st level k = true := by
  have hl := lt_length_of_mem_level hg
  have hmem : st.level i ∈ st.levels.drop (level + 1) := by
    obtain ⟨d, rfl⟩ : ∃ d, i = level + 1 + d := ⟨i - (level + 1), by omega⟩
    rw [level_eq_getElem hl]
    exact List.mem_drop_iff_getElem.mpr ⟨d, by omega, rfl⟩
  have hkey : (c.compare e.ukey k == .eq) = true := by rw [hk, CmpBasic.compare_refl]; rfl
  unfold keyInDeeperLevels
  exact List.any_eq_true.mpr ⟨_, hmem, List.any_eq_true.mpr ⟨g, hg, List.any_eq_true.mpr ⟨e, he, hkey⟩⟩⟩

def emptyState : DbState :=
  { mem := [], imm := none, levels := List.replicate 7 [], lastSeq := 0, snaps := [], nextFile := 0 }

def runSteps (c : Cmp) (st : DbState) : List Step → DbState
  | [] => st
  | s :: ss => runSteps c (applyStep c st s) ss

def StepsOk (c : Cmp) (st : DbState) : List Step → Prop
  | [] => True
  | s :: ss => stepOk c st s ∧ StepsOk c (applyStep c st s) ss

instance decStepsOk (c : Cmp) : (st : DbState) → (steps : List Step) → Decidable (StepsOk c st steps)
  | _, [] => isTrue trivial
  | st, s :: ss =>
    have := decStepsOk c (applyStep c st s) ss
    inferInstanceAs (Decidable (stepOk c st s ∧ StepsOk c (applyStep c st s) ss))

/-- every step that is neither a client write nor recovery: the engine's own steps and snapshot
    bookkeeping; none of them changes `lastSeq` or adds an entry -/
def Step.isBackground : Step → Bool
  | .switchMem => true
  | .flush _ _ => true
  | .dropImm => true
  | .compact _ _ _ _ => true
  | .snapshot => true
  | .release _ => true
  | .bumpNextFile _ => true
  | _ => false

def Step.isAddL0 : Step → Bool
  | .addL0 _ => true
  | _ => false

/-- the plain log of all writes of a run started at `lastSeq = n`, with the sequence numbers
    `applyStep` assigns -/
def historyOf : Nat → List Step → List Entry
  | _, [] => []
  | n, .write ops :: ss => opsEntries (n + 1) ops ++ historyOf (n + ops.length) ss
  | n, _ :: ss => historyOf n ss

abbrev compactIns (st : DbState) (level : Nat) (in0 in1 : List Nat) : List Entry :=
  (pickNums (st.level level) in0 ++ pickNums (st.level (level + 1)) in1).flatMap (·.run)

theorem mem_compactIns {st : DbState} {level : Nat} {in0 in1 : List Nat} {e : Entry} :
    e ∈ compactIns st level in0 in1 ↔
      ∃ g, ((g ∈ st.level level ∧ g.num ∈ in0) ∨ (g ∈ st.level (level + 1) ∧ g.num ∈ in1)) ∧ e ∈ g.run := by
  simp only [compactIns, List.mem_flatMap, List.mem_append, mem_pickNums]

theorem mem_allFiles_of_picked {st : DbState} {level : Nat} {in0 in1 : List Nat} {g : FileMeta}
    (hg : g ∈ pickNums (st.level level) in0 ++ pickNums (st.level (level + 1)) in1) : g ∈ allFiles st :=
  (List.mem_append.mp hg).elim (fun h => mem_allFiles.mpr ⟨_, (mem_pickNums.mp h).1⟩)
    (fun h => mem_allFiles.mpr ⟨_, (mem_pickNums.mp h).1⟩)

theorem compactIns_sub {st : DbState} {level : Nat} {in0 in1 : List Nat} {e : Entry}
    (he : e ∈ compactIns st level in0 in1) : e ∈ allEntries st := by
  obtain ⟨g, hg, heg⟩ := List.mem_flatMap.mp he
  exact mem_allEntries.mpr (.inr (.inr ⟨g, mem_allFiles_of_picked hg, heg⟩))

/-- installing one new table `f` at level `l` (flush and recovery share this shape) -/
def addFileState (c : Cmp) (st : DbState) (l : Nat) (f : FileMeta) (imm' : Option Run) (nf' : Nat) :
    DbState :=
  { setLevel st l (addFiles c l (st.level l) [f]) with imm := imm', nextFile := nf' }

theorem level_addFileState (c : Cmp) (st : DbState) (l : Nat) (f : FileMeta) (imm' : Option Run)
    (nf' : Nat) (hl : l < st.levels.length) (i : Nat) :
    (addFileState c st l f imm' nf').level i =
      if i = l then insertSorted c f (st.level l) else st.level i := by
  refine level_setLevel.trans ?_
  simp [hl, addFiles_singleton]

theorem mem_allFiles_addFileState (c : Cmp) (st : DbState) (l : Nat) (f : FileMeta) (imm' : Option Run)
    (nf' : Nat) (hl : l < st.levels.length) (g : FileMeta) :
    g ∈ allFiles (addFileState c st l f imm' nf') ↔ g = f ∨ g ∈ allFiles st := by
  simp only [mem_allFiles, level_addFileState c st l f imm' nf' hl]
  constructor
  · rintro ⟨i, hi⟩
    split at hi
    · exact (mem_insertSorted.mp hi).imp id (fun h => ⟨l, h⟩)
    · exact .inr ⟨i, hi⟩
  · rintro (h | ⟨i, hi⟩)
    · exact ⟨l, by rw [if_pos rfl]; exact mem_insertSorted.mpr (.inl h)⟩
    · refine ⟨i, ?_⟩
      split
      · rename_i e
        exact mem_insertSorted.mpr (.inr (e ▸ hi))
      · exact hi

theorem mem_allEntries_addFileState {c : Cmp} {st : DbState} {l : Nat} {f : FileMeta}
    {imm' : Option Run} {nf' : Nat} (hl : l < st.levels.length) {e : Entry} :
    e ∈ allEntries (addFileState c st l f imm' nf') ↔
      e ∈ st.mem ∨ (∃ r ∈ imm', e ∈ r) ∨ e ∈ f.run ∨ ∃ g ∈ allFiles st, e ∈ g.run := by
  simp only [mem_allEntries, mem_allFiles_addFileState c st l f imm' nf' hl, or_and_right, exists_or,
    exists_eq_left]
  rfl

theorem level_compact (c : Cmp) (st : DbState) (level : Nat) (in0 in1 : List Nat)
    (outs : List FileMeta) (hl : level + 1 < st.levels.length) (i : Nat) :
    (applyStep c st (.compact level in0 in1 outs)).level i =
      if i = level + 1 then addFiles c (level + 1) (removeNums (st.level (level + 1)) in1) outs
      else if i = level then removeNums (st.level level) in0 else st.level i := by
  refine level_setLevel.trans ?_
  rw [levels_length_setLevel, level_setLevel]
  simp only [hl, Nat.lt_of_succ_lt hl, and_true]

theorem mem_level_compact (c : Cmp) (st : DbState) (level : Nat) (in0 in1 : List Nat)
    (outs : List FileMeta) (hl : level + 1 < st.levels.length) (i : Nat) (g : FileMeta) :
    g ∈ (applyStep c st (.compact level in0 in1 outs)).level i ↔
      (g ∈ st.level i ∧ (i = level → g.num ∉ in0) ∧ (i = level + 1 → g.num ∉ in1)) ∨
        (g ∈ outs ∧ i = level + 1) := by
  rw [level_compact c st level in0 in1 outs hl]
  by_cases h1 : i = level + 1
  · subst h1
    simp [mem_addFiles, mem_removeNums]
  · by_cases h2 : i = level
    · subst h2
      simp [mem_removeNums]
    · simp [h1, h2]

theorem mem_allEntries_compact {c : Cmp} {st : DbState} {level : Nat} {in0 in1 : List Nat}
    {outs : List FileMeta} (hl : level + 1 < st.levels.length) {e : Entry} :
    e ∈ allEntries (applyStep c st (.compact level in0 in1 outs)) ↔
      e ∈ st.mem ∨ (∃ r ∈ st.imm, e ∈ r) ∨ e ∈ outs.flatMap (·.run) ∨
        ∃ i g, g ∈ st.level i ∧ (i = level → g.num ∉ in0) ∧ (i = level + 1 → g.num ∉ in1) ∧ e ∈ g.run := by
  simp only [mem_allEntries, mem_allFiles, mem_level_compact c st level in0 in1 outs hl, List.mem_flatMap]
  refine or_congr Iff.rfl (or_congr Iff.rfl ⟨?_, ?_⟩)
  · rintro ⟨g, ⟨i, hi | hi⟩, he⟩
    · exact .inr ⟨i, g, hi.1, hi.2.1, hi.2.2, he⟩
    · exact .inl ⟨g, hi.1, he⟩
  · rintro (⟨g, hg, he⟩ | ⟨i, g, hg, h0, h1, he⟩)
    · exact ⟨g, ⟨_, .inr ⟨hg, rfl⟩⟩, he⟩
    · exact ⟨g, ⟨i, .inl ⟨hg, h0, h1⟩⟩, he⟩

theorem compact_entries_sub {c : Cmp} {st : DbState} {level : Nat} {in0 in1 : List Nat}
    {outs : List FileMeta} (hl : level + 1 < st.levels.length)
    (hsub : ∀ e ∈ outs.flatMap (·.run), e ∈ compactIns st level in0 in1) :
    ∀ e ∈ allEntries (applyStep c st (.compact level in0 in1 outs)), e ∈ allEntries st := by
  intro e he
  rcases (mem_allEntries_compact hl).mp he with h | h | h | ⟨i, g, hg, _, _, heg⟩
  · exact mem_allEntries.mpr (.inl h)
  · exact mem_allEntries.mpr (.inr (.inl h))
  · exact compactIns_sub (hsub e h)
  · exact mem_allEntries.mpr (.inr (.inr ⟨g, mem_allFiles.mpr ⟨i, hg⟩, heg⟩))

theorem compact_entries_kept (c : Cmp) (st : DbState) (level : Nat) (in0 in1 : List Nat)
    (outs : List FileMeta) (hl : level + 1 < st.levels.length) {e : Entry}
    (he : e ∈ allEntries st) :
    e ∈ allEntries (applyStep c st (.compact level in0 in1 outs)) ∨ e ∈ compactIns st level in0 in1 := by
  rw [mem_allEntries_compact hl, mem_compactIns]
  rcases mem_allEntries.mp he with he1 | he2 | ⟨g, hg, he3⟩
  · exact .inl (.inl he1)
  · exact .inl (.inr (.inl he2))
  · obtain ⟨i, hi⟩ := mem_allFiles.mp hg
    by_cases h0 : i = level ∧ g.num ∈ in0
    · exact .inr ⟨g, .inl ⟨h0.1 ▸ hi, h0.2⟩, he3⟩
    · by_cases h1 : i = level + 1 ∧ g.num ∈ in1
      · exact .inr ⟨g, .inr ⟨h1.1 ▸ hi, h1.2⟩, he3⟩
      · exact .inl (.inr (.inr (.inr ⟨i, g, hi, fun e1 e2 => h0 ⟨e1, e2⟩, fun e1 e2 => h1 ⟨e1, e2⟩, he3⟩)))

/-- contracts (a), (a') of `stepOk` and recency together -/
theorem kept_newerThan_ins {c : Cmp} {st : DbState} {level : Nat} {in0 in1 : List Nat}
    {outs : List FileMeta} (h : Inv c st) (hs : stepOk c st (.compact level in0 in1 outs)) :
    NewerThan c st.mem (compactIns st level in0 in1) ∧
    (∀ r ∈ st.imm, NewerThan c r (compactIns st level in0 in1)) ∧
    ∀ i g, i ≤ level + 1 → g ∈ st.level i → (i = level → g.num ∉ in0) →
      (i = level + 1 → g.num ∉ in1) → NewerThan c g.run (compactIns st level in0 in1) := by
  obtain ⟨_, _, _, _, hstay, hstay1, _⟩ := hs
  have hR := h.toRec
  refine ⟨newerThan_flatMap_right.mpr (fun b hb => hR.memFiles b (mem_allFiles_of_picked hb)),
    fun r hr => newerThan_flatMap_right.mpr (fun b hb => hR.immFiles r hr b (mem_allFiles_of_picked hb)), ?_⟩
  intro i g hi hg h0 h1
  by_cases hi1 : i = level + 1
  · subst hi1
    exact hstay1 g (mem_removeNums.mpr ⟨hg, h1 rfl⟩)
  · apply newerThan_flatMap_right.mpr
    intro b hb
    rcases List.mem_append.mp hb with hb | hb
    · by_cases hi0 : i = level
      · subst hi0
        exact hstay g (mem_removeNums.mpr ⟨hg, h0 rfl⟩) b hb
      · exact hR.levels i level (by omega) g hg b (mem_pickNums.mp hb).1
    · exact hR.levels i (level + 1) (by omega) g hg b (mem_pickNums.mp hb).1

end Lcdb
