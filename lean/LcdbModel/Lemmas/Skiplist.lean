/-
  When the skiplist of Model/Skiplist.lean is well formed (`Inv`, defined here), and what its three search loops
  return then.

  `Inv cmp sl L`: `L` is the list of node indices in key order (the head, index 0, excluded).  Its core is
  `next`: for every way of splitting `0 :: L = pre ++ x :: suf` and every level below the height of `x`,
  `x->next[lvl]` is the first node of `suf` whose height exceeds `lvl` (NULL if there is none).  Read level by
  level (`linked_filter_iff`, `Inv.linked`): level `lvl` is the NULL-terminated linked list (`Linked`) of the nodes
  of `0 :: L` whose height exceeds `lvl`.

  A key `k` splits `L = A ++ B` into the nodes below `k` and the others (of the comparator this needs `CmpOk`
  only).  `searchGo` is the common shape of `find_ge` / `find_lt` / `find_last`, so there is one induction
  (`searchGo_spec`, fuel bound included); the results of the three C functions are read off the search from the
  head at the top level: the node in front of `B`, and in `prev[i]` the last node of `0 :: A` that reaches level
  `i` (`PrevOk`).
-/
import LcdbModel.Model.Skiplist
namespace Lcdb.Skiplist
variable {α : Type}

structure CmpOk (cmp : α → α → Ordering) : Prop where
  swap : ∀ a b, cmp b a = (cmp a b).swap
  trans : ∀ a b c, cmp a b = .lt → cmp b c = .lt → cmp a c = .lt

theorem CmpOk.refl (h : CmpOk cmp) (a : α) : cmp a a = .eq := by
  have := h.swap a a
  cases hc : cmp a a <;> rw [hc] at this <;> simp [Ordering.swap] at this

theorem CmpOk.gt_of_lt (h : CmpOk cmp) {a b : α} (hab : cmp a b = .lt) : cmp b a = .gt := by
  rw [h.swap a b, hab]; rfl

theorem CmpOk.lt_of_not_lt_of_ne (h : CmpOk cmp) {a b : α} (h1 : cmp a b ≠ .lt)
    (h2 : cmp b a ≠ .eq) : cmp b a = .lt := by
  have := h.swap a b
  cases hab : cmp a b with
  | lt => exact absurd hab h1
  | eq => rw [hab] at this; exact absurd this h2
  | gt => rw [hab] at this; exact this

def NodeLt (cmp : α → α → Ordering) (sl : SkipList α) (a b : Nat) : Prop :=
  ∃ ka kb, keyOf sl a = some ka ∧ keyOf sl b = some kb ∧ cmp ka kb = .lt

/-- `mem_iff`, `len`: the nodes are exactly the indices from 1 below `nodes.length`, so the index `nodes.length` that the next
    insert takes is fresh, and `L` is as long as that, which bounds the fuel of the searches.  `mhExact`: `max_height` is only
    ever raised to the height of a node.  `next`: every link of every level (head of the file). -/
structure Inv (cmp : α → α → Ordering) (sl : SkipList α) (L : List Nat) : Prop where
  headKey : keyOf sl 0 = none
  headHeight : heightOf sl 0 = kMaxHeight
  mem_iff : ∀ x, x ∈ L ↔ 1 ≤ x ∧ x < sl.nodes.length
  len : L.length + 1 = sl.nodes.length
  sorted : L.Pairwise (NodeLt cmp sl)
  hasKey : ∀ x ∈ L, ∃ k, keyOf sl x = some k
  heights : ∀ x ∈ L, 1 ≤ heightOf sl x ∧ heightOf sl x ≤ sl.maxHeight
  mhRange : 1 ≤ sl.maxHeight ∧ sl.maxHeight ≤ kMaxHeight
  mhExact : sl.maxHeight = 1 ∨ ∃ x ∈ L, heightOf sl x = sl.maxHeight
  next : ∀ pre x suf, 0 :: L = pre ++ x :: suf → ∀ lvl, lvl < heightOf sl x →
    getNext sl x lvl = some (suf.find? (fun y => decide (lvl < heightOf sl y)))

variable {cmp : α → α → Ordering} {sl : SkipList α} {L : List Nat}

/-- the links `f` may fault; the notion that `SkiplistPub.Chain` of Model/SkiplistPub.lean is for the level-0 cells of the
    publication model -/
def Linked (f : Nat → Option (Option Nat)) : List Nat → Prop
  | [] => True
  | x :: r => f x = some r.head? ∧ Linked f r

section linked
variable {f g : Nat → Option (Option Nat)}

theorem Linked.next : ∀ {X : List Nat} {x : Nat} {Y : List Nat}, Linked f (X ++ x :: Y) → f x = some Y.head?
  | [], _, _, h => h.1
  | _ :: X, _, _, h => Linked.next (X := X) h.2

theorem Linked.of_next : ∀ {l : List Nat}, (∀ X x Y, l = X ++ x :: Y → f x = some Y.head?) → Linked f l
  | [], _ => trivial
  | x :: r, h => ⟨h [] x r rfl, Linked.of_next fun X y Y e => h (x :: X) y Y (by rw [e]; rfl)⟩

theorem Linked.congr : ∀ {l : List Nat}, (∀ y ∈ l, g y = f y) → Linked f l → Linked g l
  | [], _, _ => trivial
  | x :: _, hg, h => ⟨(hg x List.mem_cons_self).trans h.1, Linked.congr (fun y hy => hg y (List.mem_cons_of_mem _ hy)) h.2⟩

theorem Linked.splice {p n : Nat} {Y : List Nat} (hp : g p = some (some n)) (hn : g n = f p) :
    ∀ {X : List Nat}, (∀ y ∈ X ++ Y, g y = f y) → Linked f (X ++ p :: Y) → Linked g (X ++ p :: n :: Y)
  | [], hg, h => ⟨hp, hn.trans h.1, Linked.congr hg h.2⟩
  | x :: X, hg, h => ⟨(hg x List.mem_cons_self).trans (h.1.trans (by cases X <;> rfl)),
      Linked.splice hp hn (fun y hy => hg y (List.mem_cons_of_mem _ hy)) h.2⟩

end linked

theorem linked_filter_iff (f : Nat → Nat → Option (Option Nat)) (hgt : Nat → Nat) (l : List Nat) :
    (∀ lvl, Linked (fun y => f y lvl) (l.filter fun y => decide (lvl < hgt y))) ↔
    ∀ pre x suf, l = pre ++ x :: suf → ∀ lvl, lvl < hgt x →
      f x lvl = some (suf.find? fun y => decide (lvl < hgt y)) := by
  constructor
  · intro h pre x suf hl lvl hx
    have := h lvl
    rw [hl, List.filter_append, List.filter_cons, if_pos (decide_eq_true hx)] at this
    rw [this.next, List.head?_filter]
  · intro h lvl
    refine Linked.of_next fun X x Y e => ?_
    obtain ⟨l₁, l₂, hl, rfl, h2⟩ := List.filter_eq_append_iff.mp e
    obtain ⟨m₁, m₂, rfl, _, hx, rfl⟩ := List.filter_eq_cons_iff.mp h2
    rw [h (l₁ ++ m₁) x m₂ (by rw [hl, List.append_assoc]) lvl (by simpa using hx), List.head?_filter]

theorem Inv.linked (h : Inv cmp sl L) (lvl : Nat) :
    Linked (fun y => getNext sl y lvl) ((0 :: L).filter fun y => decide (lvl < heightOf sl y)) :=
  (linked_filter_iff (getNext sl) (heightOf sl) (0 :: L)).mpr h.next lvl

theorem mem_of_split {y x a : Nat} {A A1 A2 : List Nat} (hs : y :: A = A1 ++ x :: A2) (ha : a ∈ A2) : a ∈ A := by
  cases A1 with
  | nil => rw [(List.cons.inj hs).2]; exact ha
  | cons z t => rw [(List.cons.inj hs).2]; exact List.mem_append_right _ (List.mem_cons_of_mem _ ha)

theorem NodeLt.irrefl (hc : CmpOk cmp) (a : Nat) : ¬ NodeLt cmp sl a a := by
  rintro ⟨ka, kb, h1, h2, h3⟩
  rw [h1] at h2
  cases h2
  rw [hc.refl] at h3
  cases h3

theorem NodeLt.trans (hc : CmpOk cmp) {a b c : Nat} (h1 : NodeLt cmp sl a b) (h2 : NodeLt cmp sl b c) :
    NodeLt cmp sl a c := by
  obtain ⟨ka, kb, ha, hb, hab⟩ := h1
  obtain ⟨kb', kc, hb', hc', hbc⟩ := h2
  rw [hb] at hb'
  cases hb'
  exact ⟨ka, kc, ha, hc', hc.trans _ _ _ hab hbc⟩

theorem Inv.setRnd (h : Inv cmp sl L) (r : Nat) : Inv cmp { sl with rnd := r } L :=
  ⟨h.headKey, h.headHeight, h.mem_iff, h.len, h.sorted, h.hasKey, h.heights, h.mhRange, h.mhExact, h.next⟩

theorem Inv.nodup (hc : CmpOk cmp) (h : Inv cmp sl L) : (0 :: L).Nodup := by
  refine List.nodup_cons.mpr ⟨fun h0 => absurd ((h.mem_iff 0).mp h0).1 (by decide), ?_⟩
  exact h.sorted.imp (fun {a b} hab => by
    intro e
    subst e
    exact NodeLt.irrefl hc a hab)

theorem find?_pos_eq_head? (h : Inv cmp sl L) (l : List Nat) (hl : ∀ y ∈ l, y ∈ L) :
    l.find? (fun y => decide (0 < heightOf sl y)) = l.head? := by
  cases l with
  | nil => rfl
  | cons a t =>
    have hd : decide (0 < heightOf sl a) = true := decide_eq_true (h.heights a (hl a List.mem_cons_self)).1
    rw [List.find?_cons, hd, List.head?_cons]

/-- `keyIsAfterNode` of the model on a node (`keyIsAfterNode_eq`): the test `find_ge` / `find_lt` for key `k` make on the next node -/
def afterKey (cmp : α → α → Ordering) (sl : SkipList α) (k : α) : Nat → Option Bool :=
  fun n => (keyOf sl n).map fun kk => cmp kk k == .lt

theorem afterKey_of_key {k ka : α} {a : Nat} (h : keyOf sl a = some ka) :
    afterKey cmp sl k a = some (cmp ka k == .lt) := by
  rw [afterKey, h]; rfl

theorem afterKey_true {k : α} {a : Nat} (h : afterKey cmp sl k a = some true) :
    ∃ ka, keyOf sl a = some ka ∧ cmp ka k = .lt := by
  cases hk : keyOf sl a with
  | none => rw [afterKey, hk] at h; cases h
  | some ka => rw [afterKey_of_key hk] at h; exact ⟨ka, rfl, beq_iff_eq.mp (Option.some.inj h)⟩

theorem afterKey_false {k : α} {a : Nat} (h : afterKey cmp sl k a = some false) :
    ∃ ka, keyOf sl a = some ka ∧ cmp ka k ≠ .lt := by
  cases hk : keyOf sl a with
  | none => rw [afterKey, hk] at h; cases h
  | some ka => rw [afterKey_of_key hk] at h; exact ⟨ka, rfl, beq_eq_false_iff_ne.mp (Option.some.inj h)⟩

theorem sorted_split_of_pairwise (hc : CmpOk cmp) (sl : SkipList α) (k : α) (l : List Nat)
    (hs : l.Pairwise (NodeLt cmp sl)) (hk : ∀ x ∈ l, ∃ kx, keyOf sl x = some kx) :
    ∃ A B, l = A ++ B ∧ (∀ a ∈ A, afterKey cmp sl k a = some true) ∧ (∀ b ∈ B, afterKey cmp sl k b = some false) := by
  induction l with
  | nil => exact ⟨[], [], rfl, by simp, by simp⟩
  | cons x t ih =>
    obtain ⟨kx, hkx⟩ := hk x (by simp)
    rw [List.pairwise_cons] at hs
    by_cases hlt : cmp kx k = .lt
    · obtain ⟨A, B, rfl, hA, hB⟩ := ih hs.2 (fun y hy => hk y (by simp [hy]))
      exact ⟨x :: A, B, rfl, List.forall_mem_cons.mpr ⟨by simp [afterKey_of_key hkx, hlt], hA⟩, hB⟩
    · -- `x` is not below `k`, and everything after `x` is above `x`
      refine ⟨[], x :: t, rfl, by simp, List.forall_mem_cons.mpr ⟨by simp [afterKey_of_key hkx, hlt], fun b hb => ?_⟩⟩
      obtain ⟨ka, kb, h1, h2, h3⟩ := hs.1 b hb
      rw [hkx] at h1
      cases h1
      have : cmp kb k ≠ .lt := fun h' => hlt (hc.trans _ _ _ h3 h')
      simp [afterKey_of_key h2, this]

theorem sorted_split (hc : CmpOk cmp) (h : Inv cmp sl L) (k : α) :
    ∃ A B, L = A ++ B ∧ (∀ a ∈ A, afterKey cmp sl k a = some true) ∧ (∀ b ∈ B, afterKey cmp sl k b = some false) :=
  sorted_split_of_pairwise hc sl k L h.sorted h.hasKey

def afterOpt (after : Nat → Option Bool) : Option Nat → Option Bool
  | none => some false
  | some n => after n

/-- the common shape of the three search loops: `after n` = "keep searching past node n"; `fin next x prev` is what
    the loop returns when it stops at level 0 on node `x` in front of `next` -/
def searchGo {γ : Type} (sl : SkipList α) (after : Nat → Option Bool) (fin : Option Nat → Nat → List (Option Nat) → γ) :
    Nat → Nat → Nat → List (Option Nat) → Option γ
  | 0, _, _, _ => none
  | fuel + 1, x, level, prev =>
    match getNext sl x level with
    | none => none
    | some next =>
      match afterOpt after next with
      | none => none
      | some true =>
        match next with
        | some n => searchGo sl after fin fuel n level prev
        | none => none
      | some false =>
        if level = 0 then some (fin next x (prev.set level (some x)))
        else searchGo sl after fin fuel x (level - 1) (prev.set level (some x))

/-- what `find_ge` leaves in `prev[i]`: the last node of `0 :: A` whose height exceeds `i` -/
def PrevOk (sl : SkipList α) (A : List Nat) (i x : Nat) : Prop :=
  ∃ A1 A2, 0 :: A = A1 ++ x :: A2 ∧ i < heightOf sl x ∧ ∀ a ∈ A2, heightOf sl a ≤ i

theorem PrevOk.mem {A : List Nat} {i p : Nat} (h : PrevOk sl A i p) : p ∈ 0 :: A := by
  obtain ⟨A1, A2, hs, _⟩ := h
  rw [hs]; simp

theorem PrevOk.closed {cmp : α → α → Ordering} {sl : SkipList α} {L A : List Nat} (h : Inv cmp sl L) {i p : Nat}
    (hi : i < kMaxHeight) (hp : PrevOk sl A i p) :
    ((A.filter (fun y => decide (i < heightOf sl y))).getLast?).getD 0 = p := by
  obtain ⟨A1, A2, hs, hlt, hA2⟩ := hp
  have h0 : decide (i < heightOf sl 0) = true := by rw [h.headHeight]; simpa using hi
  have e1 : (0 :: A).filter (fun y => decide (i < heightOf sl y)) = 0 :: A.filter (fun y => decide (i < heightOf sl y)) := by
    rw [List.filter_cons, h0]; rfl
  have e2 : (0 :: A).filter (fun y => decide (i < heightOf sl y)) = A1.filter (fun y => decide (i < heightOf sl y)) ++ [p] := by
    rw [hs, List.filter_append, List.filter_cons]
    have : A2.filter (fun y => decide (i < heightOf sl y)) = [] := by
      rw [List.filter_eq_nil_iff]; intro a ha; have := hA2 a ha; simp; omega
    simp [hlt, this]
  have := congrArg List.getLast? (e1.symm.trans e2)
  rw [List.getLast?_cons] at this
  simpa using this

/-- The loop stands at node `x` of `0 :: A = A1 ++ x :: A2` on `level`; each round either moves right to a node of `A2` or
    goes one level down, so `A2.length + level` bounds the rounds left. -/
theorem searchGo_spec {γ : Type} (h : Inv cmp sl L)
    (after : Nat → Option Bool) (fin : Option Nat → Nat → List (Option Nat) → γ) (A B : List Nat) (hL : L = A ++ B)
    (hA : ∀ a ∈ A, after a = some true) (hB : ∀ b ∈ B, after b = some false) :
    ∀ (fuel x level : Nat) (prev : List (Option Nat)) (A1 A2 : List Nat), 0 :: A = A1 ++ x :: A2 →
      level < heightOf sl x → level < prev.length → A2.length + level < fuel →
      ∃ prev' p0, searchGo sl after fin fuel x level prev = some (fin B.head? p0 prev') ∧ PrevOk sl A 0 p0 ∧
        prev'.length = prev.length ∧
        (∀ i, i ≤ level → ∃ p, prev'[i]? = some (some p) ∧ PrevOk sl A i p) ∧
        (∀ i, level < i → prev'[i]? = prev[i]?) := by
  intro fuel
  induction fuel with
  | zero => intro x level prev A1 A2 _ _ _ hf; omega
  | succ fuel ih =>
    intro x level prev A1 A2 hsplit hlvl hprev hfuel
    have hnext := h.next A1 x (A2 ++ B) (by rw [hL, ← List.cons_append, hsplit, List.append_assoc]; rfl) level hlvl
    simp only [searchGo, hnext, List.find?_append]
    cases hf : A2.find? (fun y => decide (level < heightOf sl y)) with
    | some y =>
      -- a node of `A2` reaches the level: it is still before the target, advance to it
      obtain ⟨hy, s1, s2, hs, _⟩ := List.find?_eq_some_iff_append.mp hf
      have hyA : y ∈ A := mem_of_split hsplit (by rw [hs]; simp)
      simp only [Option.some_or, afterOpt, hA y hyA]
      exact ih y level prev (A1 ++ x :: s1) s2 (by rw [hsplit, hs]; simp) (by simpa using hy) hprev
        (by rw [hs] at hfuel; simp at hfuel; omega)
    | none =>
      -- no node of `A2` reaches the level, the next one is in `B` or NULL: `x` is `prev[level]`, descend
      have hx : PrevOk sl A level x :=
        ⟨A1, A2, hsplit, hlvl, fun a ha => by simpa using List.find?_eq_none.mp hf a ha⟩
      have hafter : afterOpt after (B.find? fun y => decide (level < heightOf sl y)) = some false := by
        cases hb : B.find? fun y => decide (level < heightOf sl y) with
        | none => rfl
        | some b => exact hB b (List.mem_of_find?_eq_some hb)
      simp only [Option.none_or, hafter]
      by_cases hl0 : level = 0
      · subst hl0
        refine ⟨prev.set 0 (some x), x, ?_, hx, List.length_set, ?_, fun i hi => List.getElem?_set_ne (by omega)⟩
        · simp only [if_true]
          rw [find?_pos_eq_head? h B (fun y hy => hL ▸ List.mem_append_right A hy)]
        · intro i hi
          obtain rfl : i = 0 := by omega
          exact ⟨x, List.getElem?_set_self hprev, hx⟩
      · obtain ⟨prev', p0, hrun, hp0, hlen, hlow, hhigh⟩ := ih x (level - 1) (prev.set level (some x)) A1 A2 hsplit
          (by omega) (by rw [List.length_set]; omega) (by omega)
        refine ⟨prev', p0, by simpa only [if_neg hl0] using hrun, hp0, by rw [hlen, List.length_set], ?_, ?_⟩
        · intro i hi
          by_cases hil : i = level
          · subst hil
            exact ⟨x, by rw [hhigh i (by omega), List.getElem?_set_self hprev], hx⟩
          · exact hlow i (by omega)
        · intro i hi
          rw [hhigh i (by omega), List.getElem?_set_ne (by omega)]

theorem keyIsAfterNode_eq (cmp : α → α → Ordering) (sl : SkipList α) (key : α) (nx : Option Nat) :
    keyIsAfterNode cmp sl key nx = afterOpt (afterKey cmp sl key) nx := by
  cases nx <;> rfl

theorem findGEGo_eq (cmp : α → α → Ordering) (sl : SkipList α) (key : α) (fuel x level : Nat) (prev : List (Option Nat)) :
    findGEGo cmp sl key fuel x level prev =
      searchGo sl (afterKey cmp sl key) (fun next _ prev => (next, prev)) fuel x level prev := by
  induction fuel generalizing x level prev with
  | zero => rfl
  | succ fuel ih => simp only [findGEGo, searchGo, keyIsAfterNode_eq, ih]; rfl

/-- `find_lt` and `find_last` keep no `prev` array: any will do -/
theorem findLTGo_eq (cmp : α → α → Ordering) (sl : SkipList α) (key : α) (fuel x level : Nat) (prev : List (Option Nat)) :
    findLTGo cmp sl key fuel x level = searchGo sl (afterKey cmp sl key) (fun _ x _ => x) fuel x level prev := by
  induction fuel generalizing x level prev with
  | zero => rfl
  | succ fuel ih => simp only [findLTGo, searchGo, keyIsAfterNode_eq, ← ih]; rfl

theorem findLastGo_eq (sl : SkipList α) (fuel x level : Nat) (prev : List (Option Nat)) :
    findLastGo sl fuel x level = searchGo sl (fun _ => some true) (fun _ x _ => x) fuel x level prev := by
  induction fuel generalizing x level prev with
  | zero => rfl
  | succ fuel ih =>
    simp only [findLastGo, searchGo, ← ih]
    cases getNext sl x level with
    | none => rfl
    | some nx => cases nx <;> rfl

theorem search_top {γ : Type} (h : Inv cmp sl L)
    (after : Nat → Option Bool) (fin : Option Nat → Nat → List (Option Nat) → γ) (A B : List Nat) (hL : L = A ++ B)
    (hA : ∀ a ∈ A, after a = some true) (hB : ∀ b ∈ B, after b = some false) :
    ∃ prev p0, searchGo sl after fin (searchFuel sl) 0 (sl.maxHeight - 1) (List.replicate kMaxHeight none) =
        some (fin B.head? p0 prev) ∧ (0 :: A).getLast? = some p0 ∧ prev.length = kMaxHeight ∧
      (∀ i, i < sl.maxHeight → ∃ p, prev[i]? = some (some p) ∧ PrevOk sl A i p) ∧
      (∀ i, sl.maxHeight ≤ i → i < kMaxHeight → prev[i]? = some none) := by
  have hmh := h.mhRange
  have hlen := h.len
  obtain ⟨prev, p0, hrun, ⟨A1, A2, hs, _, hA2⟩, hl, hlow, hhigh⟩ := searchGo_spec h after fin A B hL hA hB (searchFuel sl) 0
    (sl.maxHeight - 1) (List.replicate kMaxHeight none) [] A rfl (by rw [h.headHeight]; omega) (by simp; omega)
    (by unfold searchFuel; rw [← hlen, hL]; simp; omega)
  refine ⟨prev, p0, hrun, ?_, by simpa using hl, fun i hi => hlow i (by omega), ?_⟩
  · -- every node has a level 0, so nothing follows `p0` in `0 :: A`
    cases A2 with
    | nil => rw [hs]; simp
    | cons a t =>
      have := (h.heights a (hL ▸ List.mem_append_left B (mem_of_split hs List.mem_cons_self))).1
      have := hA2 a List.mem_cons_self
      omega
  · intro i hi hi2
    rw [hhigh i (by omega)]
    simp [hi2]

theorem findGE_of_split (h : Inv cmp sl L) (k : α)
    (A B : List Nat) (hL : L = A ++ B)
    (hA : ∀ a ∈ A, afterKey cmp sl k a = some true) (hB : ∀ b ∈ B, afterKey cmp sl k b = some false) :
    ∃ prev, findGE cmp sl k = some (B.head?, prev) ∧ prev.length = kMaxHeight ∧
      (∀ i, i < sl.maxHeight → ∃ p, prev[i]? = some (some p) ∧ PrevOk sl A i p) ∧
      (∀ i, sl.maxHeight ≤ i → i < kMaxHeight → prev[i]? = some none) := by
  obtain ⟨prev, _, hrun, _, hrest⟩ := search_top h (afterKey cmp sl k) (fun next _ prev => (next, prev)) A B hL hA hB
  unfold findGE
  rw [if_neg (by have := h.mhRange; omega), findGEGo_eq]
  exact ⟨prev, hrun, hrest⟩

theorem findLT_of_split (h : Inv cmp sl L) (k : α)
    (A B : List Nat) (hL : L = A ++ B)
    (hA : ∀ a ∈ A, afterKey cmp sl k a = some true) (hB : ∀ b ∈ B, afterKey cmp sl k b = some false) :
    ∃ p, findLT cmp sl k = some p ∧ (0 :: A).getLast? = some p := by
  obtain ⟨_, p, hrun, hp, _⟩ := search_top h (afterKey cmp sl k) (fun _ x _ => x) A B hL hA hB
  unfold findLT
  rw [if_neg (by have := h.mhRange; omega), findLTGo_eq]
  exact ⟨p, hrun, hp⟩

theorem findLast_of_inv (h : Inv cmp sl L) :
    ∃ p, findLast sl = some p ∧ (0 :: L).getLast? = some p := by
  obtain ⟨_, p, hrun, hp, _⟩ := search_top h (fun _ => some true) (fun _ x _ => x) L [] (List.append_nil L).symm
    (fun _ _ => rfl) (by simp)
  unfold findLast
  rw [if_neg (by have := h.mhRange; omega), findLastGo_eq]
  exact ⟨p, hrun, hp⟩

end Lcdb.Skiplist
