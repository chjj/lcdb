/-
  Partial alteration of a table file (C11, "altered_table_partial").

  If `file'` differs from a well-formed table `file` only so that every checksummed block region
  is byte-identical or fails its CRC (`AlteredOK file file'`), then with verify_checksums AND
  paranoid_checks every sequence of iterator operations, every forward scan and every point
  lookup on `file'` gives the original answer or reports an error.

  Under `AlteredOK` every block that was valid in `file` is read identically or rejected;
  `tableOpen` fails or finds the same index block and the same or no filter; the two block readers
  agree wherever neither reports an error, which gives lockstep (Lemmas/TwoIter) for iterator runs,
  the scan and the lookup.
-/
import LcdbModel.Lemmas.TableCursorGet
namespace Lcdb

section
variable {file file' : Bytes}

theorem altered_readBlock (halt : AlteredOK file file') (h : BlockHandle) (c : Bytes)
    (hc : readBlock file h.offset h.size true = .ok c) :
    readBlock file' h.offset h.size true = .ok c ∨
    readBlock file' h.offset h.size true = .error .corruption ∨
    readBlock file' h.offset h.size true = .error .io := by
  rcases halt.blocks h ⟨c, hc⟩ with e | e
  · left
    rw [readBlock_congr file file' _ _ true e]
    exact hc
  · right
    exact readBlock_crc_bad file' _ _ e

theorem altered_rdAgree (halt : AlteredOK file file') (t' t : Table) (hf' : t'.file = file')
    (hf : t.file = file) : RdAgree (blockReader t' true) (blockReader t true) := by
  intro hv
  unfold blockReader
  rw [hf', hf]
  cases hh : handleRead hv with
  | none => exact Or.inl rfl
  | some hr =>
    obtain ⟨h, rest⟩ := hr
    dsimp only
    cases hrb : readBlock file h.offset h.size true with
    | ok c =>
      rcases altered_readBlock halt h c hrb with e | e | e
      · rw [e]; exact Or.inl rfl
      · rw [e]; exact Or.inr (Or.inl ⟨.corrupt, by decide, rfl⟩)
      · rw [e]; exact Or.inr (Or.inl ⟨.io, by decide, rfl⟩)
    | error e =>
      cases e with
      | fault => exact absurd hrb (readBlock_total _ _ _ _)
      | corruption => exact Or.inr (Or.inr ⟨.corrupt, by decide, rfl⟩)
      | io => exact Or.inr (Or.inr ⟨.io, by decide, rfl⟩)

theorem altered_readFilter (halt : AlteredOK file file') (v : Bytes)
    (hv : match handleRead v with
      | some (h, _) => ∃ c, readBlock file h.offset h.size true = .ok c
      | none => True) :
    readFilter file' true v = readFilter file true v ∨ readFilter file' true v = .ok none := by
  unfold readFilter
  cases hh : handleRead v with
  | none => exact Or.inl rfl
  | some hr =>
    obtain ⟨h, rest⟩ := hr
    rw [hh] at hv
    obtain ⟨c, hc⟩ := hv
    dsimp only
    rcases altered_readBlock halt h c hc with e | e | e
    · rw [e, hc]; exact Or.inl rfl
    · rw [e]; exact Or.inr rfl
    · rw [e]; exact Or.inr rfl

theorem altered_readMeta (halt : AlteredOK file file') (o : TableOpts) (L : Layout)
    (hmr : metaReadable o file L) :
    readMeta o file' true L.footer = readMeta o file true L.footer ∨
    readMeta o file' true L.footer = .ok none := by
  obtain ⟨⟨c, hc⟩, h2⟩ := hmr
  cases hp : o.policy with
  | none =>
    left
    unfold readMeta findFilterHandle
    simp only [hp]
  | some p =>
    rcases altered_readBlock halt L.footer.metaindex c hc with e | e | e
    · have hff : findFilterHandle o file' true L.footer = findFilterHandle o file true L.footer := by
        unfold findFilterHandle
        simp only [hp, e, hc]
      unfold readMeta
      rw [hff]
      cases hfh : findFilterHandle o file true L.footer with
      | error er => exact Or.inl rfl
      | ok r =>
        cases r with
        | none => exact Or.inl rfl
        | some v =>
          rw [hfh] at h2
          exact altered_readFilter halt v h2
    -- `corruption`, `io`: the metaindex block is rejected, so no filter block is looked for
    all_goals
      right
      have hff : findFilterHandle o file' true L.footer = .ok none := by
        unfold findFilterHandle
        simp only [hp, e]
      unfold readMeta
      rw [hff]

end

/-- C11, open: opening the altered file (paranoid checks on) fails, or yields a table with the
    original index block and the original filter block or none -/
theorem altered_open (o : TableOpts) (file file' : Bytes) (es : List (Bytes × Bytes))
    (hwf : TableWF o file es) (halt : AlteredOK file file') :
    ∃ t, tableOpen o file true = .ok t ∧
      ((∃ e, tableOpen o file' true = .error e) ∨
       ∃ t', tableOpen o file' true = .ok t' ∧ t'.index = t.index ∧ t'.opts = o ∧
         t'.file = file' ∧ t'.metaindex = t.metaindex ∧
         (t'.filter = t.filter ∨ t'.filter = none)) := by
  obtain ⟨t, L, hL, hg, ht, ho, hf, hi, hm⟩ := table_open_wf o file es hwf true
  refine ⟨t, ht, ?_⟩
  obtain ⟨h0, h1, h2, _⟩ := tableLayout_some hL
  have hmi : t.metaindex = L.footer.metaindex := by
    unfold tableOpen at ht
    simp only [h0, if_false, h1, h2, hm, Except.ok.injEq] at ht
    rw [← ht]
  have h0' : ¬ file'.length < footerSize := by rw [halt.len]; exact h0
  have h1' : footerDecode (pread file' (file'.length - footerSize) footerSize) = some L.footer := by
    rw [halt.footer]; exact h1
  rcases altered_readBlock halt L.footer.index L.index h2 with e | e | e
  · obtain ⟨flt, hm', hflt⟩ : ∃ flt, readMeta o file' true L.footer = .ok flt ∧
        (flt = t.filter ∨ flt = none) := by
      rcases altered_readMeta halt o L hg.meta_readable with h | h
      · exact ⟨t.filter, h.trans hm, Or.inl rfl⟩
      · exact ⟨none, h, Or.inr rfl⟩
    refine Or.inr ⟨{ opts := o, file := file', index := L.index, filter := flt,
                     metaindex := L.footer.metaindex }, ?_, hi.symm, rfl, rfl, hmi.symm, hflt⟩
    unfold tableOpen
    simp only [h0', if_false, h1', e, hm']
  · exact Or.inl ⟨.corruption, by unfold tableOpen; simp only [h0', if_false, h1', e]⟩
  · exact Or.inl ⟨.io, by unfold tableOpen; simp only [h0', if_false, h1', e]⟩

section
variable {t' t : Table} {verify : Bool}

theorem scanGo_div (hc : t'.cmpB = t.cmpB) (hfuel : skipFuel t' = skipFuel t)
    (H : RdPair t.cmpB (blockReader t' verify) (blockReader t verify)) :
    ∀ (n : Nat) (a' a : TwoIter) (acc : List (Bytes × Bytes)) (r' r : ScanResult),
      a'.Inv t.cmpB → a.Inv t.cmpB → TwoIter.Div a' a →
      scanGo t' verify n a' acc = some r' → scanGo t verify n a acc = some r →
      r'.status ≠ .ok ∨ r.status ≠ .ok ∨ r' = r := by
  intro n
  induction n with
  | zero =>
    intro a' a acc r' r ha' ha hd h' h
    rcases hd with hd | hd | hd
    · exact Or.inl (scanGo_flagged (by rw [hc]; exact ha') hd h')
    · exact Or.inr (Or.inl (scanGo_flagged ha hd h))
    · subst hd
      unfold scanGo at h' h
      rw [h'] at h
      exact Or.inr (Or.inr (Option.some.inj h))
  | succ n ih =>
    intro a' a acc r' r ha' ha hd h' h
    rcases hd with hd | hd | hd
    · exact Or.inl (scanGo_flagged (by rw [hc]; exact ha') hd h')
    · exact Or.inr (Or.inl (scanGo_flagged ha hd h))
    · subst hd
      unfold scanGo at h' h
      by_cases hv : a'.valid = true
      · rw [if_pos hv] at h' h
        cases e' : (tableIterOps t' verify).next a' with
        | none => rw [e'] at h'; cases h'
        | some s' =>
          cases e : (tableIterOps t verify).next a' with
          | none => rw [e] at h; cases h
          | some s =>
            rw [e'] at h'
            rw [e] at h
            dsimp only at h' h
            have e1' : TwoIter.next t.cmpB (blockReader t' verify) (skipFuel t) a' = some s' := by
              rw [← hc, ← hfuel]; exact e'
            obtain ⟨g', g, d⟩ := (TwoIter.step_nf .fwd (skipFuel t) a' ha hv).lockstep H e1' e
            exact ih s' s _ r' r g'.1 g.1 d h' h
      · rw [if_neg hv] at h' h
        rw [h'] at h
        exact Or.inr (Or.inr (Option.some.inj h))

theorem tableGet_div (ikey : Bytes) (hc : t'.cmpB = t.cmpB) (hi : t'.index = t.index)
    (hfr : ∀ iv, filterRejects t' iv ikey = filterRejects t iv ikey)
    (hag : RdAgree (blockReader t' verify) (blockReader t verify))
    (g' g : GetResult) (h' : tableGet t' ikey verify = some g')
    (h : tableGet t ikey verify = some g) :
    g'.status ≠ .ok ∨ g.status ≠ .ok ∨ g' = g := by
  unfold tableGet at h' h
  rw [hc, hi] at h'
  cases hs : (blockIterCreate t.index).seek t.cmpB ikey with
  | none => rw [hs] at h; cases h
  | some ix =>
    rw [hs] at h' h
    dsimp only at h' h
    by_cases hv : ix.valid = true
    · rw [if_pos hv] at h' h
      rw [hfr] at h'
      cases hf : filterRejects t ix.value ikey with
      | none => rw [hf] at h; cases h
      | some b =>
        rw [hf] at h' h
        cases b with
        | true =>
          rw [h'] at h
          exact Or.inr (Or.inr (Option.some.inj h))
        | false =>
          dsimp only at h' h
          rcases hag ix.value with e | ⟨s, hs, e⟩ | ⟨s, hs, e⟩
          · rw [e] at h'
            rw [h'] at h
            exact Or.inr (Or.inr (Option.some.inj h))
          · left
            rw [e] at h'
            simp only [DataIter.lift, Option.some.injEq] at h'
            rw [← h']
            simp only [DataIter.status, hs, if_false]
            exact hs
          · right; left
            rw [e] at h
            simp only [DataIter.lift, Option.some.injEq] at h
            rw [← h]
            simp only [DataIter.status, hs, if_false]
            exact hs
    · rw [if_neg hv] at h' h
      rw [h'] at h
      exact Or.inr (Or.inr (Option.some.inj h))

end

/-- C11: `file'` is a well-formed table `file` altered so that every
    checksummed block is byte-identical or fails its CRC and the footer decodes as before.  If
    `file'` still opens (paranoid checks on), then with checksum verification on
    * every sequence of iterator operations ends with an error status or in EXACTLY the state the
      original file gives,
    * every forward scan reports an error status or returns exactly the original result,
    * every point lookup reports an error status or lets the caller see exactly what the original
      lookup shows (`GetResult.visible`). -/
theorem altered_table_partial (o : TableOpts) (file file' : Bytes) (es : List (Bytes × Bytes))
    (hwf : TableWF o file es) (halt : AlteredOK file file') (t' : Table)
    (ht' : tableOpen o file' true = .ok t') :
    ∃ t, tableOpen o file true = .ok t ∧
      (∀ ops, TOpsOk ops → ∀ it', (tableIterOps t' true).run ops (tableIterCreate t') = some it' →
        it'.getStatus ≠ .ok ∨
          ∃ it, (tableIterOps t true).run ops (tableIterCreate t) = some it ∧ it' = it) ∧
      (∀ n r', tableIterAll t' true n = some r' →
        r'.status ≠ .ok ∨ tableIterAll t true n = some r') ∧
      (∀ ikey, 8 ≤ ikey.length → ∀ g', tableGet t' ikey true = some g' →
        g'.status ≠ .ok ∨
          ∃ g, tableGet t ikey true = some g ∧ g'.visible ikey = g.visible ikey) := by
  obtain ⟨t, ht, hopen⟩ := altered_open o file file' es hwf halt
  obtain ⟨ho, hf⟩ := tableOpen_fields o file true t ht
  have hopen' : t'.index = t.index ∧ t'.opts = o ∧ t'.file = file' ∧
      (t'.filter = t.filter ∨ t'.filter = none) := by
    rcases hopen with ⟨e, he⟩ | ⟨t'', h1, h2, h3, h4, _, h6⟩
    · rw [he] at ht'; cases ht'
    · rw [h1] at ht'
      cases ht'
      exact ⟨h2, h3, h4, h6⟩
  obtain ⟨hi', ho', hf', hflt'⟩ := hopen'
  have hc : t'.cmpB = t.cmpB := by unfold Table.cmpB; rw [ho', ho]
  have hfuel : skipFuel t' = skipFuel t := by unfold skipFuel; rw [hi']
  have hcreate : tableIterCreate t' = tableIterCreate t := by unfold tableIterCreate; rw [hi']
  have hag := altered_rdAgree halt t' t hf' hf
  have H : RdPair t.cmpB (blockReader t' true) (blockReader t true) :=
    ⟨blockReader_rdInv _ t' true, blockReader_rdInv _ t true, blockReader_total t' true,
      blockReader_total t true, hag⟩
  have hops' : tableIterOps t' true
      = twoIterOps t.cmpB (blockReader t' true) (skipFuel t) := by
    unfold tableIterOps; rw [hc, hfuel]
  refine ⟨t, ht, ?_, ?_, ?_⟩
  · intro ops hops it' hrun'
    obtain ⟨it, p, hrun, _, hst, _⟩ := table_is_cursor o file es hwf t true true ht ops hops
    rw [hops', hcreate] at hrun'
    have d := twoIter_run_div H (skipFuel t) ops (tableIterCreate t)
      (tableIterCreate t) it' it (tableIterCreate_inv t.cmpB t) (tableIterCreate_inv t.cmpB t)
      (TwoIter.Div.refl _) hrun' hrun
    rcases d with d | d | d
    · exact Or.inl d
    · exact absurd hst d
    · exact Or.inr ⟨it, hrun, d⟩
  · intro n r' h'
    cases hr : tableIterAll t true n with
    | none => exact absurd hr (tableIterAll_no_fault_any t true n)
    | some r =>
      have hst := table_scan_status o file es hwf t true true ht n r hr
      have h := hr
      unfold tableIterAll at h' h
      cases e' : (tableIterOps t' true).first (tableIterCreate t') with
      | none => rw [e'] at h'; cases h'
      | some a' =>
        cases e : (tableIterOps t true).first (tableIterCreate t) with
        | none => rw [e] at h; cases h
        | some a =>
          rw [e'] at h'
          rw [e] at h
          dsimp only at h' h
          have e1' : TwoIter.first t.cmpB (blockReader t' true) (skipFuel t) (tableIterCreate t)
              = some a' := by
            rw [hops', hcreate] at e'; exact e'
          have hinv := tableIterCreate_inv t.cmpB t
          obtain ⟨g', g, d⟩ := (TwoIter.edge_nf H .fwd (skipFuel t) _ hinv).lockstep H e1' e
          rcases scanGo_div hc hfuel H n a' a [] r' r g'.1 g.1 d h' h with d2 | d2 | d2
          · exact Or.inl d2
          · exact absurd hst d2
          · right; rw [d2]
  · intro ikey hk g' hg'
    obtain ⟨g, hgt, hst, hvis⟩ := table_get_visible o file es hwf t true true ht ikey hk
    rcases hflt' with hflt | hflt
    · -- the filter block is the original one
      rcases tableGet_div ikey hc hi' (fun iv => by unfold filterRejects; rw [hflt, ho', ho]) hag
        g' g hg' hgt with d | d | d
      · exact Or.inl d
      · exact absurd hst d
      · exact Or.inr ⟨g, hgt, by rw [d]⟩
    · -- the filter block was rejected: `t'` is compared with the original file opened without a
      -- filter policy, which answers like `t`
      have hwf₀ := hwf.nofilter
      obtain ⟨_, L, hL, _, ht1, _, _, hi, _⟩ := table_open_wf o file es hwf true
      obtain ⟨t₀, L₀, hL₀, _, ht₀, ho₀, hf₀, hi₀, hm₀⟩ := table_open_wf _ file es hwf₀ true
      rw [ht] at ht1
      cases ht1
      rw [hL] at hL₀
      cases hL₀
      have hflt₀ : t₀.filter = none := (Except.ok.inj (hm₀ : Except.ok none = _)).symm
      obtain ⟨g₀, hg₀, hst₀, hvis₀⟩ := table_get_visible _ file es hwf₀ t₀ true true ht₀ ikey hk
      have hc₀ : t'.cmpB = t₀.cmpB := by unfold Table.cmpB; rw [ho', ho₀]
      rcases tableGet_div ikey hc₀ (hi'.trans (hi.trans hi₀.symm))
        (fun iv => by rw [filterRejects_nofilter t' hflt, filterRejects_nofilter t₀ hflt₀])
        (altered_rdAgree halt t' t₀ hf' hf₀) g' g₀ hg' hg₀ with d | d | d
      · exact Or.inl d
      · exact absurd hst₀ d
      · exact Or.inr ⟨g, hgt, by rw [d, hvis₀, hvis]⟩

end Lcdb
