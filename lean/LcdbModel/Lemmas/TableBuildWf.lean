/-
  `TableWF` of what the table builder writes.  `AsmCtx o bss` holds the hypotheses about a partition
  `bss` of the entries into non-empty data blocks; under them a verifying reader finds the layout
  `asmLayout o bss` in `tableAssemble o bss` (`AsmCtx.layout`), and that layout is good (`AsmCtx.wf`).
  `build_wf` is the case of the builder's own partition `tableCut o es`; its hypothesis `hfile`
  bounds the file that is built.  `build_wf_of_bound` takes that bound from the entries: the file
  is no longer than `tableLenBound` (`tableAssemble_length_le`).
-/
import LcdbModel.Lemmas.TableAssembleRead
import LcdbModel.Lemmas.TableBlockCursor
import LcdbModel.Props.BlockProps
namespace Lcdb

structure AsmCtx (o : TableOpts) (bss : List (List (Bytes × Bytes))) : Prop where
  hri : 1 ≤ o.restartInterval
  hne : ∀ b ∈ bss, b ≠ []
  hsorted : SortedKeys (ikeyCmp o.cmp) (bss.flatten.map (·.1))
  hsz : ∀ e ∈ bss.flatten, 8 ≤ e.1.length ∧ e.1.length < 2 ^ 32 ∧ e.2.length < 2 ^ 32
  hfile : (tableAssemble o bss).length < 2 ^ 32
  hraw : tableRawBound bss.flatten < 2 ^ 31

def asmInfos (o : TableOpts) (bss : List (List (Bytes × Bytes))) : List BlkInfo :=
  infoGo o none (layGo o 0 bss)

def asmFooter (o : TableOpts) (bss : List (List (Bytes × Bytes))) : Footer :=
  tailFooter o (dataBytes o 0 bss).length (tableFilterC o bss) (blockBuild 1 (tableIndex o bss))

def asmLayout (o : TableOpts) (bss : List (List (Bytes × Bytes))) : Layout :=
  { footer := asmFooter o bss, index := blockBuild 1 (tableIndex o bss), blocks := asmInfos o bss }

section
variable {o : TableOpts} {bss : List (List (Bytes × Bytes))}

theorem tableIndex_eq (o : TableOpts) (bss : List (List (Bytes × Bytes))) :
    tableIndex o bss = (asmInfos o bss).map fun b => (b.sep, b.hv) :=
  ixGo_eq_infoGo o (layGo o 0 bss) none

theorem infos_mem {x : BlkInfo} (hx : x ∈ asmInfos o bss) :
    ∃ sep bh, x = mkInfo o sep bh ∧ bh ∈ layGo o 0 bss ∧ bh.1 ∈ bss ∧
      sep.length ≤ (lastKeyOf bh.1).length := by
  obtain ⟨sep, bh, h1, h2, h3⟩ := mem_infoGo o (layGo o 0 bss) none x hx
  simp only [Option.toList_none, List.nil_append] at h2
  refine ⟨sep, bh, h1, h2, lay_mem h2, ?_⟩
  rcases h3 with rfl | ⟨y, rfl⟩
  · exact (ikeySuccessor_cases _ _).1
  · exact (ikeySeparator_cases _ _ _).1

theorem infos_entries (o : TableOpts) (bss : List (List (Bytes × Bytes))) :
    (asmInfos o bss).flatMap (·.entries) = bss.flatten := by
  rw [asmInfos, infoGo_entries]
  exact lay_flatMap o bss

theorem infos_index_facts (hne : ∀ b ∈ bss, b ≠ []) (hd : (dataBytes o 0 bss).length < 2 ^ 32) :
    ∀ b ∈ asmInfos o bss,
      b.sep.length ≤ (lastKeyOf b.entries).length ∧ b.hv.length ≤ 20 ∧ b.entries ≠ [] := by
  intro x hx
  obtain ⟨sep, bh, rfl, h2, h3, h4⟩ := infos_mem hx
  have hb := (layGo_spec o true bss [] [] bh h2).1
  simp only [List.length_nil] at hb
  exact ⟨h4, handleEncode_length_le bh.2 (by omega) (by omega), hne bh.1 h3⟩

theorem index_sizes (hne : ∀ b ∈ bss, b ≠ [])
    (hsz : ∀ e ∈ bss.flatten, 8 ≤ e.1.length ∧ e.1.length < 2 ^ 32 ∧ e.2.length < 2 ^ 32)
    (hd : (dataBytes o 0 bss).length < 2 ^ 32) :
    ∀ e ∈ tableIndex o bss, e.1.length < 2 ^ 32 ∧ e.2.length < 2 ^ 32 := by
  intro e he
  rw [tableIndex_eq] at he
  obtain ⟨x, hx, rfl⟩ := List.mem_map.mp he
  obtain ⟨h1, h2, h3⟩ := infos_index_facts hne hd x hx
  obtain ⟨e', he', hl⟩ := lastKeyOf_mem x.entries h3
  have hmem : e' ∈ bss.flatten := by
    rw [← infos_entries o bss]
    exact List.mem_flatMap.mpr ⟨x, hx, he'⟩
  have := hsz e' hmem
  rw [hl] at h1
  simp only []
  omega

end

theorem filter_of_bits {o : TableOpts} (bss : List (List (Bytes × Bytes))) {bits : Nat}
    (hb : o.filterBits = some bits) :
    o.policy = some (ifpPolicy (bloomPolicy bits)) ∧
    tableFilterC o bss = some (filterBuild (ifpPolicy (bloomPolicy bits))
      (fblGo o 0 bss ++ [((dataBytes o 0 bss).length, [])])) := by
  have hp : o.policy = some (ifpPolicy (bloomPolicy bits)) := by
    simp only [TableOpts.policy, hb, Option.map_some]
  exact ⟨hp, by simp only [tableFilterC, hp, Option.map_some]⟩

namespace AsmCtx
variable {o : TableOpts} {bss : List (List (Bytes × Bytes))}

theorem entry_sizes (C : AsmCtx o bss) : ∀ b ∈ bss, ∀ e ∈ b, 8 ≤ e.1.length ∧ e.1.length < 2 ^ 32 ∧ e.2.length < 2 ^ 32 :=
  fun b hb e he => C.hsz e (List.mem_flatten.mpr ⟨b, hb, he⟩)

theorem data_raw_lt (C : AsmCtx o bss) : ∀ b ∈ bss, (blockBuild o.restartInterval b).length < 2 ^ 31 := by
  intro b hb
  have h1 := blockBuild_length_le o.restartInterval b (fun e he => (C.entry_sizes b hb e he).2)
  have h2 := blockSizeBound_le_raw bss b hb
  have h3 := C.hraw
  omega

theorem data_parse (C : AsmCtx o bss) : ∀ b ∈ bss, blockParse (blockBuild o.restartInterval b) = some b := by
  intro b hb
  have := C.data_raw_lt b hb
  exact block_roundtrip _ b C.hri (fun e he => (C.entry_sizes b hb e he).2) (by omega)

theorem data_len (C : AsmCtx o bss) : (dataBytes o 0 bss).length < 2 ^ 32 := by
  have := C.hfile
  rw [tableAssemble, List.length_append] at this
  omega

theorem data_read (C : AsmCtx o bss) (v : Bool) (bh : List (Bytes × Bytes) × BlockHandle)
    (h : bh ∈ layGo o 0 bss) :
    readBlock (tableAssemble o bss) bh.2.offset bh.2.size v = .ok (blockBuild o.restartInterval bh.1) := by
  have := C.data_raw_lt bh.1 (lay_mem h)
  exact (layGo_spec o v bss [] _ bh h).2 (by rw [Snappy.maxLength_eq]; omega)

theorem infos_blkInfo (C : AsmCtx o bss) (x : BlkInfo) (hx : x ∈ asmInfos o bss) :
    blkInfo (tableAssemble o bss) (x.sep, x.hv) = some x := by
  obtain ⟨sep, bh, rfl, h2, h3, _⟩ := infos_mem hx
  have hb := (layGo_spec o true bss [] [] bh h2).1
  have hd := C.data_len
  simp only [List.length_nil] at hb
  exact blkInfo_mk o _ sep bh (by omega) (by omega) (C.data_read true bh h2) (C.data_parse bh.1 h3)

theorem index_raw_lt (C : AsmCtx o bss) : (blockBuild 1 (tableIndex o bss)).length < 2 ^ 31 := by
  have h1 := blockBuild_length_le 1 (tableIndex o bss) (index_sizes C.hne C.hsz C.data_len)
  have h2 := index_bound (asmInfos o bss) (infos_index_facts C.hne C.data_len)
  rw [← tableIndex_eq, infos_entries] at h2
  have h3 := C.hraw
  rw [tableRawBound_eq] at h3
  omega

theorem index_parse (C : AsmCtx o bss) : blockParse (blockBuild 1 (tableIndex o bss)) = some (tableIndex o bss) := by
  have := C.index_raw_lt
  exact block_roundtrip 1 _ (Nat.le_refl 1) (index_sizes C.hne C.hsz C.data_len) (by omega)

theorem layout (C : AsmCtx o bss) : tableLayout (tableAssemble o bss) = some (asmLayout o bss) := by
  obtain ⟨hf1, hf2⟩ := tail_footer_read o (dataBytes o 0 bss) (tableFilterC o bss)
    (blockBuild 1 (tableIndex o bss)) (by have := C.hfile; unfold tableAssemble at this; omega)
  have hix := tail_index_read o (dataBytes o 0 bss) (tableFilterC o bss)
    (blockBuild 1 (tableIndex o bss)) true (by have := C.index_raw_lt; rw [Snappy.maxLength_eq]; omega)
  have hbl := blkInfos_of_forall (tableAssemble o bss) (asmInfos o bss) C.infos_blkInfo
  rw [← tableIndex_eq] at hbl
  unfold tableLayout
  rw [if_neg (by exact hf1)]
  unfold tableAssemble at hbl ⊢
  rw [hf2]
  simp only [tailFooter]
  rw [hix]
  simp only [C.index_parse, hbl]
  rfl

theorem filter_len (C : AsmCtx o bss) {c : Bytes} (hc : tableFilterC o bss = some c) : c.length < 2 ^ 32 := by
  have := C.hfile
  rw [tableAssemble, List.length_append, tailBytes_length, hc] at this
  simp only [filterBytes, rawBlockBytes_length] at this
  omega

theorem meta_raw (C : AsmCtx o bss) :
    (∀ e ∈ metaEntries (dataBytes o 0 bss).length (tableFilterC o bss), e.1.length < 2 ^ 32 ∧ e.2.length < 2 ^ 32) ∧
    (blockBuild o.restartInterval (metaEntries (dataBytes o 0 bss).length (tableFilterC o bss))).length < 2 ^ 31 := by
  have hlt := C.data_len
  obtain ⟨h1, h2⟩ := meta_bound (dataBytes o 0 bss).length (tableFilterC o bss) (by omega)
    (fun c hc => by have := C.filter_len hc; omega)
  refine ⟨h1, ?_⟩
  have := blockBuild_length_le o.restartInterval _ h1
  omega

theorem meta_read (C : AsmCtx o bss) (v : Bool) :
    readBlock (tableAssemble o bss) (asmFooter o bss).metaindex.offset (asmFooter o bss).metaindex.size v
      = .ok (blockBuild o.restartInterval (metaEntries (dataBytes o 0 bss).length (tableFilterC o bss))) := by
  have := C.meta_raw.2
  exact tail_meta_read o (dataBytes o 0 bss) (tableFilterC o bss) (blockBuild 1 (tableIndex o bss)) v
    (by rw [Snappy.maxLength_eq]; omega)

/-- the two filter-related parts of `Layout.Good` are hypotheses: they need the case split on the
    policy (`wf_nofilter`, `wf`) -/
theorem wf_of (C : AsmCtx o bss)
    (hm : metaReadable o (tableAssemble o bss) (asmLayout o bss))
    (hf : ∀ paranoid, filterCovers o (tableAssemble o bss) (asmLayout o bss) paranoid) :
    TableWF o (tableAssemble o bss) bss.flatten := by
  unfold TableWF
  rw [C.layout]
  refine ⟨?_, ?_, ?_, ?_, C.hsz, C.hsorted, ?_, hm, hf true, hf false⟩
  · show CanonBlock (blockBuild 1 (tableIndex o bss)) ((asmInfos o bss).map fun b => (b.sep, b.hv))
    rw [← tableIndex_eq]
    exact ⟨0, by omega, rfl⟩
  · have := C.index_raw_lt
    show (blockBuild 1 (tableIndex o bss)).length < 2 ^ 32
    omega
  · intro x hx
    have hx' : x ∈ asmInfos o bss := hx
    obtain ⟨h1, h2, h3⟩ := infos_index_facts C.hne C.data_len x hx'
    obtain ⟨sep, bh, rfl, h4, h5, _⟩ := infos_mem hx'
    have := C.data_raw_lt bh.1 h5
    refine ⟨by omega, canonBlock_build _ _ C.hri, h3, ?_⟩
    show (blockBuild o.restartInterval bh.1).length < 2 ^ 32
    omega
  · exact (infos_entries o bss).symm
  · refine sepsOk_infoGo o (layGo o 0 bss) none ?_ (by
      show SortedKeys _ (((layGo o 0 bss).flatMap (·.1)).map (·.1))
      rw [lay_flatMap]; exact C.hsorted)
    intro bh hbh
    have hb := lay_mem hbh
    exact ⟨C.hne _ hb, fun e he => ⟨(C.entry_sizes _ hb e he).1, (C.entry_sizes _ hb e he).2.1⟩⟩

theorem wf_nofilter (C : AsmCtx o bss) (hp : o.filterBits = none) :
    TableWF o (tableAssemble o bss) bss.flatten := by
  have hpol : o.policy = none := by simp only [TableOpts.policy, hp, Option.map_none]
  refine C.wf_of ⟨⟨_, C.meta_read true⟩, ?_⟩ fun _ => ?_
  · simp only [findFilterHandle, hpol]
  · simp only [filterCovers, hpol]

def filterHandle (o : TableOpts) (bss : List (List (Bytes × Bytes))) (c : Bytes) : BlockHandle :=
  { offset := (dataBytes o 0 bss).length, size := c.length }

theorem find_filter (C : AsmCtx o bss) {p : Policy} (hp : o.policy = some p) {c : Bytes}
    (hc : tableFilterC o bss = some c) (v : Bool) :
    findFilterHandle o (tableAssemble o bss) v (asmFooter o bss)
      = .ok (some (handleEncode (filterHandle o bss c))) := by
  obtain ⟨hm1, hm2⟩ := C.meta_raw
  have hr := C.meta_read v
  rw [hc] at hr hm1 hm2
  simp only [metaEntries] at hr hm1 hm2
  have hs := hm1 _ (List.mem_singleton.mpr rfl)
  obtain ⟨it, h1, h2, h3, h4⟩ := seek_single o.restartInterval filterKeyName
    (handleEncode { offset := (dataBytes o 0 bss).length, size := c.length }) C.hri hs.1 hs.2 (by omega)
  unfold findFilterHandle
  simp only [hp, hr, h1, h2, h3, h4, beq_self_eq_true, Bool.and_self, if_true]
  rfl

theorem filter_read (C : AsmCtx o bss) {c : Bytes} (hc : tableFilterC o bss = some c) (v : Bool) :
    readBlock (tableAssemble o bss) (filterHandle o bss c).offset (filterHandle o bss c).size v = .ok c := by
  have := tail_filter_read o (dataBytes o 0 bss) c (blockBuild 1 (tableIndex o bss)) v (C.filter_len hc)
  unfold tableAssemble
  rw [hc]
  exact this

theorem filterHandle_read (C : AsmCtx o bss) {c : Bytes} (hc : tableFilterC o bss = some c) :
    handleRead (handleEncode (filterHandle o bss c)) = some (filterHandle o bss c, []) := by
  have h1 := C.filter_len hc
  have h2 := C.data_len
  have := handle_roundtrip (filterHandle o bss c) [] (by show (dataBytes o 0 bss).length < 2 ^ 64; omega)
    (by show c.length < 2 ^ 64; omega)
  rwa [List.append_nil] at this

theorem read_meta (C : AsmCtx o bss) {p : Policy} (hp : o.policy = some p) {c : Bytes}
    (hc : tableFilterC o bss = some c) (v : Bool) :
    readMeta o (tableAssemble o bss) v (asmFooter o bss) = .ok (some c) := by
  unfold readMeta
  rw [C.find_filter hp hc v]
  simp only [readFilter, C.filterHandle_read hc, C.filter_read hc v]

theorem meta_readable (C : AsmCtx o bss) {p : Policy} (hp : o.policy = some p) {c : Bytes}
    (hc : tableFilterC o bss = some c) :
    metaReadable o (tableAssemble o bss) (asmLayout o bss) := by
  refine ⟨⟨_, C.meta_read true⟩, ?_⟩
  show match findFilterHandle o (tableAssemble o bss) true (asmFooter o bss) with
    | .ok (some v) => _
    | _ => True
  rw [C.find_filter hp hc true]
  simp only [C.filterHandle_read hc]
  exact ⟨c, C.filter_read hc true⟩

theorem filter_covers (C : AsmCtx o bss) {bits : Nat} (hb : o.filterBits = some bits) (v : Bool) :
    filterCovers o (tableAssemble o bss) (asmLayout o bss) v := by
  obtain ⟨hp, hc⟩ := filter_of_bits bss hb
  unfold filterCovers
  show match o.policy, readMeta o (tableAssemble o bss) v (asmFooter o bss) with
    | some p, .ok (some fc) => ∀ b ∈ asmInfos o bss, ∀ e ∈ b.entries, filterMatch p fc b.handle.offset e.1 = true
    | _, _ => True
  rw [C.read_meta hp hc v, hp]
  intro x hx e he
  obtain ⟨sep, bh, rfl, h2, _⟩ := infos_mem hx
  have hpw : List.Pairwise (fun a b : Nat × List Bytes => a.1 ≤ b.1)
      (fblGo o 0 bss ++ [((dataBytes o 0 bss).length, [])]) := by
    obtain ⟨p1, p2⟩ := fblGo_pairwise o bss 0
    rw [List.pairwise_append]
    refine ⟨p1, by simp, ?_⟩
    intro a ha b hb'
    simp only [List.mem_singleton] at hb'
    subst hb'
    have := (p2 a ha).2
    simp only []; omega
  have hmem : (bh.2.offset, bh.1.map (·.1)) ∈ fblGo o 0 bss ++ [((dataBytes o 0 bss).length, [])] := by
    apply List.mem_append_left
    rw [fblGo_eq]
    exact List.mem_map.mpr ⟨bh, h2, rfl⟩
  exact filter_covers_block _ (ifpPolicy_sound _ (bloomPolicy_sound bits)) _ hpw (C.filter_len hc)
    bh.2.offset (bh.1.map (·.1)) hmem e.1 (List.mem_map_of_mem he) _ rfl

theorem wf (C : AsmCtx o bss) : TableWF o (tableAssemble o bss) bss.flatten := by
  cases hb : o.filterBits with
  | none => exact C.wf_nofilter hb
  | some bits =>
    obtain ⟨hp, hc⟩ := filter_of_bits bss hb
    exact C.wf_of (C.meta_readable hp hc) (C.filter_covers hb)

end AsmCtx

theorem asmCtx_of_build (o : TableOpts) (es : List (Bytes × Bytes)) (hri : 1 ≤ o.restartInterval)
    (hsorted : SortedKeys (ikeyCmp o.cmp) (es.map (·.1)))
    (hsz : ∀ e ∈ es, 8 ≤ e.1.length ∧ e.1.length < 2 ^ 32 ∧ e.2.length < 2 ^ 32)
    (hfile : (tableBuild o es).length < 2 ^ 32) (hraw : tableRawBound es < 2 ^ 31) :
    AsmCtx o (tableCut o es) where
  hri := hri
  hne := tableCut_ne_nil o es
  hsorted := by rw [tableCut_flatten]; exact hsorted
  hsz := by rw [tableCut_flatten]; exact hsz
  hfile := by rw [← tableBuild_eq]; exact hfile
  hraw := by rw [tableCut_flatten]; exact hraw

theorem build_wf_nofilter (o : TableOpts) (es : List (Bytes × Bytes)) (hri : 1 ≤ o.restartInterval)
    (hsorted : SortedKeys (ikeyCmp o.cmp) (es.map (·.1)))
    (hsz : ∀ e ∈ es, 8 ≤ e.1.length ∧ e.1.length < 2 ^ 32 ∧ e.2.length < 2 ^ 32)
    (hfile : (tableBuild o es).length < 2 ^ 32) (hraw : tableRawBound es < 2 ^ 31)
    (hnf : o.filterBits = none) :
    TableWF o (tableBuild o es) es := by
  have C := asmCtx_of_build o es hri hsorted hsz hfile hraw
  have := C.wf_nofilter hnf
  rwa [← tableBuild_eq, tableCut_flatten] at this

/-- `hfile` bounds all stored sizes and offsets (and the never-compressed filter block),
    `hraw` keeps every raw block below the Snappy limit 2^31. -/
theorem build_wf (o : TableOpts) (es : List (Bytes × Bytes)) (hri : 1 ≤ o.restartInterval)
    (hsorted : SortedKeys (ikeyCmp o.cmp) (es.map (·.1)))
    (hsz : ∀ e ∈ es, 8 ≤ e.1.length ∧ e.1.length < 2 ^ 32 ∧ e.2.length < 2 ^ 32)
    (hfile : (tableBuild o es).length < 2 ^ 32) (hraw : tableRawBound es < 2 ^ 31) :
    TableWF o (tableBuild o es) es := by
  have C := asmCtx_of_build o es hri hsorted hsz hfile hraw
  have := C.wf
  rwa [← tableBuild_eq, tableCut_flatten] at this

/-- `tableRawBound` once for the data blocks (a stored block is no longer than the raw one and its
    trailer), once for the index block, once more for the filter's offset array (4 bytes per 2 KiB
    of data), metaindex block and footer; `bits + 9` bytes per key cover the bloom filters. -/
def tableLenBound (o : TableOpts) (es : List (Bytes × Bytes)) : Nat :=
  3 * tableRawBound es + (o.filterBits.getD 0 + 9) * es.length

theorem tableFilterC_length_le (o : TableOpts) (bss : List (List (Bytes × Bytes))) :
    (filterBytes (tableFilterC o bss)).length ≤
      (o.filterBits.getD 0 + 9) * bss.flatten.length + 4 * ((dataBytes o 0 bss).length / filterBase) + 14 := by
  cases hb : o.filterBits with
  | none => simp only [tableFilterC, TableOpts.policy, hb, Option.map_none, filterBytes]; exact Nat.zero_le _
  | some bits =>
    have := filterBuild_length_le (ifpBloom_size bits) (fblGo o 0 bss ++ [((dataBytes o 0 bss).length, [])])
      (D := (dataBytes o 0 bss).length) fun blk hblk => by
        rcases List.mem_append.mp hblk with h | h
        · have := ((fblGo_pairwise o bss 0).2 blk h).2; omega
        · rw [List.mem_singleton.mp h]; exact Nat.le_refl _
    have hk : ((fblGo o 0 bss).map (·.2.length)).sum = bss.flatten.length := by
      rw [List.length_flatten, fblGo_eq, List.map_map]
      conv => rhs; rw [← layGo_map_fst o bss 0, List.map_map]
      congr 1
      exact List.map_congr_left fun bh _ => List.length_map _
    simp only [(filter_of_bits bss hb).2, filterBytes, rawBlockBytes_length, List.map_append, List.sum_append, hk,
      List.map_cons, List.map_nil, List.sum_cons, List.sum_nil, List.length_nil, Nat.add_zero,
      Option.getD_some] at this ⊢
    omega

theorem tableAssemble_length_le (o : TableOpts) (bss : List (List (Bytes × Bytes)))
    (hne : ∀ b ∈ bss, b ≠ [])
    (hsz : ∀ e ∈ bss.flatten, 8 ≤ e.1.length ∧ e.1.length < 2 ^ 32 ∧ e.2.length < 2 ^ 32)
    (h : tableLenBound o bss.flatten < 2 ^ 32) :
    (tableAssemble o bss).length ≤ tableLenBound o bss.flatten := by
  rw [tableLenBound, tableRawBound_eq] at h ⊢
  have hd := dataBytes_length_le o bss (fun b hb => ⟨hne b hb, fun e he =>
    (hsz e (List.mem_flatten.mpr ⟨b, hb, he⟩)).2⟩) 0
  have hd32 : (dataBytes o 0 bss).length < 2 ^ 32 := by omega
  have hf := tableFilterC_length_le o bss
  have hdiv := Nat.div_mul_le_self (dataBytes o 0 bss).length filterBase
  have hx := blockBuild_length_le 1 (tableIndex o bss) (index_sizes hne hsz hd32)
  have hx2 := index_bound (asmInfos o bss) (infos_index_facts hne hd32)
  rw [← tableIndex_eq, infos_entries] at hx2
  simp only [filterBase, filterBaseLg] at hf hdiv
  have ht := tailBytes_length_le o (dataBytes o 0 bss) (tableFilterC o bss) (blockBuild 1 (tableIndex o bss)) (by omega)
  rw [tableAssemble, List.length_append]
  omega

theorem build_wf_of_bound (o : TableOpts) (es : List (Bytes × Bytes)) (hri : 1 ≤ o.restartInterval)
    (hsorted : SortedKeys (ikeyCmp o.cmp) (es.map (·.1)))
    (hsz : ∀ e ∈ es, 8 ≤ e.1.length ∧ e.1.length < 2 ^ 32 ∧ e.2.length < 2 ^ 32)
    (h : tableLenBound o es < 2 ^ 32) : TableWF o (tableBuild o es) es := by
  have hl := tableAssemble_length_le o (tableCut o es) (tableCut_ne_nil o es)
  rw [tableCut_flatten, ← tableBuild_eq] at hl
  exact build_wf o es hri hsorted hsz (Nat.lt_of_le_of_lt (hl hsz h) h) (by rw [tableLenBound] at h; omega)

/- non-vacuity: the hypotheses of `build_wf` are satisfiable (two data blocks, Snappy, bloom filter) -/

private def exE (u : String) (seq v : Nat) : Bytes × Bytes := (ikeyEnc u.toUTF8.toList seq 1, List.replicate v 7)
private def exEntries : List (Bytes × Bytes) := [exE "aaa" 5 30, exE "aab" 9 40, exE "abc" 3 50, exE "b" 2 10]
private def exOpts : TableOpts :=
  { blockSize := 100, restartInterval := 3, compression := true, filterBits := some 10, cmp := .bytewise }

/-- Props/TableProps.lean restates this as an `example`, over its own copies of the private
    definitions above. -/
theorem exTable_wf : TableWF exOpts (tableBuild exOpts exEntries) exEntries :=
  build_wf_of_bound exOpts exEntries (by decide) (by unfold SortedKeys; decide +kernel) (by decide +kernel)
    (by decide +kernel)

example : TableWF exOpts (tableBuild exOpts exEntries) exEntries := exTable_wf

end Lcdb

