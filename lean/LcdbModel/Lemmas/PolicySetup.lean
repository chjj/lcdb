/-
  ldb_versions_setup_other_inputs (version_set.c:1956): a rule for it (`setupOtherInputs_rule`: it does not fault, and
  whichever branch is taken the result came out of one round of add_boundary_inputs / get_overlapping_inputs calls), what
  the pair (inputs[0], inputs[1]) it returns satisfies (`Selected`: where the files that were not taken lie, in `level`
  and in `level+1`: the gap the outputs go into), and the contracts (a), (a') of `stepOk (.compact ..)` that follow;
  ldb_versions_pick_compaction (:2066) and ldb_versions_compact_range (:2135): whatever they return was produced
  by setup_other_inputs from a seed that is `SeedOk`.
-/
import LcdbModel.Lemmas.PolicyInterval
import LcdbModel.Lemmas.PolicyGoi
namespace Lcdb.Policy
open Lcdb.CmpBasic Lcdb.Lsm

/-- setup_other_inputs, as a rule: what holds after every round whose `base` is the seed or a
    get_overlapping_inputs(level, ..) result holds of the result, whichever branch was taken -/
theorem setupOtherInputs_rule {c : Cmp} (mfs : Nat) (level0 : Bool) {lv lv1 : List FileMeta}
    (lv2 : Option (List FileMeta)) {seed : List FileMeta} (hb : BoundsOk c lv) (hb1 : BoundsOk c lv1) (hne : seed ≠ [])
    (P : Setup → Prop)
    (hP : ∀ base in0 r in1 all, (base = seed ∨ ∃ a b, goi c level0 lv (some a) (some b) = some base) →
      addBoundaryInputs c lv base = some in0 → getRange c in0 = some r →
      addBoundaryInputs c lv1 (lv1.filter (rangeHits c (some r.1.1) (some r.2.1))) = some in1 →
      getRange c (in0 ++ in1) = some all →
      P ⟨in0, in1, lv2.elim [] (·.filter (rangeHits c (some all.1.1) (some all.2.1))), r.2⟩) :
    ∃ s, setupOtherInputs c mfs level0 lv lv1 lv2 seed = some s ∧ P s := by
  have round : ∀ base in0, (base = seed ∨ ∃ a b, goi c level0 lv (some a) (some b) = some base) →
      addBoundaryInputs c lv base = some in0 → in0 ≠ [] →
      ∃ r in1 all, getRange c in0 = some r ∧
        addBoundaryInputs c lv1 (lv1.filter (rangeHits c (some r.1.1) (some r.2.1))) = some in1 ∧
        getRange c (in0 ++ in1) = some all ∧
        P ⟨in0, in1, lv2.elim [] (·.filter (rangeHits c (some all.1.1) (some all.2.1))), r.2⟩ := by
    intro base in0 hbase h0 hne0
    obtain ⟨r, hr⟩ := getRange_some_of_ne (c := c) hne0
    obtain ⟨in1, h1⟩ := addBoundaryInputs_total (lv1.filter (rangeHits c (some r.1.1) (some r.2.1))) hb1
    obtain ⟨all, hall⟩ := getRange_some_of_ne (c := c) (fs := in0 ++ in1) (fun he => hne0 (List.append_eq_nil_iff.mp he).1)
    exact ⟨r, in1, all, hr, h1, hall, hP base in0 r in1 all hbase h0 hr h1 hall⟩
  obtain ⟨in0, h0⟩ := addBoundaryInputs_total seed hb
  obtain ⟨added, hadd, _⟩ := addBoundaryInputs_closed hb h0
  obtain ⟨r, in1, all, hr, h1, hall, hP1⟩ :=
    round seed in0 (.inl rfl) h0 (fun he => hne (List.append_eq_nil_iff.mp (hadd ▸ he)).1)
  -- the attempt to grow `inputs[0]`: another round, or the stage as it was
  have grow : ∀ s : Stage,
      P ⟨s.in0, s.in1, lv2.elim [] (·.filter (rangeHits c (some s.allStart.1) (some s.allLimit.1))), s.largest⟩ →
      ∃ s', setupStage2 c mfs level0 lv lv1 s = some s' ∧
        P ⟨s'.in0, s'.in1, lv2.elim [] (·.filter (rangeHits c (some s'.allStart.1) (some s'.allLimit.1))), s'.largest⟩ := by
    intro s hs
    unfold setupStage2
    by_cases hlen : s.in1.length > 0
    · obtain ⟨e0a, he0a⟩ := goi_total c level0 lv (some s.allStart) (some s.allLimit)
      obtain ⟨e0, he0⟩ := addBoundaryInputs_total e0a hb
      rw [if_pos hlen]
      simp only [Option.bind_eq_bind, he0a, Option.bind_some, he0]
      by_cases hc : e0.length > s.in0.length ∧
          totalFileSize s.in1 + totalFileSize e0 < expandedCompactionByteSizeLimit mfs
      · obtain ⟨nr, e1, all, hnr, he1, hall, hP2⟩ := round e0a e0 (.inr ⟨_, _, he0a⟩) he0
          (fun he => by rw [he] at hc; exact absurd hc.1 (Nat.not_lt_zero _))
        rw [if_pos hc]
        simp only [hnr, Option.bind_some, goi_deep, Option.map_some, he1, getRange2, hall, Option.pure_def]
        by_cases hlen1 : e1.length = s.in1.length
        · rw [if_pos hlen1]; exact ⟨_, rfl, hP2⟩
        · rw [if_neg hlen1]; exact ⟨s, rfl, hs⟩
      · rw [if_neg hc]; exact ⟨s, rfl, hs⟩
    · rw [if_neg hlen]; exact ⟨s, rfl, hs⟩
  obtain ⟨s2, h2, hP2⟩ := grow ⟨in0, in1, r.2, all.1, all.2⟩ hP1
  simp only [setupOtherInputs, setupStage1, Option.bind_eq_bind, h0, Option.bind_some, hr, goi_deep, Option.map_some, h1,
    getRange2, hall, Option.pure_def, h2]
  cases lv2 with
  | none => exact ⟨_, rfl, hP2⟩
  | some l2 => exact ⟨_, rfl, hP2⟩

/-- setup_other_inputs does not fault: no fuel exhaustion, no get_range on an empty vector -/
theorem versionSetup_total (c : Cmp) (mfs : Nat) (v : Version) (level : Nat) (seed : List FileMeta)
    (hlev : level + 1 < numLevels) (hb : BoundsOk c (v.files level)) (hb1 : BoundsOk c (v.files (level + 1)))
    (hne : seed ≠ []) : ∃ s, versionSetup c mfs v level seed = some s := by
  unfold versionSetup
  rw [if_pos hlev]
  exact (setupOtherInputs_rule mfs (level == 0) _ hb hb1 hne (fun _ => True) (fun _ _ _ _ _ _ _ _ _ _ => trivial)).imp
    fun _ h => h.1

/-- how `pick_compaction` / `compact_range` seed `inputs[0]` -/
structure SeedOk (c : Cmp) (lv : List FileMeta) (level0 : Bool) (seed : List FileMeta) : Prop where
  nonempty : seed ≠ []
  sub : ∀ f ∈ seed, f ∈ lv
  shape : if level0 then Closed0 c lv seed else Interval c lv seed

/-- what setup_other_inputs guarantees of `(inputs[0], inputs[1])`; the `Beside` of `rest1` is the gap the outputs
    go into -/
structure Selected (c : Cmp) (level0 : Bool) (lv lv1 in0 in1 : List FileMeta) : Prop where
  ne : in0 ≠ []
  sub0 : ∀ f ∈ in0, f ∈ lv
  sub1 : ∀ f ∈ in1, f ∈ lv1
  rest0 : if level0 then Closed0 c lv in0 else ∀ g ∈ lv, g ∉ in0 → Beside c in0 g
  rest1 : ∀ g ∈ lv1, g ∉ in1 → (∀ f ∈ in0, userRangesOverlap c f g = false) ∧ Beside c (in0 ++ in1) g

theorem selected_of_round {c : Cmp} {level0 : Bool} {lv lv1 base in0 in1 : List FileMeta} {r : IKey × IKey}
    (hs : level0 = false → LevelSorted c lv) (hs1 : LevelSorted c lv1) (hb : BoundsOk c lv) (hb1 : BoundsOk c lv1)
    (hbsub : ∀ f ∈ base, f ∈ lv) (hshape : if level0 then Closed0 c lv base else Interval c lv base)
    (h0 : addBoundaryInputs c lv base = some in0) (hr : getRange c in0 = some r)
    (h1 : addBoundaryInputs c lv1 (lv1.filter (rangeHits c (some r.1.1) (some r.2.1))) = some in1) :
    Selected c level0 lv lv1 in0 in1 := by
  have h00 : (∀ f ∈ in0, f ∈ lv) ∧ (if level0 then Closed0 c lv in0 else ∀ g ∈ lv, g ∉ in0 → Beside c in0 g) := by
    cases level0 with
    | true => rw [addBoundaryInputs_closed0 hb hbsub hshape] at h0; cases h0; exact ⟨hbsub, hshape⟩
    | false =>
      obtain ⟨hbe, hsub, _⟩ := addBoundaryInputs_beside (hs rfl) hb hbsub hshape h0
      exact ⟨hsub, hbe⟩
  -- `inputs[1]`: every file of level+1 hitting the range of `inputs[0]`; if it is not empty, one of its files does
  obtain ⟨hbe1, hsub1, hsup1⟩ := addBoundaryInputs_beside hs1 hb1 (fun f hf => (List.mem_filter.mp hf).1)
    (interval_filter_rangeHits hb1 _ _) h1
  have hex : ∀ f ∈ in1, ∃ f1 ∈ in1, rangeHits c (some r.1.1) (some r.2.1) f1 = true := by
    intro f hf
    obtain ⟨added, hr1, _, hnil, _⟩ := addBoundaryInputs_closed hb1 h1
    cases hin : lv1.filter (rangeHits c (some r.1.1) (some r.2.1)) with
    | nil => rw [hr1, hin, hnil hin] at hf; cases hf
    | cons a as =>
      have ha : a ∈ lv1.filter (rangeHits c (some r.1.1) (some r.2.1)) := hin ▸ List.mem_cons_self
      exact ⟨a, hsup1 a ha, (List.mem_filter.mp ha).2⟩
  refine ⟨fun he => (by rw [he] at hr; cases hr), h00.1, hsub1, h00.2, fun g hg hg1 => ?_⟩
  -- a file of level+1 left behind misses the range of `inputs[0]`.  It cannot be on one side of `inputs[0]` and on the
  -- other side of `inputs[1]`: a file of `inputs[1]` hits that range.
  obtain ⟨hmin, hmax⟩ := getRange_spec hr
  have hlo : ∀ f ∈ in0, ule c r.1.1 f.sk := fun f hf => ne_gt_of_not_ikLt (hmin f hf)
  have hhi : ∀ f ∈ in0, ule c f.lk r.2.1 := fun f hf => ne_gt_of_not_ikLt (hmax.2 f hf)
  have hgg : ule c g.sk g.lk := hb1.user g hg
  rcases not_rangeHits (Bool.eq_false_iff.mpr (fun hh => hg1 (hsup1 g (List.mem_filter.mpr ⟨hg, hh⟩)))) with
    ⟨_, ⟨rfl⟩, hm⟩ | ⟨_, ⟨rfl⟩, hm⟩
  · -- g.lk < r.smallest
    have h0 : ∀ f ∈ in0, c.compare g.lk f.sk = .lt := fun f hf => (cmp3_compare c).lt_of_lt_of_ne_gt hm (hlo f hf)
    refine ⟨fun f hf => userRangesOverlap_false_iff.mpr (.inr (h0 f hf)), .inl ?_⟩
    refine List.forall_mem_append.mpr ⟨fun f hf => ikLt_of_ult (h0 f hf), fun f hf => ?_⟩
    rcases hbe1 g hg hg1 with hb | hb
    · exact hb f hf
    · obtain ⟨f1, hf1, hhit⟩ := hex f hf
      exact absurd ((cmp3_compare c).lt_of_lt_of_ne_gt hm (((rangeHits_iff c _ _ f1).mp hhit).1 _ rfl))
        (not_lt_of_ule (ule_trans (ule_of_lt (hb f1 hf1)) hgg))
  · -- r.largest < g.sk
    have h0 : ∀ f ∈ in0, c.compare f.lk g.sk = .lt := fun f hf => (cmp3_compare c).lt_of_ne_gt_of_lt (hhi f hf) hm
    refine ⟨fun f hf => userRangesOverlap_false_iff.mpr (.inl (h0 f hf)), .inr ?_⟩
    refine List.forall_mem_append.mpr ⟨h0, fun f hf => ?_⟩
    rcases hbe1 g hg hg1 with hb | hb
    · obtain ⟨f1, hf1, hhit⟩ := hex f hf
      exact absurd ((cmp3_compare c).lt_of_ne_gt_of_lt (((rangeHits_iff c _ _ f1).mp hhit).2 _ rfl) hm)
        (not_lt_of_ule (ule_trans hgg (ikLt_ne_gt (hb f1 hf1))))
    · exact hb f hf

theorem goi_shape {c : Cmp} {level0 : Bool} {lv base : List FileMeta} {a b : IKey} (hb : BoundsOk c lv)
    (hg : goi c level0 lv (some a) (some b) = some base) :
    (∀ f ∈ base, f ∈ lv) ∧ if level0 then Closed0 c lv base else Interval c lv base := by
  refine ⟨goi_mem hg, ?_⟩
  cases level0 with
  | true =>
    obtain ⟨b', e', hg⟩ := goi_some hg
    exact (getOverlappingInputs_level0_closed hg).2
  | false =>
    rw [goi_deep] at hg
    cases hg
    exact interval_filter_rangeHits hb _ _

theorem versionSetup_selected {c : Cmp} {mfs : Nat} {v : Version} {level : Nat} {seed : List FileMeta} {s : Setup}
    (hs : (level == 0) = false → LevelSorted c (v.files level)) (hs1 : LevelSorted c (v.files (level + 1)))
    (hb : BoundsOk c (v.files level)) (hb1 : BoundsOk c (v.files (level + 1)))
    (hseed : SeedOk c (v.files level) (level == 0) seed) (h : versionSetup c mfs v level seed = some s) :
    level + 1 < numLevels ∧ Selected c (level == 0) (v.files level) (v.files (level + 1)) s.in0 s.in1 := by
  unfold versionSetup at h
  by_cases hlev : level + 1 < numLevels
  · obtain ⟨s', h', hsel⟩ := setupOtherInputs_rule mfs (level == 0)
      (if level + 2 < numLevels then some (v.files (level + 2)) else none) hb hb1 hseed.nonempty
      (fun s => Selected c (level == 0) (v.files level) (v.files (level + 1)) s.in0 s.in1)
      (fun base in0 r in1 _ hbase h0 hr h1 _ =>
        have hbase : (∀ f ∈ base, f ∈ v.files level) ∧
            if (level == 0) = true then Closed0 c (v.files level) base else Interval c (v.files level) base :=
          hbase.elim (fun e => e ▸ ⟨hseed.sub, hseed.shape⟩) (fun ⟨_, _, hg⟩ => goi_shape hb hg)
        selected_of_round hs hs1 hb hb1 hbase.1 hbase.2 h0 hr h1)
    rw [if_pos hlev, h'] at h
    cases h
    exact ⟨hlev, hsel⟩
  · rw [if_neg hlev] at h
    cases h

/-- contracts (a) and (a') of `stepOk (.compact ..)` over lists of files -/
theorem Selected.newer {c : Cmp} {level0 : Bool} {lv lv1 in0 in1 : List FileMeta} (h : Selected c level0 lv lv1 in0 in1)
    (hok : ∀ f ∈ lv, FileOk c f) (hok1 : ∀ f ∈ lv1, FileOk c f)
    (hk : ∀ f ∈ lv, ∀ e ∈ f.run, e.kind ≤ 1) (hk1 : ∀ f ∈ lv1, ∀ e ∈ f.run, e.kind ≤ 1)
    (hd : level0 = false → LevelSeqDistinct c lv) (hd1 : LevelSeqDistinct c lv1) :
    (∀ g ∈ lv, g ∉ in0 → ∀ f ∈ in0, NewerThan c g.run f.run) ∧
    (∀ g ∈ lv1, g ∉ in1 → (∀ f ∈ in0, NewerThan c g.run f.run) ∧ (∀ f ∈ in1, NewerThan c g.run f.run)) := by
  obtain ⟨_, hsub0, hsub1, hrest0, hrest1⟩ := h
  refine ⟨?_, fun g hg hg1 => ⟨fun f hf => ?_, ?_⟩⟩
  · cases level0 with
    | true => exact newer_of_closed0 hok hsub0 hrest0
    | false =>
      exact fun g hg hg0 => (hrest0 g hg hg0).newer (hok g hg) (fun f hf => hok f (hsub0 f hf)) (hk g hg)
        (fun f hf => hd rfl g hg f (hsub0 f hf))
  · exact newerThan_of_apart (hok f (hsub0 f hf)) (hok1 g hg)
      ((hrest1 g hg hg1).1 f hf)
  · exact (Beside.mono (hrest1 g hg hg1).2 (fun f hf => List.mem_append_right _ hf)).newer (hok1 g hg)
      (fun f hf => hok1 f (hsub1 f hf)) (hk1 g hg) (fun f hf => hd1 g hg f (hsub1 f hf))

/-- size / seek compaction on a level ≥ 1: the single picked file -/
theorem seedOk_singleton {c : Cmp} {lv : List FileMeta} {f : FileMeta} (hb : BoundsOk c lv) (hf : f ∈ lv) :
    SeedOk c lv false [f] :=
  ⟨List.cons_ne_nil _ _, fun g hg => by rw [List.mem_singleton.mp hg]; exact hf, by simp only [Bool.false_eq_true, if_false]; exact interval_singleton hb hf⟩

/-- level 0 (pick_compaction's re-expansion, compact_range): a non-empty get_overlapping_inputs result -/
theorem seedOk_goi0 {c : Cmp} {lv r : List FileMeta} {b e : Option IKey} (h : goi c true lv b e = some r)
    (hne : r ≠ []) : SeedOk c lv true r := by
  obtain ⟨b', e', hg⟩ := goi_some h
  exact ⟨hne, goi_mem h, (getOverlappingInputs_level0_closed hg).2⟩

theorem cutInputs_prefix (limit : Nat) (l : List FileMeta) (total : Nat) :
    ∃ q, l = cutInputs limit l total ++ q := by
  induction l generalizing total with
  | nil => exact ⟨[], rfl⟩
  | cons f fs ih =>
    simp only [cutInputs]
    split
    · exact ⟨fs, rfl⟩
    · obtain ⟨q, hq⟩ := ih (total + f.size)
      exact ⟨q, by rw [List.cons_append, ← hq]⟩

theorem cutInputs_ne (limit : Nat) (l : List FileMeta) (total : Nat) (h : l ≠ []) : cutInputs limit l total ≠ [] := by
  cases l with
  | nil => exact absurd rfl h
  | cons f fs => simp only [cutInputs]; split <;> simp

theorem seedOk_compactRange_deep {c : Cmp} {lv r : List FileMeta} {b e : Option IKey} (hs : LevelSorted c lv)
    (hb : BoundsOk c lv) (h : goi c false lv b e = some r) (hne : r ≠ []) (limit : Nat) :
    SeedOk c lv false (cutInputs limit r 0) := by
  obtain ⟨q, hq⟩ := cutInputs_prefix limit r 0
  have hsubl := goi_sublist h
  refine ⟨cutInputs_ne limit r 0 hne, fun f hf => hsubl.subset (hq ▸ List.mem_append_left _ hf), ?_⟩
  -- the files hitting the range form an interval, and the cut keeps a prefix of them
  rw [goi_deep] at h
  cases h
  exact interval_prefix hs hb (hq ▸ hsubl) (hq ▸ interval_filter_rangeHits hb _ _)

theorem compactRange_seed {c : Cmp} {mfs : Nat} {v : Version} {level : Nat} {b e : Option IKey} {s : Setup}
    (hs : 1 ≤ level → LevelSorted c (v.files level)) (hb : BoundsOk c (v.files level))
    (h : compactRange c mfs v level b e = some (some s)) :
    ∃ seed, SeedOk c (v.files level) (level == 0) seed ∧ versionSetup c mfs v level seed = some s := by
  unfold compactRange at h
  cases hg : versionGoi c v level b e with
  | none => rw [hg] at h; cases h
  | some r =>
    rw [hg] at h
    cases r with
    | nil => cases h
    | cons f fs =>
      simp only [Option.map_eq_some_iff, Option.some.injEq, exists_eq_right] at h
      unfold versionGoi at hg
      by_cases hlt : level < numLevels
      · rw [if_pos hlt] at hg
        by_cases hl : level = 0
        · subst hl
          rw [if_neg (Nat.lt_irrefl 0)] at h
          exact ⟨_, seedOk_goi0 hg (List.cons_ne_nil f fs), h⟩
        · have hpos : level > 0 := Nat.pos_of_ne_zero hl
          have hl0 : (level == 0) = false := beq_false_of_ne hl
          rw [if_pos hpos] at h
          rw [hl0] at hg
          exact ⟨_, hl0 ▸ seedOk_compactRange_deep (hs hpos) hb hg (List.cons_ne_nil f fs) _, h⟩
      · rw [if_neg hlt] at hg
        cases hg

/-- the tail of pick_compaction (level-0 re-expansion + setup_other_inputs) from a single picked file.  The model has
    no name for that tail: `hk` is the end of the body of `pickCompaction`, word for word, as `simp only` leaves it in
    `pickCompaction_seed` once the seed `(lvl, [f])` is known. -/
theorem pickTail_seed {c : Cmp} {mfs : Nat} {v : Version} {lvl level : Nat} {s : Setup} {f : FileMeta}
    (hb : ∀ l, BoundsOk c (v.files l)) (hf : f ∈ v.files lvl)
    (hk : (match (if (lvl == 0) = true then
          match getRange c [f] with
          | none => none
          | some r => versionGoi c v 0 (some r.1) (some r.2)
        else some [f]) with
      | none => none
      | some in0' => (versionSetup c mfs v lvl in0').map (fun s => some (lvl, s))) = some (some (level, s))) :
    ∃ seed, SeedOk c (v.files level) (level == 0) seed ∧ versionSetup c mfs v level seed = some s := by
  by_cases hl : lvl = 0
  · subst hl
    simp only [beq_self_eq_true, if_true, getRange, minFold, maxFold, List.foldl_nil] at hk
    cases hg : versionGoi c v 0 (some (smallest f)) (some (largest f)) with
    | none => rw [hg] at hk; cases hk
    | some r =>
      rw [hg] at hk
      simp only [Option.map_eq_some_iff, Option.some.injEq, Prod.mk.injEq] at hk
      obtain ⟨s', hs', hlv, rfl⟩ := hk
      subst hlv
      refine ⟨r, ?_, hs'⟩
      unfold versionGoi at hg
      rw [if_pos (by decide)] at hg
      have hfr : f ∈ r := by
        obtain ⟨b', e', hg'⟩ := goi_some hg
        apply (getOverlappingInputs_level0_closed hg').1 f hf
        rw [rangeHits_iff]
        exact ⟨fun k hk => by cases hk; exact (BoundsOk.user (hb 0)) f hf,
          fun k hk => by cases hk; exact (BoundsOk.user (hb 0)) f hf⟩
      exact seedOk_goi0 hg (fun he => by rw [he] at hfr; cases hfr)
  · have hl0 : (lvl == 0) = false := beq_false_of_ne hl
    rw [hl0] at hk
    simp only [Bool.false_eq_true, if_false, Option.map_eq_some_iff, Option.some.injEq, Prod.mk.injEq] at hk
    obtain ⟨s', hs', hlv, rfl⟩ := hk
    subst hlv
    exact ⟨[f], hl0 ▸ seedOk_singleton (hb lvl) hf, hs'⟩

theorem pickCompaction_seed {c : Cmp} {mfs : Nat} {v : Version} {sz : Option Nat} {seek : Option (Nat × FileMeta)}
    {cp : Option IKey} {level : Nat} {s : Setup} (hb : ∀ l, BoundsOk c (v.files l))
    (hseek : sz = none → ∀ l f, seek = some (l, f) → f ∈ v.files l)
    (h : pickCompaction c mfs v sz seek cp = some (some (level, s))) :
    ∃ seed, SeedOk c (v.files level) (level == 0) seed ∧ versionSetup c mfs v level seed = some s := by
  unfold pickCompaction at h
  cases sz with
  | some l =>
    by_cases hl : l + 1 < numLevels
    · simp only [if_pos hl] at h
      cases hfa : firstAfterPointer c (v.files l) cp with
      | some f =>
        simp only [hfa] at h
        exact pickTail_seed hb (List.mem_of_find?_eq_some hfa) h
      | none =>
        simp only [hfa] at h
        -- wrap-around: the first file of the level
        cases hfiles : v.files l with
        | nil => simp only [hfiles] at h; cases h
        | cons f tl =>
          have hf : f ∈ v.files l := hfiles ▸ List.mem_cons_self
          rw [hfiles] at h
          exact pickTail_seed hb hf h
    · simp only [if_neg hl] at h
      cases h
  | none =>
    cases seek with
    | some p => exact pickTail_seed hb (hseek rfl p.1 p.2 rfl) h
    | none => cases h

end Lcdb.Policy
