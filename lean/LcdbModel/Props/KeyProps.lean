/-
  The comparator / internal-key model (LcdbModel.Model.InternalKey):
  the bytewise comparator and the three registered user comparators are lawful total orders,
  shortest-separator / short-successor satisfy the comparator contract for all byte strings,
  internal keys round-trip, and the internal-key comparator with its separator / successor
  wrappers is a lawful total preorder (a total order on keys of at least 8 bytes).
-/
import LcdbModel.Lemmas.InternalKey
namespace Lcdb

structure CmpLawful (f : Bytes → Bytes → Ordering) : Prop where
  refl : ∀ a, f a a = .eq
  eq_iff : ∀ a b, f a b = .eq ↔ a = b
  swap : ∀ a b, f b a = (f a b).swap
  lt_trans : ∀ a b c, f a b = .lt → f b c = .lt → f a c = .lt
  le_lt_trans : ∀ a b c, f a b ≠ .gt → f b c = .lt → f a c = .lt
  lt_le_trans : ∀ a b c, f a b = .lt → f b c ≠ .gt → f a c = .lt
  le_trans : ∀ a b c, f a b ≠ .gt → f b c ≠ .gt → f a c ≠ .gt

end Lcdb

namespace Lcdb.KeyProps
open Lcdb

theorem bytesCmp_refl (a : Bytes) : bytesCmp a a = .eq := CmpBasic.bytesCmp_refl a

theorem bytesCmp_antisymm (a b : Bytes) : bytesCmp a b = .eq ↔ a = b := CmpBasic.bytesCmp_eq_iff a b

theorem bytesCmp_swap (a b : Bytes) : bytesCmp b a = (bytesCmp a b).swap := CmpBasic.bytesCmp_swap a b

theorem bytesCmp_trans (a b c : Bytes) :
    bytesCmp a b = .lt → bytesCmp b c = .lt → bytesCmp a c = .lt := CmpBasic.bytesCmp_lt_trans a b c

theorem bytesCmp_le_lt_trans (a b c : Bytes) :
    bytesCmp a b ≠ .gt → bytesCmp b c = .lt → bytesCmp a c = .lt :=
  CmpBasic.cmp3_bytesCmp.lt_of_ne_gt_of_lt

theorem bytesCmp_lt_le_trans (a b c : Bytes) :
    bytesCmp a b = .lt → bytesCmp b c ≠ .gt → bytesCmp a c = .lt :=
  CmpBasic.cmp3_bytesCmp.lt_of_lt_of_ne_gt

theorem bytesCmp_le_trans (a b c : Bytes) :
    bytesCmp a b ≠ .gt → bytesCmp b c ≠ .gt → bytesCmp a c ≠ .gt :=
  CmpBasic.cmp3_bytesCmp.ne_gt_trans

theorem cmp_lawful (c : Cmp) : CmpLawful c.compare where
  refl := CmpBasic.compare_refl c
  eq_iff := CmpBasic.compare_eq_iff c
  swap := CmpBasic.compare_swap c
  lt_trans := fun _ _ _ => CmpBasic.compare_lt_trans c
  le_lt_trans := fun _ _ _ => (CmpBasic.cmp3_compare c).lt_of_ne_gt_of_lt
  lt_le_trans := fun _ _ _ => (CmpBasic.cmp3_compare c).lt_of_lt_of_ne_gt
  le_trans := fun _ _ _ => (CmpBasic.cmp3_compare c).ne_gt_trans

theorem cmp_lawful_conj (c : Cmp) :
    (∀ a, c.compare a a = .eq) ∧
    (∀ a b, c.compare a b = .eq ↔ a = b) ∧
    (∀ a b, c.compare b a = (c.compare a b).swap) ∧
    (∀ a b d, c.compare a b = .lt → c.compare b d = .lt → c.compare a d = .lt) ∧
    (∀ a b d, c.compare a b ≠ .gt → c.compare b d = .lt → c.compare a d = .lt) ∧
    (∀ a b d, c.compare a b = .lt → c.compare b d ≠ .gt → c.compare a d = .lt) ∧
    (∀ a b d, c.compare a b ≠ .gt → c.compare b d ≠ .gt → c.compare a d ≠ .gt) :=
  have L := cmp_lawful c
  ⟨L.refl, L.eq_iff, L.swap, L.lt_trans, L.le_lt_trans, L.lt_le_trans, L.le_trans⟩

theorem shortestSeparator_self (a : Bytes) : shortestSeparator a a = a := by
  induction a with
  | nil => rfl
  | cons x xs ih => simp [shortestSeparator, ih]

theorem toNat_succ_of_lt (x : UInt8) (h : x.toNat < 255) : (x + 1).toNat = x.toNat + 1 := by
  rw [UInt8.toNat_add]; simp; omega

/-- the contract of `shortest_separator` in comparator.h ("if *start < limit, changes *start to a
    short string in [start,limit)"), for the bytewise comparator; `successor_contract` below is
    that of `short_successor` ("a short string >= *key") -/
theorem separator_contract (a b : Bytes) (h : bytesCmp a b = .lt) :
    bytesCmp a (shortestSeparator a b) ≠ .gt ∧ bytesCmp (shortestSeparator a b) b = .lt := by
  have self : ∀ a : Bytes, bytesCmp a a ≠ .gt := fun a => by rw [CmpBasic.bytesCmp_refl]; decide
  induction a generalizing b with
  | nil => exact ⟨self _, h⟩
  | cons x xs ih =>
    cases b with
    | nil => cases h
    | cons y ys =>
      simp only [shortestSeparator]
      split
      · -- common first byte: recurse
        rename_i hxy
        rw [beq_iff_eq] at hxy
        subst hxy
        rw [CmpBasic.bytesCmp_cons_self] at h ⊢
        rw [CmpBasic.bytesCmp_cons_self]
        exact ih ys h
      · split
        · -- truncate after the incremented byte
          rename_i hc
          simp only [Bool.and_eq_true, decide_eq_true_eq] at hc
          have h1 := toNat_succ_of_lt x hc.1
          rw [CmpBasic.bytesCmp_cons_of_lt (by omega), CmpBasic.bytesCmp_cons_of_lt (by omega)]
          exact ⟨by decide, rfl⟩
        · exact ⟨self _, h⟩

theorem successor_contract (a : Bytes) : bytesCmp a (shortSuccessor a) ≠ .gt := by
  induction a with
  | nil => decide
  | cons x xs ih =>
    simp only [shortSuccessor]
    split
    · rename_i hc
      have hx : x.toNat ≠ 255 := fun h => bne_iff_ne.mp hc (UInt8.toNat_inj.mp h)
      have h1 := toNat_succ_of_lt x (by have := x.toNat_lt; omega)
      rw [CmpBasic.bytesCmp_cons_of_lt (by omega)]; decide
    · rw [CmpBasic.bytesCmp_cons_self]; exact ih

theorem ikeyUser_ikeyEnc (u : Bytes) (seq ty : Nat) : ikeyUser (ikeyEnc u seq ty) = u :=
  ikeyUser_enc u _

theorem ikeyNum_ikeyEnc (u : Bytes) (seq ty : Nat) (h : packSeqType seq ty < 2 ^ 64) :
    ikeyNum (ikeyEnc u seq ty) = packSeqType seq ty :=
  ikeyNum_enc u _ h

theorem pkeyImport_ikeyEnc (u : Bytes) (seq ty : Nat) (hs : seq < 2 ^ 56) (ht : ty ≤ 1) :
    pkeyImport (ikeyEnc u seq ty) = some (u, seq, ty) := by
  have hp : packSeqType seq ty < 2 ^ 64 := by unfold packSeqType; omega
  have hl : ¬ (ikeyEnc u seq ty).length < 8 := by
    simp [ikeyEnc, fixedEnc_length]
  unfold pkeyImport
  simp only [hl, if_false, ikeyUser_ikeyEnc, ikeyNum_ikeyEnc u seq ty hp, pkeyImport.typeValue']
  unfold packSeqType
  have h1 : (seq * 256 + ty) % 256 = ty := by omega
  have h2 : (seq * 256 + ty) / 256 = seq := by omega
  rw [h1, h2, if_neg (by omega)]

theorem ikeyCmp_refl (c : Cmp) (x : Bytes) : ikeyCmp c x x = .eq := (cmp3_ikeyCmp c).refl x

theorem ikeyCmp_swap (c : Cmp) (x y : Bytes) : ikeyCmp c y x = (ikeyCmp c x y).swap :=
  (cmp3_ikeyCmp c).swap x y

theorem ikeyCmp_trans (c : Cmp) (x y z : Bytes) :
    ikeyCmp c x y = .lt → ikeyCmp c y z = .lt → ikeyCmp c x z = .lt :=
  (cmp3_ikeyCmp c).lt_trans x y z

theorem ikeyCmp_le_lt_trans (c : Cmp) (x y z : Bytes) :
    ikeyCmp c x y ≠ .gt → ikeyCmp c y z = .lt → ikeyCmp c x z = .lt :=
  (cmp3_ikeyCmp c).lt_of_ne_gt_of_lt

theorem ikeyCmp_lt_le_trans (c : Cmp) (x y z : Bytes) :
    ikeyCmp c x y = .lt → ikeyCmp c y z ≠ .gt → ikeyCmp c x z = .lt :=
  (cmp3_ikeyCmp c).lt_of_lt_of_ne_gt

theorem ikeyCmp_le_trans (c : Cmp) (x y z : Bytes) :
    ikeyCmp c x y ≠ .gt → ikeyCmp c y z ≠ .gt → ikeyCmp c x z ≠ .gt :=
  (cmp3_ikeyCmp c).ne_gt_trans

theorem ikeyCmp_gt_iff (c : Cmp) (x y : Bytes) :
    ikeyCmp c x y = .gt ↔
      c.compare (ikeyUser x) (ikeyUser y) = .gt ∨
        (ikeyUser x = ikeyUser y ∧ ikeyNum x < ikeyNum y) := by
  rw [(cmp3_ikeyCmp c).gt_iff, ikeyCmp_lt_iff, CmpBasic.compare_gt_iff, @eq_comm _ (ikeyUser y)]

theorem ikeyCmp_ne_gt_iff (c : Cmp) (x y : Bytes) :
    ikeyCmp c x y ≠ .gt ↔
      c.compare (ikeyUser x) (ikeyUser y) = .lt ∨
        (ikeyUser x = ikeyUser y ∧ ikeyNum y ≤ ikeyNum x) := by
  have ne_gt_iff : ∀ o : Ordering, o ≠ .gt ↔ o = .lt ∨ o = .eq := by decide
  rw [ne_gt_iff, ikeyCmp_lt_iff, ikeyCmp_eq_iff]
  constructor
  · rintro ((h | ⟨h1, h2⟩) | ⟨h1, h2⟩)
    · exact .inl h
    · exact .inr ⟨h1, by omega⟩
    · exact .inr ⟨h1, by omega⟩
  · rintro (h | ⟨h1, h2⟩)
    · exact .inl (.inl h)
    · by_cases h3 : ikeyNum x = ikeyNum y
      · exact .inr ⟨h1, h3⟩
      · exact .inl (.inr ⟨h1, by omega⟩)

theorem ikeyCmp_eq_iff_eq (c : Cmp) (x y : Bytes) (hx : 8 ≤ x.length) (hy : 8 ≤ y.length) :
    ikeyCmp c x y = .eq ↔ x = y := by
  have split : ∀ x : Bytes, 8 ≤ x.length →
      x = ikeyUser x ++ x.drop (x.length - 8) ∧ (x.drop (x.length - 8)).length = 8 :=
    fun x hx => ⟨(List.take_append_drop _ _).symm, by rw [List.length_drop]; omega⟩
  constructor
  · intro h
    rw [ikeyCmp_eq_iff] at h
    obtain ⟨sx, lx⟩ := split x hx
    obtain ⟨sy, ly⟩ := split y hy
    rw [sx, sy, h.1]
    congr 1
    exact fixedDec_inj _ _ (lx.trans ly.symm) h.2
  · intro h; subst h; exact (cmp3_ikeyCmp c).refl x

/- the length hypothesis is needed: short keys have user key `[]` and number `fixedDec` of
    everything, so distinct short keys can compare equal -/
example : ikeyCmp .bytewise [1] [1, 0] = .eq ∧ ([1] : Bytes) ≠ [1, 0] := by decide

/-- the contract of `separator_contract` for `ldb_ikc_shortest_separator` over any user
    comparator; the result still has its 8 bytes of trailer, which `ldb_ikc_compare` reads
    unchecked -/
theorem ikey_separator_contract (c : Cmp) (x y : Bytes) (hx : 8 ≤ x.length) (hy : 8 ≤ y.length)
    (h : ikeyCmp c x y = .lt) :
    ikeyCmp c x (ikeySeparator c x y) ≠ .gt ∧ ikeyCmp c (ikeySeparator c x y) y = .lt ∧
      8 ≤ (ikeySeparator c x y).length := by
  have _ := hy  -- both arguments are internal keys in every C caller; the proof uses only the start's length
  obtain ⟨_, e | ⟨rfl, hlen, hlt, e⟩⟩ := ikeySeparator_cases c x y <;> rw [e]
  · exact ⟨by simp [(cmp3_ikeyCmp c).refl], h, hx⟩
  · have hult : bytesCmp (ikeyUser x) (ikeyUser y) = .lt := by
      rcases (ikeyCmp_lt_iff _ _ _).mp h with h' | ⟨e, _⟩
      · exact h'
      · rw [← e, shortestSeparator_self] at hlen; omega
    refine ⟨?_, ?_, ?_⟩
    · rw [KeyProps.ikeyCmp_ne_gt_iff, ikeyUser_ikeyEnc]; exact .inl hlt
    · rw [ikeyCmp_lt_iff, ikeyUser_ikeyEnc]
      exact .inl (separator_contract _ _ hult).2
    · rw [ikeyEnc, List.length_append, fixedEnc_length]; omega

theorem ikey_successor_contract (c : Cmp) (x : Bytes) (hx : 8 ≤ x.length) :
    ikeyCmp c x (ikeySuccessor c x) ≠ .gt ∧ 8 ≤ (ikeySuccessor c x).length := by
  obtain ⟨_, e | ⟨rfl, _, hlt, e⟩⟩ := ikeySuccessor_cases c x <;> rw [e]
  · exact ⟨by simp [(cmp3_ikeyCmp c).refl], hx⟩
  · refine ⟨?_, ?_⟩
    · rw [KeyProps.ikeyCmp_ne_gt_iff, ikeyUser_ikeyEnc]; exact .inl hlt
    · rw [ikeyEnc, List.length_append, fixedEnc_length]; omega

example : bytesCmp [1, 2] [1, 3] = .lt ∧ bytesCmp [1, 3] [1, 3, 0] = .lt ∧
    bytesCmp [1, 2] [1, 3, 0] = .lt := by decide

example : Cmp.compare .reverse [1, 3] [1, 2] = .lt ∧ Cmp.compare .lenFirst [9] [1, 2] = .lt := by
  decide

-- the truncating branch of the separator
example : bytesCmp [1, 2, 3] [1, 5] = .lt ∧ shortestSeparator [1, 2, 3] [1, 5] = [1, 3] := by
  decide

example : bytesCmp [1, 2, 3] (shortestSeparator [1, 2, 3] [1, 5]) ≠ .gt ∧
    bytesCmp (shortestSeparator [1, 2, 3] [1, 5]) [1, 5] = .lt :=
  separator_contract [1, 2, 3] [1, 5] (by decide)

-- non-truncating branches: adjacent bytes, 0xff, and prefix
example : shortestSeparator [1, 2, 3] [1, 3] = [1, 2, 3] ∧
    shortestSeparator [255, 0] [255, 0, 1] = [255, 0] ∧
    shortestSeparator [1] [1, 2] = [1] := by decide

example : shortSuccessor [255, 7, 9] = [255, 8] ∧ shortSuccessor [255, 255] = [255, 255] := by
  decide

example : packSeqType 5 1 < 2 ^ 64 := by decide

example : pkeyImport (ikeyEnc [10, 20] 5 1) = some ([10, 20], 5, 1) :=
  pkeyImport_ikeyEnc [10, 20] 5 1 (by decide) (by decide)

-- `pkeyImport_ikeyEnc` needs `ty ≤ 1`: other type bytes are rejected
example : pkeyImport (ikeyEnc [10, 20] 5 2) = none := by decide

-- the shortening branch of the internal-key separator is reachable
example :
    let x := ikeyEnc [1, 2, 3] 7 1
    let y := ikeyEnc [1, 5] 9 1
    8 ≤ x.length ∧ 8 ≤ y.length ∧ ikeyCmp .bytewise x y = .lt ∧
      ikeySeparator .bytewise x y = ikeyEnc [1, 3] maxSequence valtypeSeek := by
  decide

example :
    let x := ikeyEnc [1, 2] 9 1
    let y := ikeyEnc [1, 2] 7 1
    ikeyCmp .bytewise x y = .lt ∧ ikeySeparator .bytewise x y = x := by
  decide

example :
    let x := ikeyEnc [1, 2, 3] 7 1
    8 ≤ x.length ∧ ikeySuccessor .bytewise x = ikeyEnc [2] maxSequence valtypeSeek := by
  decide

example : ikeyCmp .lenFirst (ikeyEnc [9] 1 1) (ikeyEnc [1, 2] 1 1) = .lt ∧
    ikeyCmp .reverse (ikeyEnc [2] 1 1) (ikeyEnc [1] 1 1) = .lt ∧
    ikeyCmp .bytewise (ikeyEnc [1] 2 1) (ikeyEnc [1] 2 0) = .lt := by decide

end Lcdb.KeyProps
