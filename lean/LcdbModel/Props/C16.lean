/-
  C16 -- table files round-trip under every option and follow the standard format.
  Whole tables: Props/TableProps.lean (`build_wf`, `wf_reads`, `table_roundtrip`); the parts:
  Props/BlockProps.lean (blocks and their iterator), Props/KeyProps.lean (separators, comparators),
  Props/FilterProps.lean (filter block, handles, footer), Props/SnappyProps.lean.
  This module gathers them for /verif/checks/C16.py, which builds it and audits the theorems by
  name.
-/
import LcdbModel.Props.TableProps
import LcdbModel.Props.BlockProps
import LcdbModel.Props.FilterProps
import LcdbModel.Props.SnappyProps
import LcdbModel.Props.KeyProps
