/-
  C04 at the level of the concurrency protocol: the updates of one batch, and of one commit group, become visible to
  readers together. (`Lcdb.C04` is the wire format of a batch: an encoded batch decodes to all of its operations.
  This file is the protocol part: the sequence that makes a group visible is published in one step, and readers
  only ever capture published sequences.)
-/
import LcdbModel.Props.C08

namespace Lcdb.C04Conc
open Lcdb.Conc Lcdb.C08

/-- The history changes only in `wCommit` steps (without a sync failure), by appending the batches of the whole
    group at once, together with the publication of the sequence and the ghost record of the group. -/
theorem committed_changes_only_in_commit {ws : List Writer} {rs : List Reader} (hwf : WF ws rs) {st st' : St}
    {l : Label} (h : Reachable ws rs st) (hs : step st l = some st') :
    (st'.committed = st.committed ∧ st'.lastSeq = st.lastSeq ∧ st'.groups = st.groups ∧ ∀ t, l ≠ .wCommit t false) ∨
    (∃ t, l = .wCommit t false ∧ st'.committed = st.committed ++ batchesOf st st.inflight ∧
      st'.lastSeq = st.lastSeq + st.inflight.length ∧ st'.groups = st.groups ++ [batchesOf st st.inflight]) :=
  step_history (reachable_Inv hwf h).q hs

theorem flatten_take_boundary (g : List (List Nat)) (k : Nat) :
    g.flatten.take ((g.take k).flatten).length = (g.take k).flatten := by
  have h : g.flatten = (g.take k).flatten ++ (g.drop k).flatten := by
    rw [← List.flatten_append, List.take_append_drop]
  rw [h, List.take_left' rfl]

/-- The history is the concatenation of the commit groups, and what a reader sees -- whatever sequence it
    captured, at any time -- is a whole number of groups: never a part of a group (hence never a part of a batch). -/
theorem batch_atomic_for_readers {ws : List Writer} {rs : List Reader} (hwf : WF ws rs) {st : St}
    (h : Reachable ws rs st) :
    st.committed = st.groups.flatten ∧
    ∀ r ∈ st.readers, ∀ s, captured r.pc = some s →
      ∃ k, k ≤ st.groups.length ∧ s = ((st.groups.take k).flatten).length ∧ view st s = (st.groups.take k).flatten := by
  have H := (reachable_Inv hwf h).l
  refine ⟨H.flat, ?_⟩
  intro r hr s hc
  have hm := reader_captured hwf h hr hc
  obtain ⟨k, hk, hs⟩ := H.log_bd _ hm
  refine ⟨k, hk, hs, ?_⟩
  unfold view
  rw [H.flat]
  simp only at hs
  rw [hs]; exact flatten_take_boundary _ _

/-- In a `wCommit` the batches of the group are appended in queue order, each exactly once, and none of them was
    in the history before. -/
theorem group_preserves_batches {ws : List Writer} {rs : List Reader} (hwf : WF ws rs) {st st' : St} {t : Tid}
    (h : Reachable ws rs st) (hs : step st (.wCommit t false) = some st') :
    ∃ members : List Writer,
      (∀ x ∈ members, x ∈ st.writers) ∧
      members.map (·.tid) = st.queue.take members.length ∧ members.map (·.tid) = st.inflight ∧
      members.head?.map (·.tid) = some t ∧
      st'.committed = st.committed ++ members.map (·.batch) ∧
      st'.lastSeq = st.lastSeq + members.length ∧
      (members.map (·.batch)).Nodup ∧ ∀ x ∈ members, x.batch ∉ st.committed := by
  have H := reachable_Inv hwf h
  have hi : st.inflight.head? = some t := by
    obtain ⟨w, _, hws⟩ := step_writer H.q hs rfl
    cases hws with
    | commit _ _ hi => exact hi
  rcases step_history H.q hs with ⟨_, _, _, hne⟩ | ⟨t', ht', hc, hl, _⟩
  · exact absurd rfl (hne t)
  have hex : ∀ m ∈ st.inflight, ∃ x ∈ st.writers, x.tid = m := fun m hm => H.q.qmem m (H.q.pfx.subset hm)
  have hmem : ∀ x ∈ st.inflight.filterMap (getW st), x ∈ st.writers ∧ x.tid ∈ st.inflight := by
    intro x hx
    obtain ⟨m, hm, hgm⟩ := List.mem_filterMap.1 hx
    obtain ⟨a, b⟩ := getW_some hgm
    exact ⟨a, by rw [b]; exact hm⟩
  have htid := map_tid_filterMap_getW _ hex
  have hlen : (st.inflight.filterMap (getW st)).length = st.inflight.length := by
    rw [← List.length_map (f := fun x : Writer => x.tid), htid]
  have hbat : (st.inflight.filterMap (getW st)).map (·.batch) = batchesOf st st.inflight := by
    rw [batchesOf, List.map_filterMap]
  have hgN : st.inflight.Nodup := List.Nodup.sublist H.q.pfx.sublist H.q.qnodup
  refine ⟨st.inflight.filterMap (getW st), fun x hx => (hmem x hx).1, ?_, htid, ?_, by rw [hbat]; exact hc,
    by rw [hlen]; exact hl, ?_, ?_⟩
  · rw [htid, hlen]; exact List.prefix_iff_eq_take.1 H.q.pfx
  · rw [← List.head?_map, htid]; exact hi
  · apply nodup_of_count_le
    intro b hb
    obtain ⟨x, hx, rfl⟩ := List.mem_map.1 hb
    rw [hbat, count_batches H.q.wnodup H.l.batches (hmem x hx).1 _ hgN]
    split <;> omega
  · intro x hx hb
    obtain ⟨hxw, hxi⟩ := hmem x hx
    have := (H.l.wc x hxw).mem_iff.1 hb
    rw [(H.q.queued_pending hxw (H.q.pfx.subset hxi)).1] at this; cases this

section Examples
open Lcdb.Conc.Demo

-- reader 12 captured sequence 1 while the group [20, 30] was being written: it sees exactly the first group
example : ∃ k, k ≤ st3.groups.length ∧ (1 : Nat) = ((st3.groups.take k).flatten).length ∧
    view st3 1 = (st3.groups.take k).flatten := by
  rw [st3_eq]
  exact (batch_atomic_for_readers wf reach3s).2 (s3.readers[1]'(by decide)) (List.getElem_mem _) 1 rfl
example : st3.groups = [[10], [20, 30]] ∧ view st3 1 = [10] := by rw [st3_eq]; decide
-- the group commit of leader 2 with follower 3
example : ∃ st', step st2 (.wCommit 2 false) = some st' := by rw [st2_eq]; exact ⟨_, rfl⟩

end Examples

end Lcdb.C04Conc
