/-
  T1 obligation: the constants extracted from /repo's *current* source (LcdbModel/Generated/Consts.lean,
  rewritten by tools/gen_lean.py on every check) equal the constants the models and theorems are stated
  over, for the log format, the CRC mask, the edit tags, the write batch and the internal key.  A changed
  constant makes the theorem of its group fail.  Elsewhere: the table and filter constants
  (`filterConsts_ok`, Props/FilterProps.lean), the CRC tables (Props/CrcTablesOk.lean).  Compared nowhere:
  `blockTrailerSize`, the three level-0 triggers, `maxMemCompactLevel`, the two compression types.
-/
import LcdbModel.Generated.Consts
import LcdbModel.Model.LogFormat
import LcdbModel.Model.WriteBatch
import LcdbModel.Model.InternalKey
import LcdbModel.Model.VersionEdit
namespace Lcdb.ConstsOk
open Lcdb

theorem logBlockSize_ok : Generated.logBlockSize = logBlockSize := by decide
theorem logHeaderSize_ok : Generated.logHeaderSize = logHeaderSize := by decide
theorem recTypes_ok : Generated.recZero = 0 ∧ Generated.recFull = tyFull ∧ Generated.recFirst = tyFirst ∧
    Generated.recMiddle = tyMiddle ∧ Generated.recLast = tyLast := by decide
theorem crcMask_ok : Generated.crcMaskDelta = maskDelta.toNat ∧ Generated.crcMaskRotR = 15 ∧ Generated.crcMaskRotL = 17 := by decide

theorem editTags_ok : Generated.tagComparator = tagComparator ∧ Generated.tagLogNumber = tagLogNumber ∧
    Generated.tagNextFileNumber = tagNextFileNumber ∧ Generated.tagLastSequence = tagLastSequence ∧
    Generated.tagCompactPointer = tagCompactPointer ∧ Generated.tagDeletedFile = tagDeletedFile ∧
    Generated.tagNewFile = tagNewFile ∧ Generated.tagPrevLogNumber = tagPrevLogNumber ∧ Generated.numLevels = numLevels := by decide
theorem batch_ok : Generated.batchHeader = batchHeaderSize ∧ Generated.typeDeletion = typeDeletion ∧ Generated.typeValue = typeValue := by decide
theorem ikey_ok : Generated.maxSequenceBits = 56 ∧ Generated.valtypeForSeek = valtypeSeek ∧ maxSequence = 2 ^ Generated.maxSequenceBits - 1 := by decide

end Lcdb.ConstsOk
