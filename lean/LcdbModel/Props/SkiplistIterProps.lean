/-
  The user-level iterator (db_iter.c) over the REAL memtable iterator (memtable.c over skiplist.c).

  The memtable iterator of a memtable holding `es` simulates the run cursor only for seek targets below 4 GiB
  (`Memtable.memiter_simOn` of Lemmas/MemtableIter.lean; `ldb_slice_export` truncates lengths ≥ 2^32).  So DBIter goes
  over it by `C07x.dbiter_is_map_cursor_on`, the DBIter theorem for an internal iterator that simulates the run cursor
  on the seek targets satisfying `P` (`InternalIter.SimOn P`), with the targets read off the public operations
  (`DbIter.opTarget`).
-/
import LcdbModel.Props.SkiplistProps
import LcdbModel.Props.IterProps
namespace Lcdb.DbIter

def opTarget : IterOp → Option Bytes
  | .seek t => some t | .seekGe t => some t | .seekGt t => some t | .seekLe t => some t | .seekLt t => some t
  | _ => none

theorem opTarget_eq (op : IterOp) : opTarget op = (toBlockOp op).target? := by
  cases op <;> rfl

end Lcdb.DbIter

namespace Lcdb.Skiplist
open Lcdb Lcdb.Memtable Lcdb.C07x

/-- `C07x.dbiter_is_map_cursor_on` with the seek targets given by `DbIter.opTarget`: DBIter over an internal iterator that
    simulates the run cursor on the targets satisfying `P` is the map cursor over `visibleMap c r s`, for every operation
    sequence whose seek targets satisfy `P · (seekPacked s)`.  The statement carries `hreach` (every cursor position is
    represented by some iterator state); the proof does not use it. -/
theorem dbiter_is_map_cursor_bounded {σ : Type} {I : InternalIter σ} {c : Cmp} {r : Run}
    {R : σ → Option Nat → Prop} (P : Bytes → Nat → Prop) (hsim : InternalIter.SimOn P I (runIter c r) R)
    (hreach : ∀ p : Option Nat, (∀ i, p = some i → i < r.length) → ∃ a, R a p)
    (hs : RunSorted c r) (hk : ∀ e ∈ r, e.kind ≤ 1) (s : Nat) {fuel : Nat} (hfuel : r.length + 2 ≤ fuel)
    {it₀ : σ} {p₀ : Option Nat} (h₀ : R it₀ p₀) (ops : List IterOp)
    (hops : ∀ op ∈ ops, ∀ t, DbIter.opTarget op = some t → P t (seekPacked s)) :
    ∃ st', DbIter.run I c s fuel ops (DbIter.create it₀) = some st' ∧
      Shows I st' (visibleMap c r s) (ops.foldl (mapCursorStep c (visibleMap c r s)) .invalid) := by
  have _ := hreach
  exact dbiter_is_map_cursor_on hsim hs hk s hfuel h₀ ops
    fun op hop t ht => hops op hop t (by rw [DbIter.opTarget_eq]; exact ht)

/-- DBIter over the iterator of a memtable that `Holds` `es` is the map cursor over the visible map of `es` -/
theorem dbiter_over_holds (tok : Bytes → String) {mt : Memtable} {es : List MEntry} (h : Holds mt es)
    (hk : ∀ e ∈ es, e.kind ≤ 1) (s : Nat) (hs : s < 2 ^ 56) {fuel : Nat} (hfuel : es.length + 2 ≤ fuel) (ops : List IterOp)
    (hops : ∀ op ∈ ops, ∀ t, DbIter.opTarget op = some t → t.length + 8 < 2 ^ 32) :
    ∃ st', DbIter.run (memIter tok mt) mt.c s fuel ops (DbIter.create iterInit) = some st' ∧
      Shows (memIter tok mt) st' (visibleMap mt.c (es.map (MEntry.toEntry tok)) s)
        (ops.foldl (mapCursorStep mt.c (visibleMap mt.c (es.map (MEntry.toEntry tok)) s)) .invalid) := by
  obtain ⟨L, ha⟩ := h.aligned
  refine dbiter_is_map_cursor_on (memiter_simOn tok ha) (Holds.runSorted tok h) ?_ s (by simpa using hfuel)
    (IterRel.none (L := L)) ops ?_
  · intro e he
    obtain ⟨m, hm, rfl⟩ := List.mem_map.mp he
    exact hk m hm
  · intro op hop t ht
    exact ⟨hops op hop t (by rw [DbIter.opTarget_eq]; exact ht), by unfold seekPacked valtypeSeek; omega⟩

/-- Well-formed writes with pairwise distinct internal keys and types ≤ 1, added by
    `ldb_memtable_add` in any order (node heights from the list's own generator): the adds do not fault, and for every
    snapshot sequence `s < 2^56` and EVERY sequence of the nine public operations whose seek targets are below 4 GiB, DBIter
    over the real memtable iterator does not fault (fuel `writes + 2`) and shows exactly what the sorted map
    `visibleMap c (mkRun c writes) s` dictates — same validity, key, value, status OK. -/
theorem dbiter_over_memtable (c : Cmp) (tok : Bytes → String) (ws : List MEntry) (hwf : ∀ e ∈ ws, e.wf)
    (hd : DistinctIKeys ws) (hk : ∀ e ∈ ws, e.kind ≤ 1) (s : Nat) (hs : s < 2 ^ 56) (ops : List IterOp)
    (hops : ∀ op ∈ ops, ∀ t, DbIter.opTarget op = some t → t.length + 8 < 2 ^ 32) :
    ∃ mt st', addMany (Memtable.create c) ws = some mt ∧
      DbIter.run (memIter tok mt) c s (ws.length + 2) ops (DbIter.create iterInit) = some st' ∧
      Shows (memIter tok mt) st' (visibleMap c (mkRun c (ws.map (MEntry.toEntry tok))) s)
        (ops.foldl (mapCursorStep c (visibleMap c (mkRun c (ws.map (MEntry.toEntry tok))) s)) .invalid) := by
  obtain ⟨mt, hrun, hc, hh⟩ := addMany_holds ws (Memtable.create c) [] (create_holds c)
    (randInit_range 0xdeadbeef) hwf hd
  have hc' : mt.c = c := hc
  have hperm := foldl_insert_perm (mrunInsert_perm (Memtable.create c).c) ws []
  obtain ⟨st', h1, h2⟩ := dbiter_over_holds tok hh (fun e he => hk e (hperm.mem_iff.mp he))
    s hs (fuel := ws.length + 2) (by rw [hperm.length_eq]; exact Nat.le_refl _) ops hops
  rw [hc'] at h1 h2
  rw [foldl_mrunInsert_toEntry] at h2
  exact ⟨mt, st', hrun, h1, h2⟩

/-! non-vacuity: the hypotheses are met by a concrete write set and operation sequence -/
example : (∀ e ∈ exWrites.map (·.1), e.wf) ∧ DistinctIKeys (exWrites.map (·.1)) ∧ (∀ e ∈ exWrites.map (·.1), e.kind ≤ 1) ∧
    (∀ op ∈ [IterOp.seek [0x61], .next, .prev, .seekLt [0x62], .last], ∀ t, DbIter.opTarget op = some t → t.length + 8 < 2 ^ 32) := by
  unfold DistinctIKeys MEntry.wf
  decide

end Lcdb.Skiplist
