/-
  The Snappy model (LcdbModel.Model.Snappy = src/util/snappy.c).  The decoder inverts the hash-table encoder on every input of
  at most 0x7fffffff bytes (`snappy_roundtrip`; any valid token stream decodes to its expansion, `decode_of_valid_toks`).  The
  encoder stays within `snappy_encode_size` (`encode_length_le_encodeSize`) and never reaches the fuel cut-off of its model
  (`encodeBlockToks_fuel`).  A successful decode writes exactly the declared number of bytes, and every copy reads only what
  has been produced (`snappy_decode_safe`, `decodeElem_safe`).  `snappy_decode_size` is the varint32 header with the 0x7fffffff
  limit (`decode_length_header`).
-/
import LcdbModel.Lemmas.Snappy
import LcdbModel.Props.CodingProps
namespace Lcdb.Snappy

theorem decode_header (n : Nat) (body : Bytes) (h : n ≤ maxLength) :
    decode (varintEnc n ++ body) = decodeBlocks #[] n body := by
  have hmax := maxLength_eq
  unfold decode
  rw [varint32_roundtrip n _ (by omega)]
  exact if_neg (by omega)

theorem Dec.decode {bs x : Bytes} (h : Dec [] bs x.length x) (hlen : x.length ≤ maxLength) :
    decode (varintEnc x.length ++ bs) = some x := by
  have := h 0 []
  rw [List.append_nil, Nat.add_zero] at this
  rw [decode_header _ _ hlen, this, decodeBlocks_nil]
  rfl

/-- Any valid token stream that expands to `x` decodes to `x`.  `ToksOk 0 ts`: every literal has
    1..65536 bytes, every copy has `0 < off <= bytes produced so far`, `off < 65536`, `len >= 4`
    (what `emit_literal` / `emit_copy` can render). -/
theorem decode_of_valid_toks (ts : List Tok) (x : Bytes) (hok : ToksOk 0 ts) (hx : expand [] ts = x)
    (hlen : x.length ≤ maxLength) :
    decode (varintEnc x.length ++ renderToks ts) = some x := by
  have hl : toksLen ts = x.length := by
    rw [← hx, expand_length, List.length_nil, Nat.zero_add]
  have := Dec_renderToks ts [] hok
  rw [hl, hx] at this
  exact this.decode hlen

theorem encodeBlockToks_correct (pre blk : Bytes) (hx : blk.length ≤ 65536) :
    ToksOk pre.length (encodeBlockToks blk) ∧ expand pre (encodeBlockToks blk) = pre ++ blk := by
  obtain ⟨h1, h2, _⟩ := encodeBlockToks_gen pre blk hx
  rw [List.take_zero, List.append_nil] at h2
  exact ⟨h1, h2⟩

theorem encodeBlockToks_len (blk : Bytes) (hx : blk.length ≤ 65536) :
    toksLen (encodeBlockToks blk) = blk.length := by
  have := expand_length [] (encodeBlockToks blk)
  rw [(encodeBlockToks_correct [] blk hx).2, List.nil_append, List.length_nil, Nat.zero_add] at this
  exact this.symm

theorem full_block {x : Bytes} {k : Nat} (hk : x.length / maxBlockSize = k + 1) :
    (x.take maxBlockSize).length = 65536 ∧ (x.drop maxBlockSize).length / maxBlockSize = k := by
  have hmb : maxBlockSize = 65536 := rfl
  rw [hmb] at hk ⊢
  have hge : 65536 ≤ x.length := by
    have := Nat.div_mul_le_self x.length 65536
    omega
  rw [List.length_take, List.length_drop]
  rw [Nat.div_eq_sub_div (by omega) hge] at hk
  exact ⟨by omega, by omega⟩

theorem last_block {x : Bytes} (hk : x.length / maxBlockSize = 0) : x.length < 65536 :=
  Nat.lt_of_div_eq_zero (by decide) hk

theorem EncOk_encodeBlock (blk : Bytes) (hx : blk.length ≤ 65536) : EncOk blk (encodeBlock blk) 30 := by
  have hs := (encodeBlockToks_gen [] blk hx).2.2
  rw [Nat.mul_zero, Nat.add_zero] at hs
  refine ⟨hs, fun l => ?_⟩
  obtain ⟨h1, h2⟩ := encodeBlockToks_correct l blk hx
  have := Dec_renderToks _ l h1
  rwa [encodeBlockToks_len blk hx, h2] at this

theorem encodeBody_spec (k : Nat) (x : Bytes) :
    x.length / maxBlockSize = k → EncOk x (encodeBody k x) (30 * (k + 1)) := by
  fun_induction encodeBody k x with
  | case1 x h1 h2 => exact fun hk => EncOk_encodeBlock x (Nat.le_of_lt (last_block hk))
  | case2 x h1 h2 => exact fun hk => EncOk_emitLiteral x h1 (Nat.le_of_lt (last_block hk))
  | case3 x h =>
    intro _
    cases List.eq_nil_of_length_eq_zero (Nat.eq_zero_of_not_pos h)
    exact ⟨Nat.zero_le _, fun l => by rw [List.append_nil]; exact Dec.nil l⟩
  | case4 k x ih =>
    intro hk
    obtain ⟨htl, hk'⟩ := full_block hk
    have := EncOk_append (EncOk_encodeBlock (x.take maxBlockSize) (Nat.le_of_eq htl)) (ih hk')
    rwa [List.take_append_drop, Nat.add_comm 30, ← Nat.mul_succ] at this

/-- Round trip, for all inputs the decoder can accept: `snappy_decode(snappy_encode(x)) = x`.
    The bound `0x7fffffff` is that of the C code: `snappy_decode` rejects a larger declared length
    (`decode_rejects_large`), and `snappy_encode_size` refuses such inputs (`encodeSize_none_of_large`). -/
theorem snappy_roundtrip (x : Bytes) (h : x.length ≤ maxLength) : decode (encode x) = some x := by
  have hmax := maxLength_eq
  unfold encode
  rw [Nat.mod_eq_of_lt (by omega)]
  exact ((encodeBody_spec (x.length / maxBlockSize) x rfl).2 []).decode h

theorem encodeSize_none_of_large (n : Nat) (h : n > maxLength) : encodeSize n = none := by
  simp [encodeSize, h]

theorem decode_rejects_large (n : Nat) (rest : Bytes) (h1 : maxLength < n) (h2 : n < 2 ^ 32) :
    decode (varintEnc n ++ rest) = none := by
  unfold decode
  rw [varint32_roundtrip n rest h2]
  simp [h1]

/-- Encoder buffer safety: whenever `snappy_encode_size` accepts the input length and returns `m`,
    `snappy_encode` writes at most `m` bytes. -/
theorem encode_length_le_encodeSize (x : Bytes) (m : Nat) (h : encodeSize x.length = some m) :
    (encode x).length ≤ m := by
  have hmax := maxLength_eq
  have hmb : maxBlockSize = 65536 := rfl
  unfold encodeSize at h
  simp only at h
  split at h
  · cases h
  · split at h
    · cases h
    · cases h
      have hv := varintEnc_length_le32 x.length (by omega)
      have hb := (encodeBody_spec (x.length / maxBlockSize) x rfl).1
      unfold encode
      rw [List.length_append, Nat.mod_eq_of_lt (by omega)]
      simp only [hmb] at hb ⊢
      -- `hb`: 30 * body ≤ 31 * n + 30 * (n / 65536 + 1), i.e. body ≤ n + n/30 + n/65536 + 1; with the
      -- header's at most 5 bytes (`hv`) that is below 32 + n + n/6
      omega

/-- more fuel than `encodeBlockToks` supplies changes nothing, i.e. the model's fuel cut-off in `encGo`
    is never reached (the `for (;;)` loops of `encode_block` terminate within `xn` head visits) -/
theorem encodeBlockToks_fuel (blk : Bytes) (k : Nat) :
    encGo blk.toArray blk.length (blk.length - inputMargin) (tableParams blk.length).2 (blk.length + k)
      (.scan (Array.replicate (tableParams blk.length).1 0)
        (hash32 (load32 blk.toArray 1) (tableParams blk.length).2) initSkip 1 0)
      = encodeBlockToks blk := by
  have hin : inputMargin = 15 := rfl
  exact encGo_fuel_add _ _ _ _ blk.length _ k ⟨by omega, Nat.le_refl _⟩

/-- bounds-checked forward copy: the read address is `zp - off`; it fails when that is the write position
    itself (`off = 0`, not yet written) or before the start of the buffer (`off > produced`) -/
def copyFwdChk (out : Array UInt8) (off : Nat) : Nat → Option (Array UInt8)
  | 0 => some out
  | n + 1 =>
    if off = 0 ∨ out.size < off then none
    else match out[out.size - off]? with
      | none => none
      | some b => copyFwdChk (out.push b) off n

/-- `0 < off <= produced`: the two checks of `decode_blocks` -/
theorem copyFwdChk_eq (off : Nat) (h0 : 0 < off) :
    ∀ (n : Nat) (out : Array UInt8), off ≤ out.size → copyFwdChk out off n = some (copyFwd out off n) := by
  intro n
  induction n with
  | zero => intro out _; rfl
  | succ n ih =>
    intro out h1
    have hlt : out.size - off < out.size := by omega
    rw [copyFwdChk, if_neg (by omega), copyFwd, Array.getD_eq_getD_getElem?, Array.getElem?_eq_getElem hlt,
      Option.getD_some]
    exact ih _ (by rw [Array.size_push]; omega)

/-- what a successful iteration of the `decode_blocks` loop did -/
inductive StepKind (out : Array UInt8) (zn : Nat) (out' : Array UInt8) (zn' : Nat) : Prop where
  | literal (lit : Bytes) (h1 : 1 ≤ lit.length) (h2 : lit.length ≤ zn)
      (ho : out' = out ++ lit) (hz : zn' = zn - lit.length)
  | copy (off len : Nat) (h0 : 0 < off) (h1 : off ≤ out.size) (h2 : len ≤ zn)
      (ho : out' = copyFwd out off len) (hc : copyFwdChk out off len = some out') (hz : zn' = zn - len)

theorem copyStep_kind {out : Array UInt8} {zn off len : Nat} {rest : Bytes}
    {out' : Array UInt8} {zn' : Nat} {rest' : Bytes}
    (h : copyStep out zn off len rest = some (out', zn', rest')) : StepKind out zn out' zn' := by
  unfold copyStep at h
  split at h
  · cases h
  · split at h
    · cases h
    · cases h
      have h0 : 0 < off := by omega
      exact StepKind.copy off len h0 (by omega) (by omega) rfl (copyFwdChk_eq off h0 len out (by omega)) rfl

/-- every successful iteration is a bounded literal append or an in-bounds copy -/
theorem decodeElem_safe {out : Array UInt8} {zn : Nat} {t : UInt8} {xs : Bytes}
    {out' : Array UInt8} {zn' : Nat} {rest : Bytes}
    (h : decodeElem out zn t xs = some (out', zn', rest)) : StepKind out zn out' zn' := by
  unfold decodeElem at h
  split at h
  · split at h
    · cases h
    · rename_i x xs1 _
      unfold literalStep at h
      split at h
      · cases h
      · split at h
        · cases h
        · cases h
          have hl : (xs1.take (x + 1)).length = x + 1 := by rw [List.length_take]; omega
          exact StepKind.literal (xs1.take (x + 1)) (by omega) (by omega) rfl (by rw [hl])
  · split at h
    · exact copyStep_kind h
    · cases h
  · split at h
    · exact copyStep_kind h
    · cases h
  · split at h
    · exact copyStep_kind h
    · cases h

theorem StepKind.size_inv {out : Array UInt8} {zn : Nat} {out' : Array UInt8} {zn' : Nat}
    (h : StepKind out zn out' zn') : out'.size + zn' = out.size + zn := by
  cases h with
  | literal lit h1 h2 ho hz =>
    subst ho hz
    rw [← Array.length_toList, Array.toList_appendList, List.length_append, Array.length_toList]; omega
  | copy off len h0 h1 h2 ho hc hz =>
    subst ho hz
    rw [copyFwd_size]; omega

theorem decodeBlocks_length (out : Array UInt8) (zn : Nat) (xs r : Bytes)
    (h : decodeBlocks out zn xs = some r) : r.length = out.size + zn := by
  fun_induction decodeBlocks out zn xs with
  | case1 out zn hz => cases h
  | case2 out zn hz => cases h; rw [Array.length_toList]; omega
  | case3 out zn t xs he => cases h
  | case4 out zn t xs q he ih =>
    rw [ih h, (decodeElem_safe (out' := q.1) (zn' := q.2.1) (rest := q.2.2) he).size_inv]

theorem decode_some {bs out : Bytes} (h : decode bs = some out) :
    ∃ zn rest, decodeSize bs = some zn ∧ zn ≤ maxLength ∧ decodeBlocks #[] zn rest = some out := by
  unfold decode at h
  unfold decodeSize
  split at h
  · cases h
  · next zn rest hv =>
    split at h
    · cases h
    · next hz => exact ⟨zn, rest, if_neg hz, Nat.le_of_not_gt hz, h⟩

abbrev declaredLength (bs : Bytes) : Option Nat := decodeSize bs

/-- Decoder safety for a whole run: a successful decode returns exactly the declared number of bytes.
    The caller allocated `declaredLength` bytes, and `produced + remaining` is the same after every
    iteration (`StepKind.size_inv`), so no write is past the buffer.  What one iteration reads is in
    `decodeElem_safe`; that every iteration of a run is a `StepKind` is used in `decodeBlocks_length`
    and not stated by itself. -/
theorem snappy_decode_safe (bs out : Bytes) (h : decode bs = some out) :
    declaredLength bs = some out.length ∧ out.length ≤ maxLength := by
  obtain ⟨zn, rest, hs, hz, hb⟩ := decode_some h
  rw [decodeBlocks_length #[] zn rest out hb, List.size_toArray, List.length_nil, Nat.zero_add]
  exact ⟨hs, hz⟩

theorem decode_length_header (bs : Bytes) :
    decodeSize bs = (varint32Read bs).bind (fun p => if p.1 > maxLength then none else some p.1) := by
  unfold decodeSize
  cases varint32Read bs with
  | none => rfl
  | some p => rfl

theorem decodeSize_encode (x : Bytes) (h : x.length ≤ maxLength) : decodeSize (encode x) = some x.length :=
  (snappy_decode_safe _ _ (snappy_roundtrip x h)).1

theorem decode_none_of_decodeSize_none (bs : Bytes) (h : decodeSize bs = none) : decode bs = none := by
  cases hd : decode bs with
  | none => rfl
  | some out =>
    obtain ⟨zn, _, hs, _⟩ := decode_some hd
    rw [h] at hs
    cases hs

example : decode (encode [1, 2, 3]) = some [1, 2, 3] := snappy_roundtrip _ (by decide)
example : decode (encode []) = some [] := snappy_roundtrip _ (by decide)
example : decode (encode (List.replicate 100 7)) = some (List.replicate 100 7) :=
  snappy_roundtrip _ (by simp [maxLength])

example : (encode [1, 2, 3]).length ≤ 35 := encode_length_le_encodeSize _ 35 (by decide)
example : encodeSize 0x7fffffff = none := by decide
example : encodeSize 0x6db6db52 = some 0x7fffffff := by decide

-- a valid token list with an overlapping copy
example : ToksOk 0 [Tok.lit [1, 2], Tok.copy 2 6] := by simp [ToksOk, TokOk, Tok.len]
example : expand [] [Tok.lit [1, 2], Tok.copy 2 6] = [1, 2, 1, 2, 1, 2, 1, 2] := by decide
example : decode (varintEnc 8 ++ renderToks [Tok.lit [1, 2], Tok.copy 2 6]) = some [1, 2, 1, 2, 1, 2, 1, 2] :=
  decode_of_valid_toks [Tok.lit [1, 2], Tok.copy 2 6] [1, 2, 1, 2, 1, 2, 1, 2]
    (by simp [ToksOk, TokOk, Tok.len]) (by decide) (by decide)

-- offset 0 and offset beyond the output are rejected (the two conditions of `StepKind.copy`)
example : copyStep #[1, 2] 10 0 4 [] = none := by decide
example : copyStep #[1, 2] 10 3 4 [] = none := by decide
example : copyStep #[1, 2] 10 2 4 [] = some (#[1, 2, 1, 2, 1, 2], 6, []) := by decide
-- the bounds-checked copy does trip without those conditions
example : copyFwdChk #[1, 2] 0 4 = none := by decide
example : copyFwdChk #[1, 2] 3 4 = none := by decide

example : decodeSize [0xff, 0xff, 0xff, 0xff, 0x07] = some 0x7fffffff := by decide
example : decodeSize [0xff, 0xff, 0xff, 0xff, 0x0f] = none := by decide

end Lcdb.Snappy
