/-
  Capstone joining the drop-loop slice (`Props/CompactionProps.lean`) and the file-selection slice
  (`Props/PolicyProps.lean`): a compaction whose inputs are chosen by `setup_other_inputs` and whose output
  tables are ANY cut of what the work loop emits, with fresh file numbers, is a contract-respecting step in
  full — so it keeps `Inv` and every view from the smallest protected sequence on.
-/
import LcdbModel.Props.CompactionProps
import LcdbModel.Props.PolicyProps
namespace Lcdb.Compaction
open Lcdb Lcdb.Policy

theorem levelSeqDistinct_of_noSeqTies {c : Cmp} {st : DbState} (hnt : NoSeqTies c st) (l : Nat) :
    LevelSeqDistinct c (st.level l) := by
  intro f hf g hg x hx y hy hk hs
  exact hnt x (mem_allEntries.mpr (.inr (.inr ⟨f, mem_allFiles.mpr ⟨l, hf⟩, hx⟩)))
    y (mem_allEntries.mpr (.inr (.inr ⟨g, mem_allFiles.mpr ⟨l, hg⟩, hy⟩))) hk hs

/-- the gap lemma (second conjunct of clause (b), `LevelSorted` of the new `level + 1`): well-formed, strictly ordered
    output files whose entries are drawn from the inputs chosen by setup_other_inputs fit into the gap the removed
    inputs of `level + 1` leave -/
theorem outputs_fit_gap (c : Cmp) (st : DbState) (hinv : Inv c st) (hnt : NoSeqTies c st) (mfs level : Nat)
    (seed : List FileMeta) (s : Setup) (hseed : SeedOk c (st.level level) (level == 0) seed)
    (h : versionSetup c mfs st.levels level seed = some s) (outs : List FileMeta)
    (houts : ∀ f ∈ outs, FileOk c f) (hpo : outs.Pairwise (fun f g => ikLt c f.lk f.lp g.sk g.sp = true))
    (hdraw : ∀ e ∈ outs.flatMap (·.run),
      e ∈ (pickNums (st.level level) (s.in0.map (·.num)) ++
            pickNums (st.level (level + 1)) (s.in1.map (·.num))).flatMap (·.run)) :
    LevelSorted c (addFiles c (level + 1) (removeNums (st.level (level + 1)) (s.in1.map (·.num))) outs) := by
  have _ := hnt  -- the order of the new level needs no tie-freeness; the other clauses of `mechanism_full_stepOk` do
  have hok := Lsm.fileOk_of_inv hinv
  have hb1 := boundsOk_of_inv hinv (level + 1)
  have hs1 := hinv.levelsSorted (level + 1) (Nat.le_add_left 1 level)
  obtain ⟨_, hsel⟩ := versionSetup_selected
    (fun h0 => hinv.levelsSorted level (Nat.pos_of_ne_zero (ne_of_beq_false h0))) hs1 (boundsOk_of_inv hinv level) hb1 hseed h
  have hsub0 := hsel.sub0
  have hsub1 := hsel.sub1
  have hokS : ∀ f ∈ s.in0 ++ s.in1, FileOk c f :=
    List.forall_mem_append.mpr ⟨fun f hf => hok level f (hsub0 f hf), fun f hf => hok (level + 1) f (hsub1 f hf)⟩
  have hin : ∀ e ∈ outs.flatMap (·.run), ∃ f0 ∈ s.in0 ++ s.in1, e ∈ f0.run := by
    intro e he
    obtain ⟨f0, hf0, hef0⟩ := List.mem_flatMap.mp (hdraw e he)
    exact ⟨f0, (List.mem_append.mp hf0).elim
      (fun hf0 => List.mem_append_left _ ((mem_pickNums_iff hinv hsub0 f0).mp hf0))
      (fun hf0 => List.mem_append_right _ ((mem_pickNums_iff hinv hsub1 f0).mp hf0)), hef0⟩
  apply addFiles_apart
  · exact List.Pairwise.sublist List.filter_sublist hs1
  · exact fun g hg => hb1 g ((mem_removeNums_iff hinv hsub1 g).mp hg).1
  · exact fun f hf => Lsm.fileOk_boundsOk (houts f hf)
  · exact hpo
  · intro f hf g hg
    obtain ⟨hg1, hg2⟩ := (mem_removeNums_iff hinv hsub1 g).mp hg
    -- all input entries are on one side of a file of level+1 that stays; so are the ends of an output file
    rcases (hsel.rest1 g hg1 hg2).2.entries hokS with hb | ha
    · left
      obtain ⟨m, hm, hmk, hmp⟩ := Lsm.fileOk_smallest_mem (houts f hf)
      obtain ⟨f0, hf0, hmf0⟩ := hin m (List.mem_flatMap.mpr ⟨f, hf, hm⟩)
      rw [← hmk, ← hmp]
      exact hb f0 hf0 m hmf0
    · right
      obtain ⟨m, hm, hmk, hmp⟩ := Lsm.fileOk_largest_mem (houts f hf)
      obtain ⟨f0, hf0, hmf0⟩ := hin m (List.mem_flatMap.mpr ⟨f, hf, hm⟩)
      rw [← hmk, ← hmp]
      exact ha f0 hf0 m hmf0

/-- THE CAPSTONE: inputs chosen by setup_other_inputs from a seed as pick_compaction / compact_range make
    it; outputs = any cut of what the work loop emits for a smallest snapshot `sm ≤ smallestProtected st`
    (possibly no file at all), with fresh pairwise different file numbers.  Then the step meets
    `stepOk (.compact ..)` IN FULL. -/
theorem mechanism_full_stepOk (c : Cmp) (st : DbState) (hinv : Inv c st) (hnt : NoSeqTies c st)
    (mfs level : Nat) (seed : List FileMeta) (s : Setup)
    (hseed : SeedOk c (st.level level) (level == 0) seed)
    (h : versionSetup c mfs st.levels level seed = some s)
    (sm : Nat) (hsm : sm ≤ smallestProtected st) (outs : List FileMeta)
    (hcut : IsCut (expectedOutput c st level (pickNums (st.level level) (s.in0.map (·.num)))
      (pickNums (st.level (level + 1)) (s.in1.map (·.num))) sm) outs)
    (hfresh : ∀ f ∈ outs, st.nextFile ≤ f.num) (hnums : outs.Pairwise (fun f g => f.num ≠ g.num)) :
    stepOk c st (.compact level (s.in0.map (·.num)) (s.in1.map (·.num)) outs) := by
  have hout := hcut.1
  have hsorted : RunSorted c (expectedOutput c st level (pickNums (st.level level) (s.in0.map (·.num)))
      (pickNums (st.level (level + 1)) (s.in1.map (·.num))) sm) := by
    rw [expectedOutput_eq_spec c st level _ _ sm hinv (pickNums_sublist _ _) (pickNums_sublist _ _)]
    exact (merged_sorted_perm hinv (pickNums_sublist _ _) (pickNums_sublist _ _)).1.sublist (dropLoop_sublist c sm _ _)
  obtain ⟨hfo, hpo⟩ := chunks_fileOk c _ outs hsorted hcut
  obtain ⟨c1, _, _⟩ := expectedOutput_meets_contract c st level _ _ outs sm hinv hnt hsm hout
  have hgap := outputs_fit_gap c st hinv hnt mfs level seed s hseed h outs hfo hpo c1
  obtain ⟨a1, a2, a3, a4, a5, a6⟩ := setupOtherInputs_establishes_contract c st hinv mfs level seed s hseed
    (fun _ => levelSeqDistinct_of_noSeqTies hnt level) (levelSeqDistinct_of_noSeqTies hnt (level + 1)) h
  have hframe : compactFrame c st level (s.in0.map (·.num)) (s.in1.map (·.num)) outs := by
    refine ⟨a1, a2, a3, a4, a5, a6, hfo, hgap, ?_, hnums⟩
    intro f hf g hg hnum
    exact absurd (hnum ▸ hinv.numsBound g hg) (Nat.not_lt.mpr (hfresh f hf))
  exact mechanism_stepOk c st level _ _ outs sm hinv hnt hframe hsm hout

theorem mechanism_full_preserves (c : Cmp) (st : DbState) (hinv : Inv c st) (hnt : NoSeqTies c st)
    (mfs level : Nat) (seed : List FileMeta) (s : Setup)
    (hseed : SeedOk c (st.level level) (level == 0) seed)
    (h : versionSetup c mfs st.levels level seed = some s)
    (sm : Nat) (hsm : sm ≤ smallestProtected st) (outs : List FileMeta)
    (hcut : IsCut (expectedOutput c st level (pickNums (st.level level) (s.in0.map (·.num)))
      (pickNums (st.level (level + 1)) (s.in1.map (·.num))) sm) outs)
    (hfresh : ∀ f ∈ outs, st.nextFile ≤ f.num) (hnums : outs.Pairwise (fun f g => f.num ≠ g.num)) :
    Inv c (applyStep c st (.compact level (s.in0.map (·.num)) (s.in1.map (·.num)) outs)) ∧
    NoSeqTies c (applyStep c st (.compact level (s.in0.map (·.num)) (s.in1.map (·.num)) outs)) ∧
    ∀ k q, smallestProtected st ≤ q →
      view c (allEntries (applyStep c st (.compact level (s.in0.map (·.num)) (s.in1.map (·.num)) outs))) k q =
        view c (allEntries st) k q := by
  have hok := mechanism_full_stepOk c st hinv hnt mfs level seed s hseed h sm hsm outs hcut hfresh hnums
  exact ⟨C14.step_preserves_inv c st _ hinv hok, C06.step_preserves_noSeqTies c st _ hinv hnt hok,
    fun k q hq => C06.compact_preserves_view_above c st level _ _ outs hinv hnt hok k q hq⟩

/-! non-vacuity: the state `stE` of `Props/CompactionProps.lean`, seed = both level-0 files, real
    `versionSetup` (with `max_file_size` = 2097152, the 2 MiB default of `ldb_dbopt_default`), output cut into the single file
    `e8`, file number 8 ≥ nextFile 7 -/
namespace Ex
open Lcdb.C14.Ex

theorem seedE : SeedOk .bytewise (stE.level 0) ((0 : Nat) == 0) [e5, e4] :=
  ⟨by decide +kernel, by decide +kernel, by
    rw [if_pos (by decide +kernel)]; unfold Closed0; decide +kernel⟩

theorem setupE : (versionSetup .bytewise 2097152 stE.levels 0 [e5, e4]).map (fun s => (s.in0, s.in1)) =
    some ([e5, e4], [e3]) := by decide +kernel

example : ∃ s, versionSetup .bytewise 2097152 stE.levels 0 [e5, e4] = some s ∧
    stepOk .bytewise stE (.compact 0 (s.in0.map (·.num)) (s.in1.map (·.num)) [e8]) ∧
    Inv .bytewise (applyStep .bytewise stE (.compact 0 (s.in0.map (·.num)) (s.in1.map (·.num)) [e8])) := by
  cases h : versionSetup .bytewise 2097152 stE.levels 0 [e5, e4] with
  | none => have := setupE; rw [h] at this; cases this
  | some s =>
    have hs := setupE
    rw [h] at hs
    simp only [Option.map_some, Option.some.injEq, Prod.mk.injEq] at hs
    have hcut : IsCut (expectedOutput .bytewise stE 0 (pickNums (stE.level 0) (s.in0.map (·.num)))
        (pickNums (stE.level 1) (s.in1.map (·.num))) 6) [e8] := by
      rw [hs.1, hs.2]
      have p0 : pickNums (stE.level 0) ([e5, e4].map (·.num)) = [e5, e4] := by decide +kernel
      have p1 : pickNums (stE.level 1) ([e3].map (·.num)) = [e3] := by decide +kernel
      rw [p0, p1, outE]
      decide +kernel
    have hok := mechanism_full_stepOk .bytewise stE invE ntE 2097152 0 [e5, e4] s seedE h 6 (by decide +kernel) [e8]
      hcut (by decide +kernel) (by decide +kernel)
    exact ⟨s, rfl, hok, C14.step_preserves_inv _ _ _ invE hok⟩
end Ex

end Lcdb.Compaction
