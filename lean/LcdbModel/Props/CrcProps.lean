/-
  The CRC-32C model (Model/Crc32c.lean): mask/unmask are inverse, the table-driven loop equals the
  bitwise one, extension is injective and composes over `++`, a change confined to one byte changes
  the CRC, check values.
-/
import LcdbModel.Lemmas.Crc32c
namespace Lcdb

theorem mask_unmask (c : W32) : crcUnmask (crcMask c) = c := by
  unfold crcUnmask crcMask
  simp only [BitVec.add_sub_cancel]
  exact w32_rot_rot c 15 17 rfl

theorem unmask_mask (m : W32) : crcMask (crcUnmask m) = m := by
  unfold crcUnmask crcMask
  rw [w32_rot_rot _ 17 15 rfl, BitVec.sub_add_cancel]

theorem crcMask_injective : Function.Injective crcMask := by
  intro a b h
  rw [← mask_unmask a, ← mask_unmask b, h]

theorem crcUnmask_injective : Function.Injective crcUnmask := by
  intro a b h
  rw [← unmask_mask a, ← unmask_mask b, h]

theorem crcExtendTab_eq (z : W32) (bs : Bytes) : crcExtendTab z bs = crcExtend z bs := by
  have : crcByteTab = crcByteSpec := funext fun l => funext fun b => crcByteTab_eq_spec l b
  unfold crcExtendTab crcExtend crcFeed
  rw [this]

theorem crcByteSpec_injective_left (b : UInt8) : Function.Injective (fun l => crcByteSpec l b) := by
  intro l1 l2 h
  exact (BitVec.xor_left_inj _).mp (crcBit8_injective h)

theorem crcByteSpec_injective_right (l : W32) : Function.Injective (crcByteSpec l) := by
  intro x y h
  exact zeroExtend32_inj ((BitVec.xor_right_inj l).mp (crcBit8_injective h))

theorem crcFeed_injective (bs : Bytes) : Function.Injective (fun l => crcFeed l bs) := by
  induction bs with
  | nil => intro a b h; exact h
  | cons c cs ih =>
    intro a b h
    simp only [crcFeed_cons] at h
    exact crcByteSpec_injective_left c (ih h)

theorem crcExtend_injective_left (bs : Bytes) : Function.Injective (fun z => crcExtend z bs) := by
  intro a b h
  unfold crcExtend at h
  have h1 := (BitVec.xor_left_inj _).mp h
  exact (BitVec.xor_left_inj _).mp (crcFeed_injective bs h1)

theorem crcExtend_append (z : W32) (a b : Bytes) :
    crcExtend z (a ++ b) = crcExtend (crcExtend z a) b := by
  unfold crcExtend
  rw [crcFeed_append, w32_xor_xor_cancel]

theorem crc32c_append (a b : Bytes) : crc32c (a ++ b) = crcExtend (crc32c a) b :=
  crcExtend_append 0 a b

theorem crc_detects_single_byte (z : W32) (pre suf : Bytes) (x y : UInt8) (h : x ≠ y) :
    crcExtend z (pre ++ x :: suf) ≠ crcExtend z (pre ++ y :: suf) := by
  intro heq
  unfold crcExtend at heq
  have h1 := (BitVec.xor_left_inj _).mp heq
  rw [crcFeed_append, crcFeed_append, crcFeed_cons, crcFeed_cons] at h1
  exact h (crcByteSpec_injective_right _ (crcFeed_injective suf h1))

theorem crc_detects_bit_flips_in_byte (z : W32) (pre suf : Bytes) (x m : UInt8) (hm : m ≠ 0) :
    crcExtend z (pre ++ (x ^^^ m) :: suf) ≠ crcExtend z (pre ++ x :: suf) := by
  apply crc_detects_single_byte
  intro he
  apply hm
  have h1 : (x ^^^ m).toBitVec = x.toBitVec := congrArg UInt8.toBitVec he
  rw [UInt8.toBitVec_xor] at h1
  have h2 : x.toBitVec ^^^ m.toBitVec = x.toBitVec ^^^ 0#8 := by rw [h1, BitVec.xor_zero]
  have h3 := (BitVec.xor_right_inj _).mp h2
  exact UInt8.toBitVec_inj.mp h3

theorem crc32c_check_123456789 :
    crc32c [0x31, 0x32, 0x33, 0x34, 0x35, 0x36, 0x37, 0x38, 0x39] = 0xE3069283#32 := by decide +kernel

theorem crc32c_check_utf8 : crc32c "123456789".toUTF8.toList = 0xE3069283#32 := by decide +kernel

theorem crc32c_check_zeros32 : crc32c (List.replicate 32 0) = 0x8A9136AA#32 := by decide +kernel

theorem crc32c_check_ones32 : crc32c (List.replicate 32 0xFF) = 0x62A8AB43#32 := by decide +kernel

theorem crc32c_empty : crc32c [] = 0#32 := by decide

theorem crcTable_check_1 : crcTableGet 1 = 0xF26B8303#32 := by decide +kernel
theorem crcTable_check_255 : crcTableGet 255 = 0xAD7D5351#32 := by decide +kernel

example : crcExtend 0 ([1, 2] ++ 3 :: [4]) ≠ crcExtend 0 ([1, 2] ++ 7 :: [4]) :=
  crc_detects_single_byte 0 [1, 2] [4] 3 7 (by decide)

example : crcTableGet 200 = crcBit8 (BitVec.ofNat 32 200) := crcTableGet_eq 200 (by decide)

example : crcUnmask (crcMask 0xE3069283#32) = 0xE3069283#32 := mask_unmask _

example : crcMask 0xE3069283#32 ≠ 0xE3069283#32 := by decide

end Lcdb
