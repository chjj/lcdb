/-
  The skiplist (src/skiplist.c) and the memtable (src/memtable.c) ARE the sorted run of the LSM model.

  The statements about inserts hold for every sequence of inserts with ARBITRARY node heights in 1..12 (so whatever
  the generator does; `add_refines_runInsert` is the case of the heights `ldb_skiplist_randheight` draws), and those
  about the skiplist alone for any comparator with `CmpOk` (antisymmetric `swap`, `<` transitive);
  `memKeyCmp_ok` instantiates it with the memtable's comparator on length-prefixed internal keys.
-/
import LcdbModel.Lemmas.MemtableIter
namespace Lcdb.Skiplist
open Lcdb Lcdb.Memtable

variable {α : Type}

/-- Starting from the empty list, inserting pairwise non-equal keys with any heights
    in 1..12 never faults, and the keys in iteration order (level-0 chain) are the ordered insertion of the keys
    one after the other; the list has one node per key (none lost, none duplicated). -/
theorem insert_refines_ordInsert {cmp : α → α → Ordering} (hc : CmpOk cmp) (khs : List (α × Nat))
    (hh : ∀ kh ∈ khs, 1 ≤ kh.2 ∧ kh.2 ≤ kMaxHeight)
    (hd : (khs.map (·.1)).Pairwise (fun a b => cmp a b ≠ .eq)) :
    ∃ sl, insertMany cmp SkipList.init khs = some sl ∧
      keys sl = (khs.map (·.1)).foldl (fun r k => ordInsert cmp k r) [] ∧
      (chain sl 0).length = khs.length ∧ sl.nodes.length = khs.length + 1 := by
  obtain ⟨sl, hrun, hg, hlen⟩ := insertMany_good hc khs SkipList.init [] (init_good cmp) hh hd
  refine ⟨sl, hrun, hg.keys, ?_, by rw [hlen]; simp [SkipList.init]; omega⟩
  obtain ⟨L, hi, _⟩ := hg
  rw [chain0_eq hi]
  have := hi.len
  rw [hlen] at this
  simp [SkipList.init] at this
  omega

/-- a key that compares equal to none in the list is always accepted (the model's only fault of `insert` with a
    height in range is the duplicate the C code asserts against), and the result is again a well-formed list -/
theorem insert_total {cmp : α → α → Ordering} (hc : CmpOk cmp) {sl : SkipList α} {ks : List α} (h : Good cmp sl ks)
    (k : α) (height : Nat) (hh : 1 ≤ height ∧ height ≤ kMaxHeight) (hnew : ∀ x ∈ ks, cmp k x ≠ .eq) :
    ∃ s', insert cmp sl k height = some s' ∧ Good cmp s' (ordInsert cmp k ks) ∧ keys s' = ordInsert cmp k (keys sl) := by
  obtain ⟨s', hs', hg, _⟩ := insert_good hc h k height hh hnew
  exact ⟨s', hs', hg, by rw [hg.keys, h.keys]⟩

/-- the duplicate at the search position is refused (`none`; the C code only asserts) -/
theorem insert_dup_faults {cmp : α → α → Ordering} {sl : SkipList α} {L : List Nat} (h : Inv cmp sl L) (k : α)
    (height : Nat) (A B : List Nat) (hL : L = A ++ B)
    (hA : ∀ a ∈ A, afterKey cmp sl k a = some true) (hB : ∀ b ∈ B, afterKey cmp sl k b = some false)
    (b : Nat) (kb : α) (hb : B.head? = some b) (hkb : keyOf sl b = some kb) (heq : cmp k kb = .eq) :
    insert cmp sl k height = none := by
  obtain ⟨prev, hfind, _⟩ := findGE_of_split h k A B hL hA hB
  unfold insert
  split
  · rfl
  · rw [hfind]
    simp [isDup, hb, hkb, heq]

/-- `ldb_memtable_add` of well-formed entries with pairwise distinct internal keys and
    ANY node heights in 1..12: no fault, and the memtable holds the entries `es` whose image in the LSM model is
    `mkRun` (= `foldl runInsert`) of the writes; the skiplist's iteration order is exactly their encodings. -/
theorem insert_refines_runInsert (c : Cmp) (tok : Bytes → String) (ehs : List (MEntry × Nat))
    (hwf : ∀ eh ∈ ehs, eh.1.wf ∧ 1 ≤ eh.2 ∧ eh.2 ≤ kMaxHeight) (hd : DistinctIKeys (ehs.map (·.1))) :
    ∃ mt es, addManyH (Memtable.create c) ehs = some mt ∧ Holds mt es ∧
      keys mt.table = es.map MEntry.enc ∧
      es.map (MEntry.toEntry tok) = mkRun c ((ehs.map (·.1)).map (MEntry.toEntry tok)) ∧
      RunSorted c (es.map (MEntry.toEntry tok)) ∧ es.length = ehs.length := by
  obtain ⟨mt, hrun, hc, hh⟩ := addManyH_holds ehs (Memtable.create c) [] (create_holds c) hwf hd
  refine ⟨mt, _, hrun, hh, hh.2.keys, ?_, ?_, ?_⟩
  · exact foldl_mrunInsert_toEntry c tok _
  · have := hh.runSorted tok
    rw [hc] at this
    exact this
  · exact (foldl_insert_perm (mrunInsert_perm _) _ []).length_eq.trans (by simp)

/-- The same with the heights drawn by `ldb_skiplist_randheight` from the list's own
    generator (`ldb_memtable_add` as it is): whatever the generator yields, no fault and the same run. -/
theorem add_refines_runInsert (c : Cmp) (tok : Bytes → String) (ws : List MEntry)
    (hwf : ∀ e ∈ ws, e.wf) (hd : DistinctIKeys ws) :
    ∃ mt es, addMany (Memtable.create c) ws = some mt ∧ Holds mt es ∧
      keys mt.table = es.map MEntry.enc ∧
      es.map (MEntry.toEntry tok) = mkRun c (ws.map (MEntry.toEntry tok)) := by
  obtain ⟨mt, hrun, _, hh⟩ := addMany_holds ws (Memtable.create c) [] (create_holds c)
    (randInit_range 0xdeadbeef) hwf hd
  exact ⟨mt, _, hrun, hh, hh.2.keys, foldl_mrunInsert_toEntry c tok ws⟩

/-- In every well-formed list (`Good`, which inserts preserve: `insert_total`): the chain of level `lvl` (following
    `next[lvl]` from the head) consists of exactly the nodes of the level-0 chain whose height exceeds `lvl`, in the
    same order; it is sorted by key, duplicate-free, a sublist of the chain below; the level-0 chain contains every
    node; chains at or above `max_height` are empty, and `max_height` is 1 or the height of some node. -/
theorem levels_nested_sorted {cmp : α → α → Ordering} (hc : CmpOk cmp) {sl : SkipList α} {ks : List α} (h : Good cmp sl ks)
    (lvl : Nat) (hl : lvl < kMaxHeight) :
    chain sl lvl = (chain sl 0).filter (fun y => decide (lvl < heightOf sl y)) ∧
    (chain sl lvl).Pairwise (NodeLt cmp sl) ∧ (chain sl lvl).Nodup ∧
    (lvl + 1 < kMaxHeight → (chain sl (lvl + 1)).Sublist (chain sl lvl)) ∧
    (∀ x, x ∈ chain sl 0 ↔ 1 ≤ x ∧ x < sl.nodes.length) ∧
    (∀ x ∈ chain sl 0, 1 ≤ heightOf sl x ∧ heightOf sl x ≤ sl.maxHeight) ∧
    (sl.maxHeight ≤ lvl → chain sl lvl = []) ∧
    (1 ≤ sl.maxHeight ∧ sl.maxHeight ≤ kMaxHeight) ∧
    (sl.maxHeight = 1 ∨ ∃ x ∈ chain sl 0, heightOf sl x = sl.maxHeight) := by
  obtain ⟨L, hi, _⟩ := h
  have hsub : (chain sl lvl).Sublist L := by rw [chain_eq hi lvl hl]; exact List.filter_sublist
  rw [chain0_eq hi]
  refine ⟨chain_eq hi lvl hl, hi.sorted.sublist hsub, ?_, ?_, hi.mem_iff, hi.heights, ?_, hi.mhRange, hi.mhExact⟩
  · have := (List.nodup_cons.mp (hi.nodup hc)).2
    exact this.sublist hsub
  · intro hl1
    rw [chain_eq hi _ hl1, chain_eq hi lvl hl]
    have : L.filter (fun y => decide (lvl + 1 < heightOf sl y)) =
        (L.filter (fun y => decide (lvl < heightOf sl y))).filter (fun y => decide (lvl + 1 < heightOf sl y)) := by
      rw [List.filter_filter]
      exact List.filter_congr fun x _ => by rw [Bool.eq_iff_iff]; simp; omega
    rw [this]
    exact List.filter_sublist
  · intro hm
    rw [chain_eq hi lvl hl, List.filter_eq_nil_iff]
    intro a ha
    have := (hi.heights a ha).2
    simp; omega

/-- With fuel `nodes + max_height` none of the three search loops runs out of fuel
    (or faults in any other way) on a well-formed list (`Good`): the chains are acyclic and end in NULL. -/
theorem search_fuel_suffices {cmp : α → α → Ordering} (hc : CmpOk cmp) {sl : SkipList α} {ks : List α} (h : Good cmp sl ks)
    (k : α) : (findGE cmp sl k).isSome ∧ (findLT cmp sl k).isSome ∧ (findLast sl).isSome := by
  obtain ⟨L, hi, _⟩ := h
  obtain ⟨A, B, hL, hA, hB⟩ := sorted_split hc hi k
  obtain ⟨prev, h1, _⟩ := findGE_of_split hi k A B hL hA hB
  obtain ⟨p, h2, _⟩ := findLT_of_split hi k A B hL hA hB
  obtain ⟨q, h3, _⟩ := findLast_of_inv hi
  simp [h1, h2, h3]

/-- `find_ge(key)` returns the first node of the level-0 chain whose key is not below
    `key`, and fills `prev[i]`, for every `i < max_height`, with the last node of the level-`i`
    chain whose key is below `key` (the head, index 0, if there is none); `prev[i]` stays unset above. -/
theorem findGreaterOrEqual_spec {cmp : α → α → Ordering} (hc : CmpOk cmp) {sl : SkipList α} {ks : List α} (h : Good cmp sl ks)
    (k : α) :
    ∃ prev, findGE cmp sl k = some ((chain sl 0).find? (fun y => afterKey cmp sl k y != some true), prev) ∧
      prev.length = kMaxHeight ∧
      (∀ i, i < sl.maxHeight → prev[i]? = some (some
        ((((chain sl i).takeWhile (fun y => afterKey cmp sl k y == some true)).getLast?).getD 0))) ∧
      (∀ i, sl.maxHeight ≤ i → i < kMaxHeight → prev[i]? = some none) := by
  obtain ⟨L, hi, _⟩ := h
  obtain ⟨A, B, hL, hA, hB⟩ := sorted_split hc hi k
  obtain ⟨prev, h1, hlen, hlow, hhigh⟩ := findGE_of_split hi k A B hL hA hB
  refine ⟨prev, ?_, hlen, ?_, hhigh⟩
  · have := iterSeek_spec hc hi k
    rw [iterSeek, h1] at this
    rw [h1, chain0_eq hi, ← Option.some.inj this]
  · intro i him
    have hik : i < kMaxHeight := by have := hi.mhRange; omega
    obtain ⟨p, hp1, hp2⟩ := hlow i him
    rw [hp1, chain_eq hi i hik, hL, List.filter_append,
      takeWhile_append_all (fun a ha => by simp [hA a (List.mem_filter.mp ha).1])
        (fun b hb => by simp [hB b (List.mem_filter.mp hb).1]),
      hp2.closed hi hik]

/-- `find_lt(key)` = the last node whose key is below `key`, the head (0) if none. -/
theorem findLessThan_spec {cmp : α → α → Ordering} (hc : CmpOk cmp) {sl : SkipList α} {ks : List α} (h : Good cmp sl ks)
    (k : α) :
    findLT cmp sl k = some ((((chain sl 0).takeWhile (fun y => afterKey cmp sl k y == some true)).getLast?).getD 0) := by
  obtain ⟨L, hi, _⟩ := h
  obtain ⟨A, B, hL, hA, hB⟩ := sorted_split hc hi k
  obtain ⟨p, h1, h2⟩ := findLT_of_split hi k A B hL hA hB
  rw [h1, chain0_eq hi, hL, takeWhile_append_all (fun a ha => by simp [hA a ha]) (fun b hb => by simp [hB b hb])]
  rw [List.getLast?_cons] at h2
  simpa using h2.symm

/-- `find_last()` = the last node of the level-0 chain, the head (0) if the list is empty. -/
theorem findLast_spec {cmp : α → α → Ordering} {sl : SkipList α} {ks : List α} (h : Good cmp sl ks) :
    findLast sl = some (((chain sl 0).getLast?).getD 0) := by
  obtain ⟨L, hi, _⟩ := h
  obtain ⟨p, h1, h2⟩ := findLast_of_inv hi
  rw [h1, chain0_eq hi]
  rw [List.getLast?_cons] at h2
  simpa using h2.symm

/-- For a memtable holding the entries `es`: ANY sequence of `first/last/seek/next/prev`
    (seek targets below 4 GiB and trailers below 2^64 — beyond that `ldb_slice_export` truncates the length)
    run on the memtable iterator (`ldb_memiter_*` over `ldb_skipiter_*`: `prev` by `find_lt`, `last` by `find_last`)
    does not fault and ends valid iff the plain cursor `runIter` over the run `es` is, on the same entry.
    `memiter_simOn` (Lemmas/MemtableIter.lean) is the simulation in the sense of `InternalIter.Sim` restricted
    to such targets. -/
theorem iter_is_cursor (tok : Bytes → String) {mt : Memtable} {es : List MEntry} (h : Holds mt es)
    (ops : List InternalOp) (hops : ∀ op ∈ ops, SeekOk op) :
    ∃ it p, (memIter tok mt).run ops iterInit = some it ∧
      (runIter mt.c (es.map (MEntry.toEntry tok))).run ops none = some p ∧
      (memIter tok mt).valid it = (runEntry (es.map (MEntry.toEntry tok)) p).isSome ∧
      (memIter tok mt).entry it = runEntry (es.map (MEntry.toEntry tok)) p ∧
      (memIter tok mt).status it = .ok := by
  obtain ⟨L, ha⟩ := h.aligned
  obtain ⟨it, p, e1, e2, hr⟩ := (memiter_simOn tok ha).run ops (fun op hop k pk e => e ▸ hops op hop)
    iterInit none IterRel.none
  have hobs := memiter_observe tok ha hr
  exact ⟨it, p, e1, e2, hobs.1, hobs.2, rfl⟩

/-- What `ldb_memiter_key` / `ldb_memiter_value` (and `ldb_memtable_get`) decode from
    the arena bytes `ldb_memtable_add` wrote is the internal key and the value that went in; user key, sequence and
    type are recovered from the internal key. -/
theorem memtable_entry_roundtrip (uk : Bytes) (seq kind : Nat) (v : Bytes) (hk : uk.length + 8 < 2 ^ 32)
    (hv : v.length < 2 ^ 32) (hs : seq < 2 ^ 56) (ht : kind < 256) :
    Memtable.decodeEntry (Memtable.encodeEntry uk seq kind v) = some (ikeyEnc uk seq kind, v) ∧
    ikeyUser (ikeyEnc uk seq kind) = uk ∧ ikeyNum (ikeyEnc uk seq kind) / 256 = seq ∧
    ikeyNum (ikeyEnc uk seq kind) % 256 = kind := by
  have hwf : MEntry.wf ⟨uk, seq, kind, v⟩ := ⟨hk, hv, hs, ht⟩
  exact ⟨decodeEntry_encodeEntry uk seq kind v hk hv, ikeyUser_enc _ _,
    (congrArg (· / 256) (MEntry.ikeyNum hwf)).trans (MEntry.packed_div hwf),
    (congrArg (· % 256) (MEntry.ikeyNum hwf)).trans (MEntry.packed_mod hwf)⟩

/-- `ldb_memtable_get` on a memtable holding `es` answers what `runGet` (Model/Lsm.lean) finds in the
    run: a value entry → its value, a deletion → "deleted", no entry of that user key at or below the sequence →
    "not found"; an entry of any other type falls through the `switch` → "not found". -/
theorem memtableGet_eq_runGet (tok : Bytes → String) {mt : Memtable} {es : List MEntry} (h : Holds mt es) (k : Bytes)
    (s : Nat) (hk : k.length + 8 < 2 ^ 32) (hs : s < 2 ^ 56) :
    ∃ r, Memtable.get mt k s = some r ∧
      match runGet mt.c (es.map (MEntry.toEntry tok)) k s with
      | none => r = .notFound
      | some e => (e.kind = 1 → ∃ v, r = .found v ∧ tok v = e.val) ∧ (e.kind = 0 → r = .deleted) ∧
          (e.kind ≠ 0 → e.kind ≠ 1 → r = .notFound) := by
  obtain ⟨m, hget, hrun⟩ := get_spec tok h k s hk hs
  refine ⟨_, hget, ?_⟩
  rw [hrun]
  cases m with
  | none => rfl
  | some m =>
    simp only [Option.map_some, getResultOf, MEntry.toEntry]
    refine ⟨fun h1 => ⟨m.val, by simp [h1], rfl⟩, fun h0 => by simp [h0], fun h0 h1 => by simp [h0, h1]⟩

/-- `ldb_rand_init` puts the state into 1 .. 2^31-2 for every seed, and `ldb_rand_next` keeps
    it there: the generator never reaches its fixed points 0 and 2^31-1. -/
theorem rand_never_zero (seed : Nat) :
    (1 ≤ randInit seed ∧ randInit seed < randM) ∧
    ∀ s, 1 ≤ s ∧ s < randM → 1 ≤ randNext s ∧ randNext s < randM :=
  ⟨randInit_range seed, randNext_range⟩

/-- For every generator state in range, `ldb_skiplist_randheight` returns a height in
    1 .. 12 and leaves the generator in range. -/
theorem randomHeight_range (s : Nat) (hs : 1 ≤ s ∧ s < randM) :
    1 ≤ (randomHeight s).2 ∧ (randomHeight s).2 ≤ kMaxHeight ∧ 1 ≤ (randomHeight s).1 ∧ (randomHeight s).1 < randM :=
  randomHeight_ok s hs

theorem natCmpOk : CmpOk (fun a b : Nat => compare a b) where
  swap a b := (Nat.compare_swap a b).symm
  trans _ _ _ h1 h2 := Nat.compare_eq_lt.mpr (Nat.lt_trans (Nat.compare_eq_lt.mp h1) (Nat.compare_eq_lt.mp h2))

/-- four inserts (heights 1, 3, 2, 12) of distinct keys: hypotheses of `insert_refines_ordInsert` hold … -/
example : (∀ kh ∈ [((5 : Nat), 1), (2, 3), (9, 2), (7, 12)], 1 ≤ kh.2 ∧ kh.2 ≤ kMaxHeight) ∧
    ([((5 : Nat), 1), (2, 3), (9, 2), (7, 12)].map (·.1)).Pairwise (fun a b => compare a b ≠ .eq) := by decide

/-- … and the model run shows the sorted keys and the nested chains (node = ordinal of its insert) -/
example : (insertMany (fun a b : Nat => compare a b) SkipList.init [(5, 1), (2, 3), (9, 2), (7, 12)]).map
      (fun sl => [keys sl, chain sl 11, chain sl 2, chain sl 1, chain sl 0, [sl.maxHeight]])
    = some [[2, 5, 7, 9], [4], [2, 4], [2, 4, 3], [2, 1, 4, 3], [12]] := by decide

/-- the search of `find_ge(6)` in that list: node 4 (key 7); `prev` = node 1 (key 5) at level 0, node 2 (key 2) at
    levels 1 and 2, the head (node 0) above -/
example : ((insertMany (fun a b : Nat => compare a b) SkipList.init [(5, 1), (2, 3), (9, 2), (7, 12)]).bind
      (fun sl => findGE (fun a b : Nat => compare a b) sl 6)).map (fun r => (r.1, r.2.take 4))
    = some (some 4, [some 1, some 2, some 2, some 0]) := by decide

/-- a value, a newer deletion, another key -/
def exWrites : List (MEntry × Nat) :=
  [({ ukey := [0x61], seq := 5, kind := 1, val := [0xaa] }, 2),
   ({ ukey := [0x61], seq := 7, kind := 0, val := [] }, 1),
   ({ ukey := [0x62], seq := 4, kind := 1, val := [0xbb, 0xcc] }, 3)]

theorem exWrites_ok : (∀ eh ∈ exWrites, eh.1.wf ∧ 1 ≤ eh.2 ∧ eh.2 ≤ kMaxHeight) ∧ DistinctIKeys (exWrites.map (·.1)) := by
  unfold DistinctIKeys MEntry.wf
  decide

example : ∃ mt es, addManyH (Memtable.create .bytewise) exWrites = some mt ∧ Holds mt es ∧ es.length = 3 ∧
    (es.map (MEntry.toEntry (fun _ => ""))).map (fun e => (e.ukey, e.seq, e.kind)) = [([0x61], 7, 0), ([0x61], 5, 1), ([0x62], 4, 1)] := by
  obtain ⟨mt, es, h1, h2, _, h4, _, h6⟩ := insert_refines_runInsert .bytewise (fun _ => "") exWrites exWrites_ok.1 exWrites_ok.2
  refine ⟨mt, es, h1, h2, h6, ?_⟩
  rw [h4]
  decide

example : runGet .bytewise (mkRun .bytewise ((exWrites.map (·.1)).map (MEntry.toEntry (fun _ => "")))) [0x61] 9
    = some { ukey := [0x61], seq := 7, kind := 0, val := "" } := by decide

/-- the first height `ldb_skiplist_randheight` draws from seed 0xdeadbeef, and the first two generator states (as the C
    harness prints them) -/
example : (randomHeight (randInit 0xdeadbeef)).2 = 2 ∧ randInit 0xdeadbeef = 1588444911 ∧
    randNext 1588444911 = 1624403320 := by decide

end Lcdb.Skiplist
