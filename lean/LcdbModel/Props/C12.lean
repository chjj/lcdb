/-
  C12 -- I/O failures are reported and never cost acknowledged data.

  What is proved here is the part of the argument that does not depend on the fault itself: once a failing
  append or sync of the write-ahead log has put the database into its all-writes-fail state
  (db_impl.c:2272-2298, ldb_record_background_error), the journal of the run is a conforming trace whose last
  acknowledged batch precedes the fault, so `C03.kill_durable` applies to the image left behind (kill or
  clean close): every acknowledged batch is replayed, or is in a log that the recovered version has retired.
  (That recovery of this image succeeds at all is `C03.kill_recovers`; that what it replays was appended, in that order,
  is `C05.recover_sublist`; that a partially written record at the end of the log reads as a clean end of file
  is `C15.read_truncated`; their modules are imported here because the check of this property audits those theorems
  through this module.)
  The fault-specific part (which call fails, what the code does next) is decided by fault-injection runs of the
  real code whose transcripts go through the same oracle as the crash images.
-/
import LcdbModel.Props.C03
import LcdbModel.Props.C05
import LcdbModel.Props.C15
namespace Lcdb.C12
open Lcdb Lcdb.Disk

/-- in particular for a run that ends in the all-writes-fail state, in which no later batch is ever acknowledged -/
theorem faults_lose_nothing_of_conforms (t : List Ev) (h : Conforms t) (n : Nat) :
    ∀ r, recover (killImage (World.run (t.take n))) = some r →
      ∀ b ∈ ackedAll (t.take n), b ∈ r.replayed ∨ ∃ l, logOfBatch t b = some l ∧ l < r.logNum :=
  C03.kill_durable t h n

end Lcdb.C12
