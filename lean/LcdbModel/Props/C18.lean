/-
  C18 -- decoders are total and memory-safe on arbitrary bytes.
  One module per decoder: Props/TableProps.lean (`table_no_fault`, `readBlock_total`), Props/BlockProps.lean
  (`blockIter_no_fault`), Props/FilterProps.lean (`filter_no_fault`), Props/SnappyProps.lean
  (`snappy_decode_safe`), Props/C04.lean (write batch), Props/C15.lean (log records), Props/C17.lean
  (version edits), Props/C20.lean (file names).  This module gathers them for
  /verif/checks/C18.py, which builds it and audits the theorems by name.
-/
import LcdbModel.Props.TableProps
import LcdbModel.Props.BlockProps
import LcdbModel.Props.FilterProps
import LcdbModel.Props.SnappyProps
import LcdbModel.Props.C04
import LcdbModel.Props.C15
import LcdbModel.Props.C17
import LcdbModel.Props.C20
