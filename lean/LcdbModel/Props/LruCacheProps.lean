/-
  Properties of the sharded LRU cache of src/util/cache.c (model: Model/LruCache.lean, Model/LruHTable.lean).
  DESIGN.md cites them for C01 (reads do not depend on cache evictions) and C10/C18 (a cached object is never freed while
  a handle to it is outstanding, and is freed exactly once); no property file imports this one.

  The statements about runs are about ARBITRARY well-formed op sequences (`wf`: only handles that are held are
  released) on a shard of any capacity, proved through the invariant `Inv` (Lemmas/LruCache.lean); those about one
  operation are from any state satisfying `Inv`; the last part lifts the run theorems to scripts over the 16-shard wrapper.
-/
import LcdbModel.Lemmas.LruCacheWrap
import LcdbModel.Lemmas.LruHTable
import LcdbModel.Lemmas.Bloom
namespace Lcdb.LruCache

theorem run_from_empty (cap : Nat) (ops : List Op) (hw : wf (Shard.empty cap) ops = true) :
    ∃ s outs, run (Shard.empty cap) ops = some (s, outs) ∧ outs.length = ops.length ∧ Inv s ∧
      Coh s (specOf ops) ∧ s.entries.map kvc = insertsOf ops ∧ s.capacity = cap := by
  obtain ⟨s, outs, hr, hl, hi, hc, hk, hcap⟩ :=
    run_inv (Shard.empty cap) [] ops (inv_empty cap) ⟨rfl, fun _ => .inl rfl, fun _ _ => rfl⟩ hw
  exact ⟨s, outs, hr, hl, hi, hc, by simpa [Shard.empty] using hk, hcap⟩

/-- a well-formed op sequence never drives the model into `none` (a C assert / use-after-free / a
    non-terminating eviction loop), whatever the capacity -/
theorem run_total (cap : Nat) (ops : List Op) (hw : wf (Shard.empty cap) ops = true) :
    ∃ s outs, run (Shard.empty cap) ops = some (s, outs) ∧ outs.length = ops.length := by
  obtain ⟨s, outs, hr, hl, _⟩ := run_from_empty cap ops hw; exact ⟨s, outs, hr, hl⟩

theorem run_facts {cap : Nat} {ops : List Op} {s : Shard} {outs : List Out} (hw : wf (Shard.empty cap) ops = true)
    (hr : run (Shard.empty cap) ops = some (s, outs)) :
    Inv s ∧ Coh s (specOf ops) ∧ s.entries.map kvc = insertsOf ops ∧ s.capacity = cap := by
  obtain ⟨s', outs', hr', _, h⟩ := run_from_empty cap ops hw
  rw [hr] at hr'; cases hr'; exact h

/-- `latest ops k` is what it is called: the entry created by the last `insert k` of the sequence, provided no
    `erase k` came after it -/
theorem latest_spec (ops : List Op) (k : Bytes) (id : Nat) (h : latest ops k = some id) :
    ∃ pre post v c, ops = pre ++ .insert k v c :: post ∧ id = (insertsOf pre).length ∧
      (insertsOf ops)[id]? = some (k, v, c) ∧
      ∀ op ∈ post, op ≠ .erase k ∧ ∀ v' c', op ≠ .insert k v' c' := by
  rcases spec_fold_char ops Spec.init k id h with ⟨h1, _⟩ | ⟨pre, post, v, c, he, hid, hp⟩
  · cases h1
  · have hid' : id = (insertsOf pre).length := hid.trans (Nat.zero_add _)
    refine ⟨pre, post, v, c, he, hid', ?_, hp⟩
    subst he
    rw [insertsOf_append, hid']; simp [insertsOf]

/-- after any well-formed op sequence, `lookup k` does not fault and returns either a miss or
    a handle to the entry of the MOST RECENT `insert k _` that no `erase k` followed (`latest_spec`) — never an older
    insert of `k`, never an entry inserted under another key — and `ldb_lru_value` of that handle is the value of that
    insert.  (Evictions and `prune` only ever turn hits into misses.) -/
theorem lookup_coherent (cap : Nat) (ops : List Op) (s : Shard) (outs : List Out)
    (hw : wf (Shard.empty cap) ops = true) (hr : run (Shard.empty cap) ops = some (s, outs)) (k : Bytes) :
    ∃ s', lookup s k = some (s', s.table k) ∧
      (s.table k = none ∨
        ∃ id v c, s.table k = some id ∧ latest ops k = some id ∧ (insertsOf ops)[id]? = some (k, v, c) ∧
          value s' id = some v) := by
  obtain ⟨hi, hc, hk, _⟩ := run_facts hw hr
  obtain ⟨s', hl, hi', ls⟩ := lookup_inv k hi
  refine ⟨s', hl, ?_⟩
  cases ht : s.table k with
  | none => left; rfl
  | some id =>
    right
    obtain ⟨e, hx, hcache, hkey⟩ := hi.tabIn k id ht
    have hlat : latest ops k = some id := by
      rcases hc.tab k with h | h
      · rw [ht] at h; cases h
      · rw [ht] at h; exact h.symm
    have hins : (insertsOf ops)[id]? = some (k, e.val, e.charge) := by
      rw [← hk, List.getElem?_map, hx]; simp [kvc, hkey]
    refine ⟨id, e.val, e.charge, rfl, hlat, hins, ?_⟩
    obtain ⟨e', hx', _, hv, _⟩ := ls.frame.kv id e hx
    have hheld : id ∈ s'.held := by rw [ls.held, ht]; simp
    obtain ⟨-, e2, hx2, hpos⟩ := hi'.pinned hheld
    rw [hx'] at hx2; cases hx2
    simp [value, hheld, hx', Nat.ne_of_gt hpos, hv]

/-- the observable form: the `Out` of a `lookup k` op issued after a well-formed run -/
theorem lookup_out_coherent (cap : Nat) (ops : List Op) (s : Shard) (outs : List Out)
    (hw : wf (Shard.empty cap) ops = true) (hr : run (Shard.empty cap) ops = some (s, outs)) (k : Bytes) :
    ∃ s' h, step s (.lookup k) = some (s', .handle h) ∧ (h = none ∨ h = latest ops k) := by
  obtain ⟨s', hl, hh⟩ := lookup_coherent cap ops s outs hw hr k
  refine ⟨s', s.table k, by simp [step, hl], ?_⟩
  rcases hh with h | ⟨id, _, _, h1, h2, _⟩
  · left; exact h
  · right; rw [h1, h2]

/-- an entry whose handle is outstanding has not been passed to the deleter (and is alive:
    `refs > 0`), after any well-formed op sequence -/
theorem pinned_never_deleted (cap : Nat) (ops : List Op) (s : Shard) (outs : List Out)
    (hw : wf (Shard.empty cap) ops = true) (hr : run (Shard.empty cap) ops = some (s, outs)) (id : Nat)
    (hh : id ∈ s.held) :
    id ∉ s.deleted ∧ ∃ e, s.entries[id]? = some e ∧ 0 < e.refs :=
  (run_facts hw hr).1.pinned hh

/-- the deleter log never contains an entry twice, and contains exactly the freed
    entries (`refs = 0`) -/
theorem deleted_once (cap : Nat) (ops : List Op) (s : Shard) (outs : List Out)
    (hw : wf (Shard.empty cap) ops = true) (hr : run (Shard.empty cap) ops = some (s, outs)) :
    s.deleted.Nodup ∧ ∀ id, id ∈ s.deleted ↔ ∃ e, s.entries[id]? = some e ∧ e.refs = 0 := by
  obtain ⟨hi, _⟩ := run_facts hw hr
  exact ⟨hi.ndDel, hi.delIff⟩

theorem filterMap_range_getElem? {α β} (l : List α) (g : α → β) :
    (List.range l.length).filterMap (fun i => (l[i]?).map g) = l.map g := by
  induction l with
  | nil => simp
  | cons a l ih =>
    rw [List.length_cons, List.range_succ_eq_map, List.filterMap_cons]
    simp only [List.getElem?_cons_zero, Option.map_some, List.filterMap_map, List.map_cons]
    congr 1

/-- every entry is deleted exactly once: releasing every outstanding handle and destroying the shard
    (`lru_shard_clear`) does not fault and leaves a deleter log that is a permutation of ALL entries ever inserted —
    no leak, no double free; the values passed to the deleter are, as a multiset, exactly the inserted values -/
theorem shutdown_deletes_all (cap : Nat) (ops : List Op) (s : Shard) (outs : List Out)
    (hw : wf (Shard.empty cap) ops = true) (hr : run (Shard.empty cap) ops = some (s, outs)) :
    ∃ s', shutdown s = some s' ∧ s'.held = [] ∧
      s'.deleted.Perm (List.range (insertsOf ops).length) ∧
      (deletedVals s').Perm ((insertsOf ops).map (·.2.1)) := by
  obtain ⟨hi, _, hk, _⟩ := run_facts hw hr
  obtain ⟨s', hs, hh, hf, hp⟩ := shutdown_spec s hi
  have hlen : (insertsOf ops).length = s.entries.length := by rw [← hk]; simp
  refine ⟨s', hs, hh, by rw [hlen]; exact hp, ?_⟩
  have h1 : (deletedVals s').Perm ((List.range s'.entries.length).filterMap fun id => (s'.entries[id]?).map (·.val)) := by
    rw [hf.len]; exact hp.filterMap _
  rw [filterMap_range_getElem?] at h1
  have h2 : s'.entries.map (·.val) = (insertsOf ops).map (·.2.1) := by
    rw [← hk, ← frame_kvc hf]; simp [kvc]
  rw [← h2]; exact h1

/-- `usage` is the sum of the charges of the in-cache entries, and `lru_shard_usage` reports it -/
theorem usage_is_sum (cap : Nat) (ops : List Op) (s : Shard) (outs : List Out)
    (hw : wf (Shard.empty cap) ops = true) (hr : run (Shard.empty cap) ops = some (s, outs)) :
    s.usage = sumCharge s.entries ∧ totalCharge s = s.usage :=
  ⟨(run_facts hw hr).1.usage, rfl⟩

/-- after an `insert` (the only operation that evicts) either the shard is within its
    capacity or everything left in it is pinned -/
theorem capacity_respected (s : Shard) (hi : Inv s) (k : Bytes) (v c : Nat) :
    ∃ s', insert s k v c = some (s', s.entries.length) ∧ (s'.usage ≤ s'.capacity ∨ s'.lru = []) := by
  obtain ⟨s', h, _, sp⟩ := insert_inv k v c hi; exact ⟨s', h, sp.respected⟩

/-- every operation except `release` keeps "within capacity or nothing unpinned left" (`insert` and `prune` establish it:
    `prune` leaves `lru = []`) -/
theorem capacity_preserved (s s' : Shard) (op : Op) (o : Out) (hi : Inv s) (hne : ∀ id, op ≠ .release id)
    (hs : step s op = some (s', o)) (h : s.usage ≤ s.capacity ∨ s.lru = []) :
    s'.usage ≤ s'.capacity ∨ s'.lru = [] := by
  cases op with
  | insert k v c =>
    obtain ⟨s1, h1, _, sp⟩ := insert_inv k v c hi
    simp only [step, h1, Option.map_some, Option.some.injEq, Prod.mk.injEq] at hs
    exact hs.1 ▸ sp.respected
  | lookup k =>
    obtain ⟨s1, h1, _, ls⟩ := lookup_inv k hi
    simp only [step, h1, Option.map_some, Option.some.injEq, Prod.mk.injEq] at hs
    rw [← hs.1]
    exact h.imp (fun h => by rw [ls.usage, ls.frame.cap]; exact h) fun h => by rw [ls.lru, h]; rfl
  | release id => exact absurd rfl (hne id)
  | erase k =>
    obtain ⟨s1, h1, _, es⟩ := erase_inv k hi
    simp only [step, h1, Option.map_some, Option.some.injEq, Prod.mk.injEq] at hs
    rw [← hs.1]
    refine h.imp (fun h => by rw [es.frame.cap]; exact Nat.le_trans es.usageLe h) fun h => ?_
    exact List.eq_nil_iff_forall_not_mem.2 fun id hid => by have := es.lruSub id hid; rw [h] at this; cases this
  | prune =>
    obtain ⟨s1, h1, _, _, hl⟩ := prune_inv hi
    simp only [step, h1, Option.map_some, Option.some.injEq, Prod.mk.injEq] at hs
    exact .inr (hs.1 ▸ hl)
  | total => cases hs; exact h

/-- `release` is the exception (as in LevelDB): it can leave an unpinned entry in a shard that is over its capacity —
    nothing is evicted until the next `insert`.  Capacity 1, two pinned entries of charge 1, one released. -/
example :
    ∃ s outs, run (Shard.empty 1) [.insert [1] 10 1, .insert [2] 20 1, .release 0] = some (s, outs) ∧
      s.usage = 2 ∧ s.capacity = 1 ∧ s.lru = [0] := by
  refine ⟨_, _, rfl, ?_⟩; decide +kernel

/-- `insert` first takes the old entry of the key (if any) out of the cache, then evicts a PREFIX of
    the LRU list — the entries unpinned longest ago first — passing exactly them to the deleter in that order, and
    stops as soon as the shard fits or nothing unpinned is left -/
theorem lru_order (s : Shard) (hi : Inv s) (k : Bytes) (v c : Nat) :
    ∃ s' n, insert s k v c = some (s', s.entries.length) ∧ n ≤ (insMid s k).length ∧
      s'.lru = (insMid s k).drop n ∧
      s'.deleted = s.deleted ++ insOld s k ++ (insMid s k).take n ∧
      (s'.usage ≤ s'.capacity ∨ s'.lru = []) := by
  obtain ⟨s', h, _, sp⟩ := insert_inv k v c hi
  obtain ⟨n, hn, hl, hd⟩ := sp.order
  exact ⟨s', n, h, hn, hl, hd, sp.respected⟩

/-- how the LRU list is ordered: the LAST release of an in-cache entry appends it at the newest end -/
theorem release_appends (s : Shard) (hi : Inv s) (id : Nat) (hh : id ∈ s.held) :
    ∃ s' e, release s id = some s' ∧ s.entries[id]? = some e ∧
      s'.lru = (if e.inCache = true ∧ s.held.count id = 1 then s.lru ++ [id] else s.lru) ∧
      s'.deleted = (if e.inCache = false ∧ s.held.count id = 1 then s.deleted ++ [id] else s.deleted) := by
  obtain ⟨s', h, _, sp⟩ := release_inv id hi hh
  obtain ⟨-, e, hx, -⟩ := hi.pinned hh
  exact ⟨s', e, h, hx, sp.lru e hx, sp.deleted e hx⟩

theorem lookup_unlinks (s : Shard) (hi : Inv s) (k : Bytes) :
    ∃ s', lookup s k = some (s', s.table k) ∧ s'.deleted = s.deleted ∧
      s'.lru = s.lru.filter (fun x => s.table k != some x) := by
  obtain ⟨s', h, _, sp⟩ := lookup_inv k hi; exact ⟨s', h, sp.deleted, sp.lru⟩

theorem prune_deletes_lru (s : Shard) (hi : Inv s) :
    ∃ s', prune s = some s' ∧ s'.lru = [] ∧ s'.deleted = s.deleted ++ s.lru ∧ s'.inUse = s.inUse ∧ s'.held = s.held := by
  obtain ⟨s', h, _, sp, hl⟩ := prune_inv hi
  obtain ⟨n, hn, hd, hdel⟩ := sp.pre
  refine ⟨s', h, hl, ?_, sp.inUse, sp.held⟩
  have : s.lru.length ≤ n := by
    rw [hl] at hd
    have := congrArg List.length hd; simp at this; omega
  rw [hdel, List.take_of_length_le this]

/-- after any well-formed op sequence
    (a) `refs` = client handles + (1 if in cache);
    (b) an entry is on `lru` iff it is in the cache and `refs = 1`; on `in_use` iff in the cache and `refs ≥ 2`;
    (c) `lru` and `in_use` are duplicate-free, disjoint, and together hold exactly the in-cache entries;
    (d) the handle table maps a key to an entry iff that entry is in the cache and has that key
        (so at most one in-cache entry per key). -/
theorem invariants (cap : Nat) (ops : List Op) (s : Shard) (outs : List Out)
    (hw : wf (Shard.empty cap) ops = true) (hr : run (Shard.empty cap) ops = some (s, outs)) :
    (∀ id e, s.entries[id]? = some e → e.refs = s.held.count id + (if e.inCache then 1 else 0)) ∧
    (∀ id, id ∈ s.lru ↔ ∃ e, s.entries[id]? = some e ∧ e.inCache = true ∧ e.refs = 1) ∧
    (∀ id, id ∈ s.inUse ↔ ∃ e, s.entries[id]? = some e ∧ e.inCache = true ∧ 2 ≤ e.refs) ∧
    (s.lru.Nodup ∧ s.inUse.Nodup ∧ (∀ id, ¬ (id ∈ s.lru ∧ id ∈ s.inUse)) ∧
      ∀ id e, s.entries[id]? = some e → (e.inCache = true ↔ (id ∈ s.lru ∨ id ∈ s.inUse))) ∧
    (∀ k id, s.table k = some id ↔ ∃ e, s.entries[id]? = some e ∧ e.inCache = true ∧ e.key = k) := by
  obtain ⟨hi, _⟩ := run_facts hw hr
  refine ⟨hi.refs, hi.lruIff, hi.useIff, ⟨hi.ndLru, hi.ndUse, ?_, ?_⟩, ?_⟩
  · rintro id ⟨h1, h2⟩
    obtain ⟨e, he, _, hr1⟩ := (hi.lruIff id).1 h1
    have := (mem_iff_at hi.useIff he).1 h2; omega
  · intro id e he
    rw [mem_iff_at hi.lruIff he, mem_iff_at hi.useIff he]
    constructor
    · intro hc
      have := hi.refs id e he; simp only [hc, if_true] at this
      by_cases h1 : e.refs = 1
      · exact .inl ⟨hc, h1⟩
      · exact .inr ⟨hc, by omega⟩
    · rintro (h | h) <;> exact h.1
  · intro k id
    constructor
    · exact hi.tabIn k id
    · rintro ⟨e, he, hc, hk⟩; rw [← hk]; exact hi.tab id e he (by simp) hc

/-- the open-hashing handle table of cache.c (chains, replace-in-place, resize when
    `elems > length`) answers every sequence of insert / remove / lookup exactly as a finite map keyed by (key, hash),
    ends up abstracting to that map, and keeps its structural invariant (every node in the bucket of its hash, no
    duplicate (key, hash), `elems` = number of nodes, bucket count a power of two ≥ 4, load factor ≤ 1) -/
theorem htable_is_map (ops : List HTable.HOp) :
    (HTable.runOps HTable.init ops).2 = (HTable.refRun (fun _ => none) ops).2 ∧
    HTable.abs (HTable.runOps HTable.init ops).1 = (HTable.refRun (fun _ => none) ops).1 ∧
    HTable.Inv (HTable.runOps HTable.init ops).1 :=
  HTable.is_map ops

/-- a key always selects one of the 16 shards (`hash >> 28` of a 32-bit hash) -/
theorem shardOf_lt (k : Bytes) : shardOf k < numShards := by
  have := ldbHash_lt k 0
  simp only [shardOf, lruHash, numShards]
  omega

/-- per-shard capacity of `ldb_lru_create`: rounded up, so 16 shards never hold less than `capacity` in total, and a
    positive capacity gives every shard a positive one; capacity 0 switches every shard off -/
theorem create_shards (capacity : Nat) :
    (Cache.create capacity).shards.length = 16 ∧
    (∀ s ∈ (Cache.create capacity).shards, s.capacity = (capacity + 15) / 16 ∧ Inv s) ∧
    capacity ≤ 16 * ((capacity + 15) / 16) ∧ ((capacity + 15) / 16 = 0 ↔ capacity = 0) := by
  refine ⟨by simp [Cache.create, numShards], ?_, by omega, by omega⟩
  intro s hs
  simp only [Cache.create, numShards, List.mem_replicate] at hs
  rw [hs.2]; exact ⟨rfl, inv_empty _⟩

/-- `ldb_lru_insert` touches the shard of its key only and is that shard's `insert` (every routed op: `Cache.step_route`) -/
theorem cache_insert_local (c : Cache) (k : Bytes) (v ch : Nat) (s : Shard) (hs : c.shards[shardOf k]? = some s)
    (hi : Inv s) :
    ∃ s', insert s k v ch = some (s', s.entries.length) ∧ Inv s' ∧
      c.insert k v ch = some ({ c with shards := c.shards.set (shardOf k) s' }, (shardOf k, s.entries.length)) := by
  obtain ⟨s', h, hi', _⟩ := insert_inv k v ch hi
  exact ⟨s', h, hi', by simp [Cache.insert, Cache.onShard, hs, h]⟩

/-- `ldb_lru_id` hands out the counter plus one (no wrap below 2^64).  From `Cache.create` (`lastId = 0`) that is
    1, 2, 3, …: the `cache_id` prefixes of the block cache keys of different tables never coincide, and 0 (= "no block
    cache") is never handed out -/
theorem newId_fresh (c : Cache) (h : c.lastId + 1 < 2 ^ 64) :
    c.newId.2 = c.lastId + 1 ∧ c.newId.1.lastId = c.lastId + 1 ∧ c.newId.1.shards = c.shards := by
  simp [Cache.newId, Nat.mod_eq_of_lt h]

/-- a well-formed script in which the overwrite of an unpinned entry (entry 0, deleted at once), erase-while-pinned,
    evict-after-release, a revived lookup and a prune with a pinned entry all occur (capacity 2) -/
def demo : List Op :=
  [.insert [1] 10 1, .insert [2] 20 1, .release 0, .lookup [1], .release 0, .insert [1] 11 1,
   .erase [2], .insert [3] 30 1, .release 2, .insert [4] 40 1, .lookup [9], .prune, .total, .release 1]

example : wf (Shard.empty 2) demo = true := by decide +kernel

example : (run (Shard.empty 2) demo).map (·.2) =
    some [.handle (some 0), .handle (some 1), .unit, .handle (some 0), .unit, .handle (some 2), .unit,
          .handle (some 3), .unit, .handle (some 4), .handle none, .unit, .total 2, .unit] := by decide +kernel

example : (run (Shard.empty 2) demo).map (fun p => (p.1.deleted, p.1.lru, p.1.inUse)) = some ([0, 2, 1], [], [3, 4]) := by
  decide +kernel

example : (run (Shard.empty 2) demo).map (fun p => (p.1.held, p.1.usage)) = some ([3, 4], 2) := by decide +kernel

example : latest demo [1] = some 2 ∧ latest demo [2] = none ∧ latest demo [4] = some 4 := by decide +kernel

example : (shutdown ((run (Shard.empty 2) demo).get (by decide +kernel)).1).map (·.deleted) = some [0, 2, 1, 3, 4] := by decide +kernel

example : wf (Shard.empty 2) [.insert [1] 10 1, .release 0, .release 0] = false ∧
    run (Shard.empty 2) [.insert [1] 10 1, .release 0, .release 0] = none := by decide +kernel

/-! The whole 16-shard cache: scripts of cache-level ops (`COp`, `Cache.run`, Lemmas/LruCacheWrap.lean)

  Every statement is about ANY cache-level script that runs without fault from `Cache.create cap` (releasing a handle that
  is not held, or one with a shard index ≥ 16, faults; by `run_some_wf` the per-shard scripts of a run without fault are
  well-formed), and is obtained by projecting the script to the 16 per-shard scripts (`cache_run_proj`) and applying the
  shard theorem. -/

theorem cache_shard_run (cap : Nat) (ops : List COp) (c : Cache) (outs : List COut)
    (hr : (Cache.create cap).run ops = some (c, outs)) (i : Nat) (hi : i < 16) :
    ∃ s o, c.shards[i]? = some s ∧ run (Shard.empty ((cap + 15) / 16)) (proj i ops) = some (s, o) ∧
      wf (Shard.empty ((cap + 15) / 16)) (proj i ops) = true := by
  obtain ⟨s, o, hs, hrun⟩ := (cache_run_proj hr).2 i _ (create_getElem? cap i hi)
  exact ⟨s, o, hs, hrun, run_some_wf hrun⟩

theorem cache_inv (cap : Nat) (ops : List COp) (c : Cache) (outs : List COut)
    (hr : (Cache.create cap).run ops = some (c, outs)) (i : Nat) (s : Shard) (hs : c.shards[i]? = some s) :
    i < 16 ∧ Inv s := by
  have hi : i < 16 := by
    have := getElem?_lt hs; rw [(cache_run_proj hr).1] at this; simpa [Cache.create, numShards] using this
  obtain ⟨s', o, h1, h2, h3⟩ := cache_shard_run cap ops c outs hr i hi
  rw [hs] at h1; cases h1
  exact ⟨hi, (run_facts h3 h2).1⟩

/-- after any cache script, `ldb_lru_lookup(k)` does not fault and returns nothing, or a handle whose
    value is the value `v` of the LATEST `insert k v _` of the script, with no `erase k` after it — never a stale value of an
    older insert of `k`, never a value inserted under another key (whichever shard it lives in) -/
theorem cache_lookup_coherent (cap : Nat) (ops : List COp) (c : Cache) (outs : List COut)
    (hr : (Cache.create cap).run ops = some (c, outs)) (k : Bytes) :
    ∃ c' h, c.lookup k = some (c', h) ∧
      (h = none ∨ ∃ id v ch pre post, h = some (shardOf k, id) ∧ c'.value (shardOf k, id) = some v ∧
        ops = pre ++ .insert k v ch :: post ∧
        (∀ op ∈ post, op ≠ .erase k ∧ ∀ v' c', op ≠ .insert k v' c') ∧
        latest (proj (shardOf k) ops) k = some id) := by
  have hi := shardOf_lt k
  obtain ⟨s, o, hs, hrun, hwf⟩ := cache_shard_run cap ops c outs hr (shardOf k) hi
  obtain ⟨s', hl, hh⟩ := lookup_coherent _ _ s o hwf hrun k
  have hlt := getElem?_lt hs
  refine ⟨{ c with shards := c.shards.set (shardOf k) s' }, (s.table k).map fun h => (shardOf k, h),
    by simp [Cache.lookup, Cache.onShard, hs, hl], ?_⟩
  rcases hh with h | ⟨id, v, ch, h1, h2, h3, h4⟩
  · left; simp [h]
  · right
    obtain ⟨pre', post', v', c', he, _, hins, hpost⟩ := latest_spec _ k id h2
    rw [h3] at hins; simp at hins; obtain ⟨rfl, rfl⟩ := hins
    obtain ⟨pre, op, post, hops, hop, _, hpp⟩ := proj_split _ ops pre' post' _ he
    have hopeq : op = .insert k v ch := projOp_eq_insert _ op k v ch hop
    subst hopeq
    refine ⟨id, v, ch, pre, post, by simp [h1], ?_, hops, ?_, h2⟩
    · simp [Cache.value, hlt, h4]
    · intro op hop
      have key := fun x hx => hpost x (hpp ▸ proj_eq _ post ▸ List.mem_filterMap.2 ⟨op, hop, hx⟩)
      exact ⟨fun h => (key (.erase k) (by simp [h, projOp])).1 rfl,
        fun v2 c2 h => (key (.insert k v2 c2) (by simp [h, projOp])).2 v2 c2 rfl⟩

/-- a handle (shard, entry) the client holds is in no deleter log -/
theorem cache_pinned_never_deleted (cap : Nat) (ops : List COp) (c : Cache) (outs : List COut)
    (hr : (Cache.create cap).run ops = some (c, outs)) (h : Handle) (hh : h ∈ c.heldAll) : h ∉ c.deletedAll := by
  obtain ⟨i, id⟩ := h
  simp only [Cache.heldAll, Cache.deletedAll, mem_tagFrom, List.mem_zipIdx_iff_getElem?, List.getElem?_map] at hh ⊢
  obtain ⟨x, hx, hid⟩ := hh
  rintro ⟨y, hy, hid'⟩
  cases hs : c.shards[i]? with
  | none => simp [hs] at hx
  | some s =>
    simp [hs] at hx hy; subst hx; subst hy
    exact ((cache_inv cap ops c outs hr i s hs).2.pinned hid).1 hid'

/-- the concatenation of the 16 deleter logs (tagged with the shard) has no duplicate: no entry of the
    cache is passed to its deleter twice -/
theorem cache_deleted_once (cap : Nat) (ops : List COp) (c : Cache) (outs : List COut)
    (hr : (Cache.create cap).run ops = some (c, outs)) : c.deletedAll.Nodup := by
  apply nodup_tagFrom
  intro x hx
  simp only [List.mem_map] at hx
  obtain ⟨s, hs, rfl⟩ := hx
  obtain ⟨i, hi⟩ := List.mem_iff_getElem?.1 hs
  exact (cache_inv cap ops c outs hr i s hi).2.ndDel

/-- `ldb_lru_usage` = the sum over the shards of the charges of their in-cache entries -/
theorem cache_usage_is_sum (cap : Nat) (ops : List COp) (c : Cache) (outs : List COut)
    (hr : (Cache.create cap).run ops = some (c, outs)) :
    c.totalCharge = (c.shards.map fun s => sumCharge s.entries).sum := by
  simp only [Cache.totalCharge]
  congr 1
  apply List.map_congr_left
  intro s hs
  obtain ⟨i, hi⟩ := List.mem_iff_getElem?.1 hs
  exact (cache_inv cap ops c outs hr i s hi).2.usage

/-- non-vacuity: keys `[0x61]` (shard 12) and `[0x62]` (shard 9) of a cache of capacity 16 (1 per shard) -/
def cdemo : List COp :=
  [.insert [0x61] 5 1, .insert [0x62] 6 1, .lookup [0x61], .release (12, 0), .release (12, 0), .insert [0x61] 7 1,
   .lookup [0x61], .erase [0x62], .prune]

example : shardOf [0x61] = 12 ∧ shardOf [0x62] = 9 := by decide +kernel

example : ((Cache.create 16).run cdemo).map (·.2) =
    some [.handle (some (12, 0)), .handle (some (9, 0)), .handle (some (12, 0)), .unit, .unit, .handle (some (12, 1)),
          .handle (some (12, 1)), .unit, .unit] := by decide +kernel

example : ((Cache.create 16).run cdemo).map (fun p => (p.1.deletedAll, p.1.heldAll, p.1.totalCharge)) =
    some ([(12, 0)], [(9, 0), (12, 1), (12, 1)], 1) := by decide +kernel

example : proj 12 cdemo = [.insert [0x61] 5 1, .lookup [0x61], .release 0, .release 0, .insert [0x61] 7 1, .lookup [0x61], .prune] ∧
    proj 9 cdemo = [.insert [0x62] 6 1, .erase [0x62], .prune] := by decide +kernel

end Lcdb.LruCache
