/-
  C10, lock-free memtable reads against an insert in progress (src/skiplist.c): the publication of a node in the
  happens-before model (`publish_safe` for a `release` store read by an `acquire` load; `publish_unsafe_relaxed`: the
  hypothesis is necessary in the model; `publish_safe_current_source`: the orders the translator extracted from /repo,
  Generated.atomics, satisfy it), level 0 as memory cells (`insert_represents`, `reader_load`), and a level-0 traversal
  that runs concurrently with ONE inserter (`reader_sees_sorted_superset`).

  SINGLE-WRITER ASSUMPTION (explicit): the schedule of `reader_sees_sorted_superset` contains the level-0
  publications of one writer, one atomic store each; `insert_represents` is about one insert running alone on the
  writer side.  In lcdb this is guaranteed by external synchronisation: only the writer at the head of db->writers
  calls ldb_memtable_add (see Spec/ConcPolicy.lean, `knownUnlocked`, writer-queue token).
-/
import LcdbModel.Model.SkiplistPub
import LcdbModel.Props.C10
namespace Lcdb.C10
open Lcdb.HB Lcdb.SkiplistPub Lcdb.Conc

/-- Let the events of one `ldb_skiplist_insert` of node `n` (height `h`) occur in the trace in
    program order at positions `pos 0 < pos 1 < ...` (other threads' events interleaved arbitrarily).  If a reader
    thread loads, with order `oLoad ≥ acquire`, the link through which the insert published `n` at some level
    (`oStore ≥ release`; the load reads THAT store, which precedes it in the trace), then every later event of the
    reader — in particular its plain reads of the node's key and height — happens-after both initialising writes. -/
theorem publish_safe (tr : Trace) (W R : Tid) (oStore oLoad : MemOrder) (n h : Nat) (prevs : Nat → Nat)
    (rfs : Nat → Option Nat) (pos : Nat → Nat)
    (hmono : ∀ a b, a < b → pos a < pos b)
    (hemb : ∀ k e, (insertEvents W oStore n h prevs rfs)[k]? = some e → tr[pos k]? = some e)
    (hs : oStore.isRelease = true) (hl : oLoad.isAcquire = true)
    (level : Nat) (hlevel : level < h) (l r : Nat) (e : Ev)
    (hload : tr[l]? = some (R, Ev.aload (linkVar (prevs level) level) oLoad (some (pubTag n level))))
    (hrf : pos (pubIndex level) < l)
    (hlr : l < r) (hread : tr[r]? = some (R, e)) :
    tr[pos 0]? = some (W, Ev.write (keyLoc n)) ∧ tr[pos 1]? = some (W, Ev.write (heightLoc n)) ∧
    HB tr (pos 0) r ∧ HB tr (pos 1) r := by
  have h0 : tr[pos 0]? = some (W, Ev.write (keyLoc n)) := hemb 0 _ rfl
  have h1 : tr[pos 1]? = some (W, Ev.write (heightLoc n)) := hemb 1 _ rfl
  -- every event of the insert before the publishing store of `level` is published to the reader's event `r`
  have P : ∀ k, k < pubIndex level → PublishedTo tr (linkVar (prevs level) level) W R (pos k) r := fun k hk =>
    ⟨_, l, _, _, _, hmono _ _ hk, hemb _ _ (insertEvents_pub W oStore n h prevs rfs level hlevel), hs, hrf, hload, hl, hlr⟩
  exact ⟨h0, h1, (P 0 (by unfold pubIndex; omega)).hb h0 hread, (P 1 (by unfold pubIndex; omega)).hb h1 hread⟩

/-- the reader's read of the key is therefore not a data race with the initialising write -/
theorem publish_no_race (tr : Trace) (W R : Tid) (oStore oLoad : MemOrder) (n h : Nat) (prevs : Nat → Nat)
    (rfs : Nat → Option Nat) (pos : Nat → Nat)
    (hmono : ∀ a b, a < b → pos a < pos b)
    (hemb : ∀ k e, (insertEvents W oStore n h prevs rfs)[k]? = some e → tr[pos k]? = some e)
    (hs : oStore.isRelease = true) (hl : oLoad.isAcquire = true)
    (level : Nat) (hlevel : level < h) (l r : Nat)
    (hload : tr[l]? = some (R, Ev.aload (linkVar (prevs level) level) oLoad (some (pubTag n level))))
    (hrf : pos (pubIndex level) < l) (hlr : l < r) (hread : tr[r]? = some (R, Ev.read (keyLoc n))) :
    ¬ Race tr (pos 0) r := by
  intro hrace
  obtain ⟨_, _, _, _, _, _, _, _, _, _, _, _, _, _, hn⟩ := hrace
  exact hn (publish_safe tr W R oStore oLoad n h prevs rfs pos hmono hemb hs hl level hlevel l r _ hload hrf hlr hread).2.2.1

/-- a concrete interleaving: insert of node 5, height 1, after node 0, then reader thread 2 loads the link and reads the key -/
def exInsertTrace : Trace :=
  insertEvents 1 .release 5 1 (fun _ => 0) (fun _ => none) ++
    [(2, Ev.aload (linkVar 0 0) .acquire (some (pubTag 5 0))), (2, Ev.read (keyLoc 5))]

/-- non-vacuity of `publish_safe`: its hypotheses hold of `exInsertTrace` with `pos := id`, load at 5, read at 6 -/
example : (∀ a b : Nat, a < b → id a < id b) ∧
    (∀ (k : Nat) (e : Tid × Ev), (insertEvents 1 .release 5 1 (fun _ => 0) (fun _ => none))[k]? = some e → exInsertTrace[id k]? = some e) ∧
    exInsertTrace[5]? = some (2, Ev.aload (linkVar 0 0) .acquire (some (pubTag 5 0))) ∧ id (pubIndex 0) < 5 ∧
    exInsertTrace[6]? = some (2, Ev.read (keyLoc 5)) := by
  refine ⟨fun _ _ h => h, ?_, by decide, by decide, by decide⟩
  intro k e hk
  show exInsertTrace[k]? = some e
  unfold exInsertTrace
  rw [List.getElem?_append_left (List.getElem?_eq_some_iff.mp hk).1]
  exact hk

/-- the same shape of trace with a RELAXED publishing store -/
def exRelaxedPublish : Trace :=
  [(1, .write (keyLoc 5)), (1, .astore (linkVar 0 0) .relaxed (pubTag 5 0)),
   (2, .aload (linkVar 0 0) .acquire (some (pubTag 5 0))), (2, .read (keyLoc 5))]

/-- With a relaxed publishing store the reader's read of the key races with the initialising write. -/
theorem publish_unsafe_relaxed : Race exRelaxedPublish 0 3 :=
  ⟨1, 2, .write (keyLoc 5), .read (keyLoc 5), keyLoc 5, true, false, by omega, rfl, rfl, by decide, rfl, rfl, rfl,
    fun h => by
      -- the relaxed store synchronises with nothing, so happens-before cannot lead from thread 1 to thread 2
      obtain ⟨t, e1, e2, h1, h2⟩ := hb_same_thread (tr := exRelaxedPublish) (by decide) h
      cases h1
      cases h2⟩

/-- The orders the translator found for `ldb_skipnode_set` / `ldb_skipnode_next`
    satisfy the hypotheses of `publish_safe`. -/
theorem publish_safe_current_source :
    ∃ oStore oLoad, ConcPolicy.skiplistStoreOrder = some oStore ∧ ConcPolicy.skiplistLoadOrder = some oLoad ∧
      oStore.isRelease = true ∧ oLoad.isAcquire = true :=
  ⟨.release, .acquire, skiplist_orders_found.1, skiplist_orders_found.2, rfl, rfl⟩

theorem mem_insertSorted {k x : Nat} : ∀ {L : List Nat}, x ∈ insertSorted k L ↔ x = k ∨ x ∈ L := by
  intro L
  induction L with
  | nil => simp [insertSorted]
  | cons a r ih =>
    simp only [insertSorted]
    split
    · simp
    · simp only [List.mem_cons, ih, or_left_comm]

/-- Where `k` goes in a sorted list: behind the keys `A` below it.  The cell whose link the insert redirects is the last
    node of `A`, or the cell `c` the search started from if there is none. -/
theorem insertSorted_split {k : Nat} (L : List Nat) (c : Option Nat) (hp : L.Pairwise (· < ·)) (hk : k ∉ L) :
    ∃ A B, L = A ++ B ∧ insertSorted k L = A ++ k :: B ∧ predCell k c L = A.getLast?.or c ∧ (∀ a ∈ A, a < k) ∧ ∀ b ∈ B, k < b := by
  induction L generalizing c with
  | nil => exact ⟨[], [], rfl, rfl, rfl, nofun, nofun⟩
  | cons a r ih =>
    rw [List.pairwise_cons] at hp
    rw [List.mem_cons, not_or] at hk
    by_cases hka : k < a
    · exact ⟨[], a :: r, rfl, if_pos hka, if_pos hka, nofun, List.forall_mem_cons.mpr ⟨hka, fun b hb => Nat.lt_trans hka (hp.1 b hb)⟩⟩
    · obtain ⟨A, B, rfl, e1, e2, hA, hB⟩ := ih (some a) hp.2 hk.2
      refine ⟨a :: A, B, rfl, (if_neg hka).trans (congrArg _ e1), (if_neg hka).trans (e2.trans ?_),
        List.forall_mem_cons.mpr ⟨Nat.lt_of_le_of_ne (Nat.le_of_not_lt hka) (Ne.symm hk.1), hA⟩, hB⟩
      rw [List.getLast?_cons]
      cases A.getLast? <;> rfl

theorem pairwise_insertSorted {k : Nat} {L : List Nat} (hp : L.Pairwise (· < ·)) (hk : k ∉ L) : (insertSorted k L).Pairwise (· < ·) := by
  obtain ⟨A, B, rfl, e, _, hA, hB⟩ := insertSorted_split L none hp hk
  obtain ⟨hpA, hpB, hAB⟩ := List.pairwise_append.mp hp
  rw [e]
  exact List.pairwise_append.mpr ⟨hpA, List.pairwise_cons.mpr ⟨hB, hpB⟩,
    fun a ha b hb => (List.mem_cons.mp hb).elim (· ▸ hA a ha) (hAB a ha b)⟩

theorem chain_congr {M M' : Mem} : ∀ {L : List Nat} {p : Option Nat}, (∀ x ∈ L, M'.nxt x = M.nxt x) → Chain M p L → Chain M' p L := by
  intro L
  induction L with
  | nil => intro p _ h; exact h
  | cons a r ih =>
    intro p hx h
    obtain ⟨h1, h2⟩ := h
    refine ⟨h1, ?_⟩
    rw [hx a (List.mem_cons_self ..)]
    exact ih (fun x hxr => hx x (List.mem_cons_of_mem _ hxr)) h2

theorem chain_head {M : Mem} {L : List Nat} {p : Option Nat} (h : Chain M p L) : p = L.head? := by
  cases L with
  | nil => exact h
  | cons a r => exact h.1

theorem chain_next {M : Mem} {X Y : List Nat} {p : Option Nat} {x : Nat} (h : Chain M p (X ++ x :: Y)) : M.nxt x = Y.head? := by
  induction X generalizing p with
  | nil => exact chain_head h.2
  | cons _ _ ih => exact ih h.2

private theorem find_all_true {q : Nat → Bool} : ∀ {r : List Nat}, (∀ x ∈ r, q x = true) → r.find? q = r.head? := by
  intro r h
  cases r with
  | nil => rfl
  | cons a r => simp [List.find?, h a (List.mem_cons_self ..)]

private theorem load_store_same (M : Mem) (c v : Option Nat) : load (store M c v) c = v := by
  cases c <;> simp [load, store]

private theorem load_store_ne (M : Mem) {c c' : Option Nat} (v : Option Nat) (h : c ≠ c') : load (store M c v) c' = load M c' := by
  cases c <;> cases c' <;> simp [load, store] at h ⊢
  · intro h'; exact absurd h'.symm h

private theorem nxt_store_ne (M : Mem) {c : Option Nat} (v : Option Nat) {x : Nat} (h : c ≠ some x) : (store M c v).nxt x = M.nxt x := by
  have := load_store_ne M v h
  simpa [load] using this

/-- a reader positioned at the head or at a linked node reads, from that node's `next[0]`, the first key above it -/
theorem reader_load {M : Mem} {L : List Nat} (hr : Represents M L) (hp : L.Pairwise (· < ·)) (cur : Option Nat)
    (hcur : cur = none ∨ ∃ c, cur = some c ∧ c ∈ L) : load M cur = L.find? (above cur) := by
  rcases hcur with rfl | ⟨c, rfl, hc⟩
  · have : L.find? (above none) = L.head? := find_all_true (fun _ _ => rfl)
    rw [this]
    exact chain_head hr
  · -- `c`'s link is the node behind it; the search passes over what lies before `c` and over `c`, and stops right behind it
    obtain ⟨X, Y, rfl⟩ := List.append_of_mem hc
    obtain ⟨_, hY, hXY⟩ := List.pairwise_append.mp hp
    rw [List.find?_append, List.find?_eq_none.mpr (fun x hx => by simp [above, Nat.le_of_lt (hXY x hx c List.mem_cons_self)]),
      Option.none_or, List.find?_cons_of_neg (by simp [above]),
      find_all_true (fun y hy => by simp [above, (List.pairwise_cons.mp hY).1 y hy])]
    exact chain_next hr

/-- linking `k` behind the node `p` -/
private theorem chain_splice {M M' : Mem} {k p : Nat} {A B : List Nat} {q : Option Nat} (hp : M'.nxt p = some k) (hk : M'.nxt k = M.nxt p)
    (hB : ∀ y ∈ B, M'.nxt y = M.nxt y) (hA : ∀ y ∈ A, M'.nxt y = M.nxt y) (h : Chain M q (A ++ p :: B)) :
    Chain M' q (A ++ p :: k :: B) := by
  induction A generalizing q with
  | nil => exact ⟨h.1, hp ▸ ⟨rfl, hk ▸ chain_congr hB h.2⟩⟩
  | cons a A ih => exact ⟨h.1, hA a List.mem_cons_self ▸ ih (fun y hy => hA y (List.mem_cons_of_mem _ hy)) h.2⟩

/-- After the no-barrier step the memory still represents the old list (a concurrent reader
    cannot see the new node); after the publishing store it represents the list with `k` inserted in order. -/
theorem insert_represents {M : Mem} {L : List Nat} {k : Nat} (hr : Represents M L) (hp : L.Pairwise (· < ·)) (hk : k ∉ L) :
    Represents (prepare M k L) L ∧ Represents (publish (prepare M k L) k L) (insertSorted k L) := by
  obtain ⟨A, B, rfl, e, hP, hA, hB⟩ := insertSorted_split L none hp hk
  have hne : ∀ {a b : Nat}, a ≠ b → some a ≠ some b := fun h e => h (Option.some.inj e)
  refine ⟨chain_congr (M' := prepare M k (A ++ B)) (fun y hy => nxt_store_ne M _ (hne fun e => hk (e ▸ hy))) hr, ?_⟩
  rw [e]
  unfold publish prepare Represents
  rw [hP, Option.or_none]
  have hK : ∀ (c v : Option Nat), c ≠ some k → (store (store M (some k) v) c (some k)).nxt k = v :=
    fun c v hc => by rw [nxt_store_ne _ _ hc]; exact load_store_same M (some k) v
  cases hl : A.getLast? with
  | none =>
    obtain rfl := List.getLast?_eq_none_iff.mp hl
    exact ⟨rfl, by rw [hK none _ nofun]; exact chain_congr (fun y hy => nxt_store_ne M _ (hne (Nat.ne_of_lt (hB y hy)))) hr⟩
  | some p =>
    obtain ⟨A0, rfl⟩ := List.getLast?_eq_some_iff.mp hl
    have hpk : p < k := hA p (List.mem_append_right A0 (List.mem_singleton_self p))
    -- the two stores change the links of `k` and of `p` only
    have hM : ∀ y, p ≠ y → k ≠ y → (store (store M (some k) (M.nxt p)) (some p) (some k)).nxt y = M.nxt y :=
      fun y h1 h2 => by rw [nxt_store_ne _ _ (hne h1), nxt_store_ne _ _ (hne h2)]
    rw [List.append_assoc] at hr hp ⊢
    exact chain_splice (load_store_same _ (some p) _) (hK _ _ (hne (Nat.ne_of_lt hpk)))
      (fun y hy => hM y (Nat.ne_of_lt (Nat.lt_trans hpk (hB y hy))) (Nat.ne_of_lt (hB y hy)))
      (fun y hy => have := (List.pairwise_append.mp hp).2.2 y hy p List.mem_cons_self
        hM y (Nat.ne_of_gt this) (Nat.ne_of_gt (Nat.lt_trans this hpk))) hr

private theorem first_le {p : Nat → Bool} {x k : Nat} {L : List Nat} (hp : L.Pairwise (· < ·)) (hf : L.find? p = some x)
    (hk : k ∈ L) (hpk : p k = true) : x ≤ k := by
  -- `x` is the first element satisfying `p`: `k` is not before it, and what comes after it is larger
  obtain ⟨_, as, bs, rfl, has⟩ := List.find?_eq_some_iff_append.mp hf
  rcases List.mem_append.mp hk with h | h
  · have := has k h
    simp [hpk] at this
  · rcases List.mem_cons.mp h with rfl | h
    · exact Nat.le_refl _
    · exact Nat.le_of_lt ((List.pairwise_cons.mp (List.pairwise_append.mp hp).2.1).1 k h)

/-- Invariant of the interleaved run that started from list `L0`. The reader skips nothing: what it has visited lies
    at or before its position (`vBelow`), and every key of `L0` at or before its position has been visited (`l0Seen`).
    An `adv` keeps `l0Seen` because it moves to the FIRST linked key after the position and `L0` stays linked
    (`l0InL`), so no key of `L0` lies strictly between the old and the new position (`first_le`); at the end of the
    list every key of `L0` is at or before the position, which gives `doneAll`. -/
structure Inv (L0 : List Nat) (s : St) : Prop where
  sortedL : s.L.Pairwise (· < ·)
  sortedV : s.V.Pairwise (· < ·)
  vInL : ∀ v ∈ s.V, v ∈ s.L
  vBelow : ∀ v ∈ s.V, above s.cur v = false
  l0InL : ∀ k ∈ L0, k ∈ s.L
  l0Seen : ∀ k ∈ L0, above s.cur k = false → k ∈ s.V
  doneAll : s.done = true → ∀ k ∈ L0, k ∈ s.V

theorem inv_start {L0 : List Nat} (h : L0.Pairwise (· < ·)) : Inv L0 (start L0) :=
  { sortedL := h, sortedV := List.Pairwise.nil, vInL := fun _ hv => (by cases hv), vBelow := fun _ hv => (by cases hv),
    l0InL := fun _ hk => hk, l0Seen := fun _ _ ha => (by simp [start, above] at ha),
    doneAll := fun hd => (by simp [start] at hd) }

theorem inv_step {L0 : List Nat} {s : St} (inv : Inv L0 s) (st : Step) : Inv L0 (step s st) := by
  cases st with
  | ins k =>
    simp only [step]
    split
    · exact inv
    · rename_i hk
      exact { inv with
              sortedL := pairwise_insertSorted inv.sortedL hk
              vInL := fun v hv => mem_insertSorted.mpr (Or.inr (inv.vInL v hv))
              l0InL := fun x hx => mem_insertSorted.mpr (Or.inr (inv.l0InL x hx)) }
  | adv =>
    simp only [step]
    split
    · exact inv
    · rename_i hd
      split
      · rename_i x hf
        have hpx : above s.cur x = true := List.find?_some hf
        have hxL : x ∈ s.L := List.mem_of_find?_eq_some hf
        have vlt : ∀ v ∈ s.V, v < x := by
          intro v hv
          have hb := inv.vBelow v hv
          cases hc : s.cur with
          | none => rw [hc] at hb; simp [above] at hb
          | some c => rw [hc] at hb hpx; simp [above] at hb hpx; omega
        exact { inv with
          sortedV := List.pairwise_append.mpr ⟨inv.sortedV, List.pairwise_singleton _ _,
            fun a ha b hb => List.mem_singleton.mp hb ▸ vlt a ha⟩,
          vInL := List.forall_mem_append.mpr ⟨inv.vInL, List.forall_mem_singleton.mpr hxL⟩,
          vBelow := List.forall_mem_append.mpr
            ⟨fun v h => by have := vlt v h; simp [above]; omega, List.forall_mem_singleton.mpr (by simp [above])⟩,
          l0Seen := (by
            intro k hk hab
            simp [above] at hab
            cases hck : above s.cur k with
            | false => exact List.mem_append.mpr (Or.inl (inv.l0Seen k hk hck))
            | true =>
              have := first_le inv.sortedL hf (inv.l0InL k hk) hck
              have : k = x := by omega
              subst this
              exact List.mem_append.mpr (Or.inr (List.mem_singleton.mpr rfl))),
          doneAll := (by intro h; simp at hd; rw [hd] at h; cases h) }
      · rename_i hf
        rw [List.find?_eq_none] at hf
        exact { inv with doneAll := fun _ k hk => inv.l0Seen k hk (by simpa using hf k (inv.l0InL k hk)) }

theorem inv_run {L0 : List Nat} (sched : List Step) {s : St} (h : Inv L0 s) : Inv L0 (run s sched) :=
  List.foldlRecOn sched step h fun _ hb a _ => inv_step hb a

/-- A reader starts a level-0 traversal at the head while the keys `L0` (ascending) are
    linked; the (single) writer's publications `ins k` and the reader's link loads `adv` interleave arbitrarily
    (`sched`).  Then the keys the reader visits are strictly increasing, every visited key is linked, and if the reader
    reached the end of the list it has visited every key of `L0` — every node whose insert completed before the
    traversal began. -/
theorem reader_sees_sorted_superset (L0 : List Nat) (h0 : L0.Pairwise (· < ·)) (sched : List Step) :
    let s := run (start L0) sched
    s.V.Pairwise (· < ·) ∧ (∀ v ∈ s.V, v ∈ s.L) ∧ (s.done = true → ∀ k ∈ L0, k ∈ s.V) :=
  let inv := inv_run sched (inv_start h0)
  ⟨inv.sortedV, inv.vInL, inv.doneAll⟩

/-- non-vacuity: keys 10 and 30 linked; the writer links 20 after the reader passed 10 and 5 after it passed the head;
    the reader sees 10, 20, 30 (a sorted superset of {10, 30}) -/
example : (run (start [10, 30]) [.adv, .ins 20, .ins 5, .adv, .adv, .adv]).V = [10, 20, 30] ∧
    (run (start [10, 30]) [.adv, .ins 20, .ins 5, .adv, .adv, .adv]).done = true := by decide

end Lcdb.C10
