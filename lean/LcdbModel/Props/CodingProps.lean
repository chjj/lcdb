/-
  The coding model (Model/Coding.lean: fixed-width, varint, length-prefixed slices): round trips,
  length bounds, and every decoder consumes a bounded, nonzero number of bytes.
-/
import LcdbModel.Lemmas.Coding
namespace Lcdb

theorem fixedRead_fixedEnc (w n : Nat) (rest : Bytes) (h : n < 256 ^ w) :
    fixedRead w (fixedEnc w n ++ rest) = some (n, rest) := by
  have hl := fixedEnc_length w n
  unfold fixedRead
  rw [if_neg (by rw [List.length_append, hl]; omega), List.take_left' hl, List.drop_left' hl,
    fixedDec_fixedEnc, Nat.mod_eq_of_lt h]

theorem fixedRead_consumes (w : Nat) (bs : Bytes) (v : Nat) (rest : Bytes)
    (h : fixedRead w bs = some (v, rest)) : w ≤ bs.length ∧ rest = bs.drop w := by
  unfold fixedRead at h
  by_cases hl : bs.length < w
  · simp [hl] at h
  · simp only [hl, if_false, Option.some.injEq, Prod.mk.injEq] at h
    exact ⟨by omega, h.2.symm⟩

theorem varintEnc_length_le32 (n : Nat) (h : n < 2 ^ 32) : (varintEnc n).length ≤ 5 :=
  varintEnc_length_le 4 n (by omega)

theorem varintEnc_length_le64 (n : Nat) (h : n < 2 ^ 64) : (varintEnc n).length ≤ 10 :=
  varintEnc_length_le 9 n (by omega)

theorem varintGo_roundtrip (w fuel n : Nat) (rest : Bytes) (hf : (varintEnc n).length ≤ fuel)
    (h : n < 2 ^ w) : varintGo w fuel 0 0 (varintEnc n ++ rest) = some (n, rest) := by
  rw [varintGo_varintEnc w n fuel 0 0 rest hf, Nat.pow_zero, Nat.mul_one, Nat.zero_add, Nat.mod_eq_of_lt h]

theorem varint32_roundtrip (n : Nat) (rest : Bytes) (h : n < 2 ^ 32) :
    varint32Read (varintEnc n ++ rest) = some (n, rest) :=
  varintGo_roundtrip 32 5 n rest (varintEnc_length_le32 n h) h

theorem varint64_roundtrip (n : Nat) (rest : Bytes) (h : n < 2 ^ 64) :
    varint64Read (varintEnc n ++ rest) = some (n, rest) :=
  varintGo_roundtrip 64 10 n rest (varintEnc_length_le64 n h) h

theorem varint32Read_small (b : UInt8) (rest : Bytes) (h : b.toNat < 128) :
    varint32Read (b :: rest) = some (b.toNat, rest) := by
  have h' : ¬ b.toNat ≥ 128 := by omega
  have h2 : b.toNat % 2 ^ 32 = b.toNat := Nat.mod_eq_of_lt (by omega)
  simp only [varint32Read, varintGo, h', if_false, Nat.zero_add, Nat.pow_zero, Nat.mul_one, h2]

theorem varint32Read_consumes (bs : Bytes) (v : Nat) (rest : Bytes) :
    varint32Read bs = some (v, rest) →
      v < 2 ^ 32 ∧ ∃ k, 1 ≤ k ∧ k ≤ 5 ∧ rest = bs.drop k :=
  fun h => (varintGo_consumes h).2

theorem varint64Read_consumes (bs : Bytes) (v : Nat) (rest : Bytes) :
    varint64Read bs = some (v, rest) →
      v < 2 ^ 64 ∧ ∃ k, 1 ≤ k ∧ k ≤ 10 ∧ rest = bs.drop k :=
  fun h => (varintGo_consumes h).2

theorem varint32Read_rest_lt (bs : Bytes) (v : Nat) (rest : Bytes)
    (h : varint32Read bs = some (v, rest)) : rest.length < bs.length :=
  (varintGo_consumes h).1

theorem varint64Read_rest_lt (bs : Bytes) (v : Nat) (rest : Bytes)
    (h : varint64Read bs = some (v, rest)) : rest.length < bs.length :=
  (varintGo_consumes h).1

theorem varint32Read_dropEnd (bs : Bytes) (d : Nat) (h : d + 5 ≤ bs.length) :
    varint32Read (bs.take (bs.length - d)) =
      (varint32Read bs).map (fun r => (r.1, r.2.take (r.2.length - d))) :=
  varintGo_dropEnd h

theorem varint32Read_used (bs : Bytes) (v : Nat) (r : Bytes) (h : varint32Read bs = some (v, r)) :
    r.length < bs.length ∧ bs.length ≤ r.length + 5 := by
  have h1 := varint32Read_rest_lt bs v r h
  obtain ⟨_, k, _, hk5, hk⟩ := varint32Read_consumes bs v r h
  refine ⟨h1, ?_⟩
  rw [hk, List.length_drop]; omega

theorem sliceRead_sliceEnc (s rest : Bytes) (h : s.length < 2 ^ 32) :
    sliceRead (sliceEnc s ++ rest) = some (s, rest) := by
  unfold sliceRead sliceEnc
  rw [List.append_assoc, varint32_roundtrip s.length (s ++ rest) h]
  have h1 : ¬ (s ++ rest).length < s.length := by
    rw [List.length_append]; omega
  simp only [h1, if_false]
  rw [List.take_left, List.drop_left]

theorem sliceRead_take_none (s : Bytes) (hs : s.length < 2 ^ 32) (m : Nat)
    (hm : m < (sliceEnc s).length) : sliceRead ((sliceEnc s).take m) = none := by
  unfold sliceEnc at hm ⊢
  unfold sliceRead
  by_cases h : m < (varintEnc s.length).length
  · rw [List.take_append_of_le_length (by omega)]
    unfold varint32Read; rw [varintGo_take_none h]
  · have hm' : m = (varintEnc s.length).length + (m - (varintEnc s.length).length) := by omega
    rw [List.length_append] at hm
    rw [hm', List.take_length_add_append]
    have := varint32_roundtrip s.length (s.take (m - (varintEnc s.length).length)) hs
    rw [this]
    have hl : (s.take (m - (varintEnc s.length).length)).length < s.length := by
      rw [List.length_take]; omega
    simp only []
    rw [if_pos hl]

theorem sliceRead_some {bs s rest : Bytes} (h : sliceRead bs = some (s, rest)) :
    ∃ n r, varint32Read bs = some (n, r) ∧ r.take n = s ∧ r.drop n = rest := by
  unfold sliceRead at h
  split at h
  · cases h
  · rename_i n r hv
    split at h
    · cases h
    · cases h
      exact ⟨n, r, hv, rfl, rfl⟩

theorem sliceRead_consumes (bs s rest : Bytes) :
    sliceRead bs = some (s, rest) → ∃ k, 1 ≤ k ∧ k ≤ 5 ∧ bs.drop k = s ++ rest := by
  intro h
  obtain ⟨n, r, hv, rfl, rfl⟩ := sliceRead_some h
  obtain ⟨_, k, hk1, hk2, hk⟩ := varint32Read_consumes bs n r hv
  exact ⟨k, hk1, hk2, by rw [← hk, List.take_append_drop]⟩

theorem sliceRead_rest_lt (bs s rest : Bytes) (h : sliceRead bs = some (s, rest)) :
    rest.length < bs.length := by
  obtain ⟨n, r, hv, rfl, rfl⟩ := sliceRead_some h
  have := varint32Read_rest_lt bs n r hv
  rw [List.length_drop]
  omega

/-- With four continuation bytes, the fifth byte's bits above bit 3 are shifted past bit 31
    and silently dropped by the 32-bit truncation (the C reader does not reject them). -/
theorem varint32_fifth_byte_truncates (b0 b1 b2 b3 b4 : UInt8) (rest : Bytes)
    (h0 : b0.toNat ≥ 128) (h1 : b1.toNat ≥ 128) (h2 : b2.toNat ≥ 128) (h3 : b3.toNat ≥ 128)
    (h4 : b4.toNat < 128) :
    varint32Read (b0 :: b1 :: b2 :: b3 :: b4 :: rest)
      = some ((b0.toNat % 128 + b1.toNat % 128 * 2 ^ 7 + b2.toNat % 128 * 2 ^ 14
                + b3.toNat % 128 * 2 ^ 21 + b4.toNat * 2 ^ 28) % 2 ^ 32, rest) := by
  have h4' : ¬ b4.toNat ≥ 128 := by omega
  simp only [varint32Read, varintGo, h0, h1, h2, h3, h4', if_true, if_false,
    Nat.zero_add, Nat.pow_zero, Nat.mul_one]

theorem varint32_six_bytes_fail (b0 b1 b2 b3 b4 : UInt8) (rest : Bytes)
    (h0 : b0.toNat ≥ 128) (h1 : b1.toNat ≥ 128) (h2 : b2.toNat ≥ 128) (h3 : b3.toNat ≥ 128)
    (h4 : b4.toNat ≥ 128) :
    varint32Read (b0 :: b1 :: b2 :: b3 :: b4 :: rest) = none := by
  simp only [varint32Read, varintGo, h0, h1, h2, h3, h4, if_true]

example : fixedRead 4 (fixedEnc 4 0xDEADBEEF ++ [7]) = some (0xDEADBEEF, [7]) :=
  fixedRead_fixedEnc 4 0xDEADBEEF [7] (by decide)

example : varint32Read (varintEnc 300 ++ [9]) = some (300, [9]) :=
  varint32_roundtrip 300 [9] (by decide)

example : varint64Read (varintEnc (2 ^ 64 - 1) ++ []) = some (2 ^ 64 - 1, []) :=
  varint64_roundtrip (2 ^ 64 - 1) [] (by decide)

example : (varintEnc (2 ^ 32 - 1)).length = 5 := by
  simp [varintEnc_ge, varintEnc_lt]
example : (varintEnc (2 ^ 64 - 1)).length = 10 := by
  simp [varintEnc_ge, varintEnc_lt]

example : varint32Read [0xAC, 0x02, 0x55] = some (300, [0x55]) := by decide

example : sliceRead (sliceEnc [1, 2, 3] ++ [4]) = some ([1, 2, 3], [4]) :=
  sliceRead_sliceEnc [1, 2, 3] [4] (by decide)

example : varint32Read [0xFF, 0xFF, 0xFF, 0xFF, 0x7F] = some (2 ^ 32 - 1, []) := by
  rw [varint32_fifth_byte_truncates 0xFF 0xFF 0xFF 0xFF 0x7F [] (by decide) (by decide)
    (by decide) (by decide) (by decide)]
  decide

-- the decoder is not injective
example : varint32Read [0xFF, 0xFF, 0xFF, 0xFF, 0x7F] = varint32Read [0xFF, 0xFF, 0xFF, 0xFF, 0x0F] := by
  decide

end Lcdb
