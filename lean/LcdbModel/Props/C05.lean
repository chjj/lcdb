/-
  C05 — recovery yields a coherent database (storage-protocol level).

  For every crash image of a conforming trace (the images of a power loss; the kill image is one of them,
  `Disk.killImage_isCrashImage`):
    * `recover_subset`  : what recovery replays is, log by log in increasing log number, a PREFIX of the batches
                          appended to that log — it drops at most a tail of each log segment, never invents a batch;
    * `recover_sublist` : the replayed batches are a sublist of all appended batches in append order
                          (`Disk.recover_replayed_sublist`);
    * `recover_subset_filter` : `recover_subset` phrased per log via `logOfBatch`.
  Crashing again during the recovery that follows (each theorem covers a part of this; the docstrings of
  `recover_idempotent_partial` and `recovery_crash_versions_partial` say what is left out):
    * `recover_idempotent_partial`, `recover_idempotent_kill_partial`: the I/O of a recovery after a process kill is
      just a conforming continuation of the trace, so at every crash point inside it all acknowledged batches survive;
    * `crash_versions_step`: one I/O step adds at most one new recoverable version (old MANIFEST + appended edit, or the
      complete new MANIFEST at the CURRENT switch);
    * `recovery_crash_versions_partial`: while a new MANIFEST is written and installed, every crash image recovers a
      version that was already recoverable before, or — only after the rename — the complete new MANIFEST's version.
-/
import LcdbModel.Props.C02
import LcdbModel.Props.C03

namespace Lcdb.C05
open Lcdb.Disk Lcdb.C02 Lcdb.C03

theorem recover_subset (t : List Ev) (h : Conforms t) (n : Nat) (img : Image)
    (hi : IsCrashImage (World.run (t.take n)) img) (r : Recovered) (hr : recover img = some r) :
    ∃ (logs : List Nat) (seg : Nat → List Nat), logs.Pairwise (· < ·) ∧
      (∀ l ∈ logs, r.logNum ≤ l ∧ seg l <+: appendedTo (t.take n) l) ∧
      r.replayed = logs.flatMap seg := by
  have hc := conforms_prefix h n
  have hI := Inv.of_conforms hc
  obtain ⟨j, hj, hia⟩ := isCrashImage_iff.1 hi
  obtain ⟨h1, h2⟩ := replayed_structure hI (OInv.of_conforms hc) hia r.logNum
  obtain ⟨_, _, _, _, hrep⟩ := recover_cand hI hj hia hr
  refine ⟨_, fun s => batchesOf ((imgLookup img (.log s)).getD []), h1, ?_, hrep⟩
  intro l hl
  obtain ⟨h3, _, h4⟩ := h2 l hl
  exact ⟨h3, h4⟩

theorem recover_sublist (t : List Ev) (h : Conforms t) (n : Nat) (img : Image)
    (hi : IsCrashImage (World.run (t.take n)) img) (r : Recovered) (hr : recover img = some r) :
    r.replayed.Sublist (appended (t.take n)) := by
  obtain ⟨j, hj, hia⟩ := isCrashImage_iff.1 hi
  exact recover_replayed_sublist (conforms_prefix h n) hj hia hr

theorem appendedTo_logOf {t : List Ev} (hc : Conforms t) {b l : Nat} (hb : b ∈ appendedTo t l) : logOfBatch t b = some l := by
  induction t using snoc_induction with
  | nil => cases hb
  | snoc t e ih =>
    obtain ⟨h0, pre, _⟩ := conforms_snoc hc
    rw [appendedTo_snoc, List.mem_append] at hb
    rcases hb with hb | hb
    · exact logOfBatch_append_some (ih h0 hb)
    · rcases ev_class e with ⟨n, b', rfl⟩ | ⟨_, _, _, hT⟩
      · -- a fresh batch id: this append is its first occurrence in the trace
        have hfresh := (pre_append_batch pre).1
        rw [(Inv.of_conforms h0).logOf] at hfresh
        rw [appendedTo_batch] at hb
        split at hb
        · rename_i hnl
          rw [List.mem_singleton.1 hb, logOfBatch_snoc, hfresh, logOfBatch_batch, if_pos rfl, hnl]; rfl
        · cases hb
      · rw [hT l] at hb; cases hb

theorem flatMap_single {f : Nat → List Nat} (l : Nat) {logs : List Nat} (hn : logs.Nodup)
    (h : ∀ l' ∈ logs, l' ≠ l → f l' = []) : logs.flatMap f = if l ∈ logs then f l else [] := by
  induction logs with
  | nil => rfl
  | cons a logs ih =>
    rw [List.nodup_cons] at hn
    rw [List.flatMap_cons, ih hn.2 (fun l' hl' => h l' (List.mem_cons_of_mem _ hl'))]
    by_cases hal : a = l
    · subst hal
      simp [hn.1]
    · rw [h a (by simp) hal]
      have : ¬ l = a := fun e => hal e.symm
      simp [this]

theorem recover_subset_filter (t : List Ev) (h : Conforms t) (n : Nat) (img : Image)
    (hi : IsCrashImage (World.run (t.take n)) img) (r : Recovered) (hr : recover img = some r) (l : Nat) :
    r.replayed.filter (fun b => logOfBatch t b == some l) <+: appendedTo (t.take n) l := by
  obtain ⟨logs, seg, hs, hseg, hrep⟩ := recover_subset t h n img hi r hr
  have hc := conforms_prefix h n
  have hlog : ∀ l' ∈ logs, ∀ b ∈ seg l', logOfBatch t b = some l' := by
    intro l' hl' b hb
    exact logOfBatch_take (appendedTo_logOf hc ((hseg l' hl').2.subset hb))
  rw [hrep, List.filter_flatMap]
  have hnd : logs.Nodup := hs.imp (by intro a b hab; omega)
  rw [flatMap_single l hnd]
  · by_cases hl : l ∈ logs
    · rw [if_pos hl]
      have : (seg l).filter (fun b => logOfBatch t b == some l) = seg l := by
        rw [List.filter_eq_self]
        intro b hb
        simp [hlog l hl b hb]
      rw [this]; exact (hseg l hl).2
    · rw [if_neg hl]; exact List.nil_prefix
  · intro l' hl' hne
    rw [List.filter_eq_nil_iff]
    intro b hb
    simp [hlog l' hl' b hb, hne]

theorem durable_restrict {t s : List Ev} {m : Nat} {acked : List Ev → List Nat} {r : Recovered}
    (hsub : ∀ b ∈ acked t, b ∈ acked ((t ++ s).take (t.length + m)))
    (hlog : ∀ b ∈ acked t, ∃ n, logOfBatch t b = some n)
    (hd : ∀ b ∈ acked ((t ++ s).take (t.length + m)),
      b ∈ r.replayed ∨ ∃ l, logOfBatch (t ++ s) b = some l ∧ l < r.logNum) :
    ∀ b ∈ acked t, b ∈ r.replayed ∨ ∃ l, logOfBatch t b = some l ∧ l < r.logNum := by
  intro b hb
  obtain ⟨n, hn⟩ := hlog b hb
  refine (hd b (hsub b hb)).imp id fun ⟨l, hl, hlt⟩ => ⟨l, ?_, hlt⟩
  rw [logOfBatch_append_some hn] at hl; rw [hn, ← hl]

/-- Partial form of "recovery is idempotent under crashes".  After a *process kill* the file system is exactly the
    world the trace left behind, so the I/O of the recovery that follows (and of everything after it) is a
    continuation `s` of the trace `t`.
    (Not covered: a recovery that starts from a power-loss image, which needs a world built from an image.) -/
theorem recover_idempotent_partial (t s : List Ev) (h : Conforms (t ++ s)) (m : Nat) (img : Image)
    (hi : IsCrashImage (World.run ((t ++ s).take (t.length + m))) img) (hs : ackedSync t ≠ []) :
    ∃ r, recover img = some r ∧
      ∀ b ∈ ackedSync t, b ∈ r.replayed ∨ ∃ l, logOfBatch t b = some l ∧ l < r.logNum := by
  have hsub : ∀ b ∈ ackedSync t, b ∈ ackedSync ((t ++ s).take (t.length + m)) := fun b hb => by
    rw [List.take_length_add_append, mem_ackedSync]; exact List.mem_append_left _ (mem_ackedSync.1 hb)
  obtain ⟨b0, hb0⟩ := List.exists_mem_of_ne_nil _ hs
  obtain ⟨r, hr, hd⟩ := synced_durable (t ++ s) h (t.length + m) img hi (List.ne_nil_of_mem (hsub b0 hb0))
  have hI := Inv.of_conforms (conforms_append h)
  exact ⟨r, hr, durable_restrict hsub (fun b hb => (hI.bS b hb).imp fun _ h => h.1) hd⟩

theorem recover_idempotent_kill_partial (t s : List Ev) (h : Conforms (t ++ s)) (m : Nat) (ha : ackedAll t ≠ []) :
    ∃ r, recover (killImage (World.run ((t ++ s).take (t.length + m)))) = some r ∧
      ∀ b ∈ ackedAll t, b ∈ r.replayed ∨ ∃ l, logOfBatch t b = some l ∧ l < r.logNum := by
  have hsub : ∀ b ∈ ackedAll t, b ∈ ackedAll ((t ++ s).take (t.length + m)) := fun b hb => by
    obtain ⟨x, hx⟩ := mem_ackedAll.1 hb
    rw [List.take_length_add_append, mem_ackedAll]; exact ⟨x, List.mem_append_left _ hx⟩
  obtain ⟨b0, hb0⟩ := List.exists_mem_of_ne_nil _ ha
  obtain ⟨r, hr⟩ := kill_recovers (t ++ s) h (t.length + m) (List.ne_nil_of_mem (hsub b0 hb0))
  have hI := Inv.of_conforms (conforms_append h)
  exact ⟨r, hr, durable_restrict hsub (fun b hb => (hI.bK b hb).imp fun _ h => h.1)
    (kill_durable (t ++ s) h (t.length + m) r hr)⟩

theorem crash_versions_step (t : List Ev) (e : Ev) (h : Conforms (t ++ [e])) (j' : Nat) (v' : AVersion)
    (hj' : InRange (World.run (t ++ [e])) j') (hC : Cand (World.run (t ++ [e])) j' v') :
    (∃ j, InRange (World.run t) j ∧ Cand (World.run t) j v') ∨
    (∃ k mb ed, e = .append (.manifest k) (.edit ed) ∧ bodyOf (World.run t) (.manifest k) = some mb ∧
        InRange (World.run t) j' ∧ Cand (World.run t) j' (versionOf mb.recs) ∧ v' = applyEdit (versionOf mb.recs) ed) ∨
    (∃ a k mb, e = .rename a .current ∧ bodyOf (World.run (t ++ [e])) .current = some ⟨[.ptr k], 1⟩ ∧
        bodyOf (World.run (t ++ [e])) (.manifest k) = some mb ∧ v' = versionOf mb.recs) := by
  obtain ⟨h0, pre, post⟩ := conforms_snoc h
  have hI := Inv.of_conforms h0
  rw [run_snoc] at hj' hC ⊢
  cases cand_back (WInv.run t) hI.ops hI.a1 pre post hj' hC with
  | old j hj hc _ => exact Or.inl ⟨j, hj, hc⟩
  | ext k mb ed he hj hb _ hc hv => exact Or.inr (Or.inl ⟨k, mb, ed, he, hb, hj, hc, hv⟩)
  | new a k mb' _ he _ sw hv => exact Or.inr (Or.inr ⟨a, k, mb', he, sw.1, sw.2.1, hv⟩)

/-- the events of a MANIFEST roll-over to a new MANIFEST `k'`, before the CURRENT switch -/
def Quiet (k' : Nat) (e : Ev) : Prop :=
  (∀ a b, e ≠ .rename a b) ∧ (∀ k ed, e = .append (.manifest k) (.edit ed) → k = k')

/-- While only `Quiet k'` events happen after `t`, no cut has a CURRENT that points to MANIFEST `k'` (it did not exist at
    `t`, and only a rename changes what CURRENT names); so an edit appended to `k'` reaches no candidate, and every
    candidate is one that `t` already had.  The two claims are proved together, the second using the first. -/
theorem quiet_versions (t : List Ev) (k' : Nat) (hfresh : created (World.run t) (.manifest k') = false) :
    ∀ (s : List Ev), Conforms (t ++ s) → (∀ e ∈ s, Quiet k' e) →
      (∀ j mb, InRange (World.run (t ++ s)) j → ¬ Points (World.run (t ++ s)) j k' mb) ∧
      (∀ j' v', InRange (World.run (t ++ s)) j' → Cand (World.run (t ++ s)) j' v' →
        ∃ j, InRange (World.run t) j ∧ Cand (World.run t) j v') := by
  intro s
  induction s using snoc_induction with
  | nil =>
    intro hc _
    simp only [List.append_nil] at hc ⊢
    have hI := Inv.of_conforms hc
    refine ⟨?_, fun j' v' hj hC => ⟨j', hj, hC⟩⟩
    intro j mb _ ⟨_, mid, _, _, hm, _⟩
    have := created_of_mem (creator_ne hI.ops (by simp) hm)
    rw [this] at hfresh; cases hfresh
  | snoc s e ih =>
    intro hc hq
    rw [← List.append_assoc] at hc ⊢
    obtain ⟨h0, pre, post⟩ := conforms_snoc hc
    obtain ⟨ihP, ihC⟩ := ih h0 (fun e he => hq e (List.mem_append.2 (Or.inl he)))
    have hI := Inv.of_conforms h0
    obtain ⟨hq1, hq2⟩ := hq e (by simp)
    rw [run_snoc]
    constructor
    · intro j mb hj hP
      obtain ⟨k, mb1, hp', hfrom⟩ := points_step (WInv.run _) hI.ops hI.a1 pre post hj hP.current
      obtain ⟨rfl, _⟩ := hP.unique hp'
      rcases hfrom with ⟨a, _, he, _⟩ | ⟨j0, mb0, hj0, _, hp0, _⟩
      · exact hq1 _ _ he
      · exact ihP j0 mb0 hj0 hp0
    · intro j' v' hj hC
      cases cand_back (WInv.run _) hI.ops hI.a1 pre post hj hC with
      | old j0 hj0 hc0 _ => exact ihC j0 v' hj0 hc0
      | ext k mb ed he hj0 hb hp0 hc0 hv =>
        exfalso
        have hk := hq2 k ed he
        subst hk
        exact ihP j' mb hj0 hp0
      | new a _ _ _ he _ _ _ => exact absurd he (hq1 _ _)

/-- Partial form of "a crash during recovery yields the same tables or the pre-recovery version".
    The recovery (or any MANIFEST roll-over) after trace `t` consists of events `s` that contain no rename and
    append edits only to a new MANIFEST `k'` (snapshot naming the recovered tables + the edit with the new log
    number, their fsyncs, the `<k'>.dbtmp` file), followed by the CURRENT switch.
    (Not proved here: that the new MANIFEST's version has the same tables as the recovered one — that is the content
    of the snapshot record, an LSM-level fact; and recoveries that start from a power-loss image.) -/
theorem recovery_crash_versions_partial (t s : List Ev) (k' : Nat) (a : FName)
    (h : Conforms (t ++ s ++ [.rename a .current]))
    (hfresh : created (World.run t) (.manifest k') = false) (hq : ∀ e ∈ s, Quiet k' e) :
    (∀ m img, IsCrashImage (World.run (t ++ s.take m)) img → ∀ r, recover img = some r →
        ∃ j v, InRange (World.run t) j ∧ Cand (World.run t) j v ∧ r.tables = v.tables ∧ v.logNum = some r.logNum) ∧
    (∀ img, IsCrashImage (World.run (t ++ s ++ [.rename a .current])) img → ∀ r, recover img = some r →
        (∃ j v, InRange (World.run t) j ∧ Cand (World.run t) j v ∧ r.tables = v.tables ∧ v.logNum = some r.logNum) ∨
        (∃ k mb, bodyOf (World.run (t ++ s ++ [.rename a .current])) .current = some ⟨[.ptr k], 1⟩ ∧
          bodyOf (World.run (t ++ s ++ [.rename a .current])) (.manifest k) = some mb ∧
          r.tables = (versionOf mb.recs).tables ∧ (versionOf mb.recs).logNum = some r.logNum)) := by
  have hts : Conforms (t ++ s) := conforms_append h
  constructor
  · intro m img hi r hr
    have hcm : Conforms (t ++ s.take m) :=
      conforms_append (s := s.drop m) (by rw [List.append_assoc, List.take_append_drop]; exact hts)
    obtain ⟨_, hC⟩ := quiet_versions t k' hfresh (s.take m) hcm (fun e he => hq e (List.mem_of_mem_take he))
    obtain ⟨j', hj', hia⟩ := isCrashImage_iff.1 hi
    obtain ⟨v, hc, hln, htab, _⟩ := recover_cand (Inv.of_conforms hcm) hj' hia hr
    obtain ⟨j, hj, hcj⟩ := hC j' v hj' hc
    exact ⟨j, v, hj, hcj, htab, hln⟩
  · intro img hi r hr
    obtain ⟨_, hC⟩ := quiet_versions t k' hfresh s hts hq
    obtain ⟨j', hj', hia⟩ := isCrashImage_iff.1 hi
    obtain ⟨v, hc, hln, htab, _⟩ := recover_cand (Inv.of_conforms h) hj' hia hr
    rcases crash_versions_step (t ++ s) _ h j' v hj' hc with ⟨j0, hj0, hc0⟩ | ⟨k, mb, ed, he, _⟩ | ⟨a', k, mb, _, hcur, hman, hv⟩
    · obtain ⟨j, hj, hcj⟩ := hC j0 v hj0 hc0
      exact Or.inl ⟨j, v, hj, hcj, htab, hln⟩
    · cases he
    · subst hv
      exact Or.inr ⟨k, mb, hcur, hman, htab, hln⟩

/-! the hypotheses of `recovery_crash_versions_partial` can be met: they hold (`rollover_hyps`) for the MANIFEST roll-over
  of `C02.exTrace`, written out here (`rollT ++ rollS` and the rename are its first 17 events) -/

def rollT : List Ev := C02.setup ++ [.create (.log 3)]
def rollS : List Ev := [
  .create (.manifest 2), .append (.manifest 2) (C02.ed none), .append (.manifest 2) (C02.ed (some 3)),
  .syncDir, .sync (.manifest 2), .create (.tmp 2), .append (.tmp 2) (.ptr 2), .sync (.tmp 2) ]

def quietB (k' : Nat) : Ev → Bool
  | .rename _ _ => false
  | .append (.manifest k) (.edit _) => k == k'
  | _ => true

theorem quiet_of_quietB {k' : Nat} {e : Ev} (h : quietB k' e = true) : Quiet k' e := by
  constructor
  · intro a b he; subst he; cases h
  · intro k ed he; subst he; simpa [quietB] using h

theorem rollover_hyps : Conforms (rollT ++ rollS ++ [.rename (.tmp 2) .current]) ∧
    created (World.run rollT) (.manifest 2) = false ∧ ∀ e ∈ rollS, Quiet 2 e :=
  ⟨by decide +kernel, by decide +kernel,
    fun e he => quiet_of_quietB (List.all_eq_true.1 (by decide : rollS.all (quietB 2) = true) e he)⟩

end Lcdb.C05
