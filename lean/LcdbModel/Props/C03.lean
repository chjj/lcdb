/-
  C03 — a process crash (kill; the operating system survives) loses nothing that was acknowledged
  (storage-protocol level).

  The kill image contains every byte written.  Under `Conforms t`:
    * `kill_recovers`: once some batch was acknowledged, recovery of the kill image succeeds,
    * `kill_durable` : every acknowledged batch (sync or not) is replayed, or belongs to a log the recovered
                       version has retired,
    * `kill_order`   : the replayed batches are a sublist of the batches in the order they were appended (within each
                       log in append order, logs in increasing number, which is creation order), so relative order is
                       preserved; `kill_order_pos` spells that out by position.
-/
import LcdbModel.Lemmas.Disk

namespace Lcdb.C03
open Lcdb.Disk

theorem kill_recovers (t : List Ev) (h : Conforms t) (n : Nat) (ha : ackedAll (t.take n) ≠ []) :
    ∃ r, recover (killImage (World.run (t.take n))) = some r := by
  have hI := Inv.of_conforms (conforms_prefix h n)
  have hw := WInv.run (t.take n)
  obtain ⟨b, hb⟩ := List.exists_mem_of_ne_nil _ ha
  obtain ⟨_, _, hsafe⟩ := hI.bK b hb
  exact recovers_of_safe hI hsafe (inRange_len hw) rfl (killImage_imgAt hw)

theorem kill_durable (t : List Ev) (h : Conforms t) (n : Nat) :
    ∀ r, recover (killImage (World.run (t.take n))) = some r →
      ∀ b ∈ ackedAll (t.take n), b ∈ r.replayed ∨ ∃ l, logOfBatch t b = some l ∧ l < r.logNum := by
  intro r hr b hb
  have hI := Inv.of_conforms (conforms_prefix h n)
  have hw := WInv.run (t.take n)
  obtain ⟨l, hl, hsafe⟩ := hI.bK b hb
  refine (durable_of_safe hI hsafe (inRange_len hw) rfl (killImage_imgAt hw) ?_ hr).imp id
    fun hlt => ⟨l, logOfBatch_take hl, hlt⟩
  -- the kill image keeps everything written
  intro body hbd
  exact ⟨_, killImage_lookup hw ((bodyOf_eq_bodyAt hw _).trans hbd), fun r hr => hr⟩

theorem kill_order (t : List Ev) (h : Conforms t) (n : Nat) :
    ∀ r, recover (killImage (World.run (t.take n))) = some r → r.replayed.Sublist (appended (t.take n)) :=
  fun _ hr => recover_replayed_sublist (conforms_prefix h n) (inRange_len (WInv.run _))
    (killImage_imgAt (WInv.run _)) hr

theorem appended_mem_logOf (t : List Ev) (b : Nat) (h : b ∈ appended t) : (logOfBatch t b).isSome := by
  obtain ⟨e, he, hb⟩ := List.mem_filterMap.1 h
  split at hb <;> cases hb
  exact List.findSome?_isSome_iff.2 ⟨_, he, by simp⟩

theorem appended_nodup : ∀ (t : List Ev), Conforms t → (appended t).Nodup := by
  intro t
  induction t using snoc_induction with
  | nil => intro _; exact List.nodup_nil
  | snoc t e ih =>
    intro hc
    obtain ⟨h0, pre, _⟩ := conforms_snoc hc
    rw [appended_snoc]
    rcases ev_class e with ⟨n, b, rfl⟩ | ⟨_, _, hA, _⟩
    · -- the monitor accepted the append, so the batch id was not in its table, which mirrors the trace
      have hfresh := (pre_append_batch pre).1
      rw [(Inv.of_conforms h0).logOf] at hfresh
      show (appended t ++ [b]).Nodup
      rw [List.nodup_append]
      refine ⟨ih h0, List.pairwise_singleton _ _, fun a ha c hc => ?_⟩
      rw [List.mem_singleton.1 hc]
      intro hab; subst hab
      have := appended_mem_logOf t a ha
      rw [hfresh] at this; cases this
    · rw [hA, List.append_nil]; exact ih h0

theorem nodup_pairwise_idxOf (L : List Nat) (hn : L.Nodup) : L.Pairwise (fun a b => L.idxOf a < L.idxOf b) :=
  List.pairwise_iff_getElem.2 fun i j hi hj hij => by rw [hn.idxOf_getElem i hi, hn.idxOf_getElem j hj]; exact hij

/-- `kill_order` by position in `appended`; for a writer that waits for each acknowledgement before its next write,
    that is the order of its acknowledgements -/
theorem kill_order_pos (t : List Ev) (h : Conforms t) (n : Nat) :
    ∀ r, recover (killImage (World.run (t.take n))) = some r →
      r.replayed.Pairwise (fun a b => (appended (t.take n)).idxOf a < (appended (t.take n)).idxOf b) := by
  intro r hr
  exact (nodup_pairwise_idxOf _ (appended_nodup _ (conforms_prefix h n))).sublist (kill_order t h n r hr)

end Lcdb.C03
