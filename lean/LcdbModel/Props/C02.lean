/-
  C02 — synced writes survive power loss at any instant (storage-protocol level).

  `Conforms t` (the run-time monitor of Model/Disk.lean accepted the I/O trace) implies, for every crash point
  `n` and every crash image the model allows for `World.run (t.take n)`:
    * recovery succeeds once the database is established or a sync write was acknowledged (`crash_image_readable`,
      `crash_image_readable_acked`),
    * every batch acknowledged with sync is replayed from a surviving log, or belongs to a log the recovered
      version has retired (`synced_durable`),
    * under the strict deletion rule (`ConformsStrict`) every log the database had unlinked is below the recovered
      log number (`unlinked_below`, `synced_durable_strict`).
-/
import LcdbModel.Lemmas.Disk

namespace Lcdb.C02
open Lcdb.Disk

theorem crash_image_readable (t : List Ev) (h : Conforms t) (n : Nat)
    (he : established (World.run (t.take n)) = true) (img : Image)
    (hi : IsCrashImage (World.run (t.take n)) img) :
    ∃ r k recs, recover img = some r ∧ imgLookup img .current = some [.ptr k] ∧
      imgLookup img (.manifest k) = some recs ∧ r.tables = (versionOf recs).tables ∧
      (versionOf recs).logNum = some r.logNum ∧
      ∀ p ∈ r.tables, ∃ body, imgLookup img (.table p.1) = some body ∧ body.length = p.2 := by
  have hI := Inv.of_conforms (conforms_prefix h n)
  obtain ⟨j, hj, hia⟩ := isCrashImage_iff.1 hi
  obtain ⟨k, recs, v, ln, _, hln, hc, hm, hv, htab, hr⟩ :=
    recover_of_image hI.a1 hI.a2 hj (current_of_all he rfl hj) hia
  subst hv
  exact ⟨_, k, recs, hr, hc, hm, rfl, hln, htab⟩

theorem crash_image_readable_acked (t : List Ev) (h : Conforms t) (n : Nat)
    (hs : ackedSync (t.take n) ≠ []) (img : Image) (hi : IsCrashImage (World.run (t.take n)) img) :
    recover img ≠ none := by
  have hI := Inv.of_conforms (conforms_prefix h n)
  obtain ⟨j, hj, hia⟩ := isCrashImage_iff.1 hi
  obtain ⟨b, hb⟩ := List.exists_mem_of_ne_nil _ hs
  obtain ⟨_, _, hsafe⟩ := hI.bS b hb
  obtain ⟨r, hr⟩ := recovers_of_safe hI hsafe hj hj hia
  rw [hr]; simp

theorem synced_durable (t : List Ev) (h : Conforms t) (n : Nat) (img : Image)
    (hi : IsCrashImage (World.run (t.take n)) img) (hs : ackedSync (t.take n) ≠ []) :
    ∃ r, recover img = some r ∧
      (∀ b ∈ ackedSync (t.take n), b ∈ r.replayed ∨ ∃ l, logOfBatch t b = some l ∧ l < r.logNum) := by
  have hI := Inv.of_conforms (conforms_prefix h n)
  obtain ⟨j, hj, hia⟩ := isCrashImage_iff.1 hi
  obtain ⟨r, hr⟩ := Option.ne_none_iff_exists'.1 (crash_image_readable_acked t h n hs img hi)
  refine ⟨r, hr, fun b hb => ?_⟩
  obtain ⟨l, hl, hsafe⟩ := hI.bS b hb
  refine (durable_of_safe hI hsafe hj hj hia ?_ hr).imp id fun hlt => ⟨l, logOfBatch_take hl, hlt⟩
  -- a crash image keeps at least the fsynced part of every file
  intro body hbd
  obtain ⟨_, him, m, hm, rfl⟩ := imgLookup_of hia hbd
  exact ⟨_, him, fun r hr => List.take_subset_take_left _ hm hr⟩

/-- a log unlinked under the strict rule is safe by retirement alone: with the empty selection `LogSafe` can only hold
    because the candidate has retired the log (so the batch id, here `0`, plays no part) -/
def InvS (t : List Ev) : Prop :=
  ∀ l ∈ unlinkedLogs t, Safe (World.run t) (InRange (World.run t)) (fun _ => []) l 0

theorem InvS.of_strict {t : List Ev} (hc : ConformsStrict t) : InvS t := by
  induction t using snoc_induction with
  | nil => intro l h; cases h
  | snoc t e ih =>
    intro l hl
    obtain ⟨h0, pre, post⟩ := conforms_snoc hc.1
    obtain ⟨hd0, hdel⟩ := okDel_snoc hc.2
    have hI := Inv.of_conforms h0
    have hw : WInv (World.run t) := WInv.run t
    rw [run_snoc]
    have hold : Safe (World.run t) (InRange (World.run t)) (fun _ => []) l 0 := by
      rw [mem_unlinkedLogs, List.mem_append, List.mem_singleton] at hl
      rcases hl with hl | rfl
      · exact ih ⟨h0, hd0⟩ l (mem_unlinkedLogs.2 hl)
      · intro j hj
        have hall : ∀ c ∈ candidates (World.run t), candLogBelow l c = true := List.all_eq_true.1 hdel
        exact ⟨current_of_all hdel rfl hj, fun v hcv => Or.inl (candLogBelow_some (hall _ (cand_mem hw hj hcv)))⟩
    exact hold.step hw hI.ops hI.a1 pre post (fun _ _ _ _ _ h => h) (inRange_len hw) fun j' hj' => ⟨hj', fun j hj _ => hj⟩

/-- so the data of a deleted log is in the recovered version's tables -/
theorem unlinked_below (t : List Ev) (h : ConformsStrict t) (n : Nat) (img : Image)
    (hi : IsCrashImage (World.run (t.take n)) img) (r : Recovered) (hr : recover img = some r) :
    ∀ l ∈ unlinkedLogs (t.take n), l < r.logNum := by
  have hI := Inv.of_conforms (conforms_prefix h.1 n)
  obtain ⟨j, hj, hia⟩ := isCrashImage_iff.1 hi
  obtain ⟨v, hcand, hln, _, _⟩ := recover_cand hI hj hia hr
  intro l hl
  rcases (InvS.of_strict (strict_prefix h n) l hl j hj).2 v hcand with ⟨ln, h1, h2⟩ | ⟨_, _, hm⟩
  · rw [hln] at h1; cases h1; exact h2
  · cases hm

theorem synced_durable_strict (t : List Ev) (h : ConformsStrict t) (n : Nat) (img : Image)
    (hi : IsCrashImage (World.run (t.take n)) img) (hs : ackedSync (t.take n) ≠ []) :
    ∃ r, recover img = some r ∧
      (∀ b ∈ ackedSync (t.take n), b ∈ r.replayed ∨ ∃ l, logOfBatch t b = some l ∧ l < r.logNum) ∧
      (∀ l ∈ unlinkedLogs (t.take n), l < r.logNum) := by
  obtain ⟨r, hr, hb⟩ := synced_durable t h.1 n img hi hs
  exact ⟨r, hr, hb, unlinked_below t h n img hi r hr⟩

/-! Non-vacuity: a concrete conforming trace, recovery from its crash images, and negative examples
  (each negative example breaks one obligation of the monitor; the monitor rejects it and a crash image loses data). -/

def ed (ln : Option Nat) (nt : List (Nat × Nat) := []) (dt : List Nat := []) : Rec :=
  .edit { logNum := ln, newTables := nt, delTables := dt }

/-- `ldb_new_db`: MANIFEST-1 with one edit (log number 0), fsynced; CURRENT installed via `1.dbtmp` -/
def setup : List Ev := [
  .create (.manifest 1), .append (.manifest 1) (ed (some 0)), .sync (.manifest 1),
  .create (.tmp 1), .append (.tmp 1) (.ptr 1), .sync (.tmp 1), .rename (.tmp 1) .current ]

/-- database creation, the MANIFEST roll-over of `ldb_open` (snapshot + edit, directory fsync, fsync, CURRENT switch,
    old MANIFEST unlinked), writes with and without sync, a memtable flush (new log, table written and fsynced,
    edit with the new log number appended and fsynced, old log unlinked), one more synced write -/
def exTrace : List Ev := setup ++ [
  .create (.log 3), .create (.manifest 2), .append (.manifest 2) (ed none), .append (.manifest 2) (ed (some 3)),
  .syncDir, .sync (.manifest 2), .create (.tmp 2), .append (.tmp 2) (.ptr 2), .sync (.tmp 2),
  .rename (.tmp 2) .current, .unlink (.manifest 1),
  .append (.log 3) (.batch 1), .ack 1 false,
  .append (.log 3) (.batch 2), .sync (.log 3), .ack 2 true,
  .create (.log 4), .append (.log 4) (.batch 3), .ack 3 false,
  .create (.table 5), .append (.table 5) .chunk, .append (.table 5) .chunk, .sync (.table 5),
  .append (.manifest 2) (ed (some 4) [(5, 2)]), .syncDir, .sync (.manifest 2),
  .unlink (.log 3),
  .append (.log 4) (.batch 4), .sync (.log 4), .ack 4 true ]

theorem conforms_example_strict : ConformsStrict exTrace := by decide +kernel

theorem conforms_example : Conforms exTrace ∧ exTrace.length = 37 := ⟨conforms_example_strict.1, rfl⟩

/-- crash right after `ack 2 true`: the minimal image (every file cut to its fsynced part) recovers batches 1, 2 -/
theorem example_crash_after_sync_ack :
    IsCrashImage (World.run (exTrace.take 23)) (cutImage (World.run (exTrace.take 23)) 8 (fun _ => 0)) ∧
    recover (cutImage (World.run (exTrace.take 23)) 8 (fun _ => 0)) =
      some { logNum := 3, tables := [], replayed := [1, 2] } := by
  refine ⟨cutImage_isCrashImage (WInv.run _) (by decide +kernel) _, ?_⟩
  rw [recover_eq_recoverI]; decide +kernel

/-- crash in the middle of the flush (the edit is appended but not fsynced): with the MANIFEST tail lost the old
    version (log number 3) is recovered and the synced batches 1, 2 are replayed (batch 3 was not synced and is in
    the unsynced part of log 4); with the tail surviving the new version (table 5, log number 4) is recovered -/
theorem example_crash_mid_flush :
    IsCrashImage (World.run (exTrace.take 31)) (cutImage (World.run (exTrace.take 31)) 10 (fun _ => 0)) ∧
    recover (cutImage (World.run (exTrace.take 31)) 10 (fun _ => 0)) =
      some { logNum := 3, tables := [], replayed := [1, 2] } ∧
    IsCrashImage (World.run (exTrace.take 31)) (cutImage (World.run (exTrace.take 31)) 10 (fun _ => 100)) ∧
    recover (cutImage (World.run (exTrace.take 31)) 10 (fun _ => 100)) =
      some { logNum := 4, tables := [(5, 2)], replayed := [3] } := by
  refine ⟨cutImage_isCrashImage (WInv.run _) (by decide +kernel) _, ?_,
          cutImage_isCrashImage (WInv.run _) (by decide +kernel) _, ?_⟩
  · rw [recover_eq_recoverI]; decide +kernel
  · rw [recover_eq_recoverI]; decide +kernel

/-- everything acknowledged and not yet flushed is replayed -/
theorem example_kill :
    recover (killImage (World.run exTrace)) = some { logNum := 4, tables := [(5, 2)], replayed := [3, 4] } := by
  rw [recover_eq_recoverI]; decide +kernel

/-- sync ack before the log record is fsynced.  The monitor rejects exactly the last event, and the minimal
    crash image loses the acknowledged batch 1 (it is neither replayed nor retired). -/
def bad1 : List Ev := setup ++ [ .create (.log 3), .syncDir, .append (.log 3) (.batch 1), .ack 1 true ]

theorem bad1_rejected : ¬ Conforms bad1 ∧ Conforms (bad1.take 10) ∧ bad1.length = 11 := by decide +kernel

theorem bad1_loses :
    IsCrashImage (World.run bad1) (cutImage (World.run bad1) 4 (fun _ => 0)) ∧
    recover (cutImage (World.run bad1) 4 (fun _ => 0)) = some { logNum := 0, tables := [], replayed := [] } ∧
    1 ∈ ackedSync bad1 ∧ logOfBatch bad1 1 = some 3 := by
  refine ⟨cutImage_isCrashImage (WInv.run _) (by decide +kernel) _, ?_⟩
  rw [recover_eq_recoverI]; decide +kernel

/-- a MANIFEST edit names a table that was not fsynced.  The monitor rejects exactly the edit (event 11), and
    after the MANIFEST's fsync the minimal crash image (table 5 present but empty) makes recovery fail. -/
def bad2 : List Ev := setup ++ [ .create (.log 3), .create (.table 5), .append (.table 5) .chunk,
  .append (.manifest 1) (ed (some 0) [(5, 1)]), .sync (.manifest 1) ]

theorem bad2_rejected : ¬ Conforms bad2 ∧ ¬ Conforms (bad2.take 11) ∧ Conforms (bad2.take 10) := by decide +kernel

theorem bad2_loses :
    IsCrashImage (World.run bad2) (cutImage (World.run bad2) 5 (fun _ => 0)) ∧
    recover (cutImage (World.run bad2) 5 (fun _ => 0)) = none := by
  refine ⟨cutImage_isCrashImage (WInv.run _) (by decide +kernel) _, ?_⟩
  rw [recover_eq_recoverI]; decide +kernel

/-- the old log is unlinked before the edit that retires it is fsynced.  The monitor rejects exactly the unlink;
    in the crash image that keeps the unlink but only the fsynced part of the MANIFEST the sync-acknowledged
    batch 1 is lost. -/
def bad3 : List Ev := setup ++ [ .create (.log 3), .append (.log 3) (.batch 1), .sync (.log 3), .ack 1 true,
  .create (.log 4), .create (.table 5), .append (.table 5) .chunk, .sync (.table 5),
  .append (.manifest 1) (ed (some 4) [(5, 1)]), .unlink (.log 3) ]

theorem bad3_rejected : ¬ Conforms bad3 ∧ Conforms (bad3.take 16) ∧ bad3.length = 17 := by decide +kernel

theorem bad3_loses :
    IsCrashImage (World.run bad3) (cutImage (World.run bad3) 7 (fun _ => 0)) ∧
    recover (cutImage (World.run bad3) 7 (fun _ => 0)) = some { logNum := 0, tables := [], replayed := [] } ∧
    1 ∈ ackedSync bad3 ∧ logOfBatch bad3 1 = some 3 := by
  refine ⟨cutImage_isCrashImage (WInv.run _) (by decide +kernel) _, ?_⟩
  rw [recover_eq_recoverI]; decide +kernel

/-- CURRENT is switched to a MANIFEST that was not fsynced.  The monitor rejects exactly the rename; in the
    crash image that keeps the rename but only the fsynced (empty) part of the MANIFEST recovery fails. -/
def bad4 : List Ev := [ .create (.manifest 1), .append (.manifest 1) (ed (some 0)),
  .create (.tmp 1), .append (.tmp 1) (.ptr 1), .sync (.tmp 1), .rename (.tmp 1) .current ]

theorem bad4_rejected : ¬ Conforms bad4 ∧ Conforms (bad4.take 5) ∧ bad4.length = 6 := by decide +kernel

theorem bad4_loses :
    IsCrashImage (World.run bad4) (cutImage (World.run bad4) 3 (fun _ => 0)) ∧
    recover (cutImage (World.run bad4) 3 (fun _ => 0)) = none := by
  refine ⟨cutImage_isCrashImage (WInv.run _) (by decide +kernel) _, ?_⟩
  rw [recover_eq_recoverI]; decide +kernel

/-- The strict deletion rule is not implied by `Conforms` (this is what `ldb_open` did before
    `ldb_set_current_file` fsynced the directory after the rename, filename.c:190): a reopen
    replays log 3 into table 5, writes MANIFEST-7, switches CURRENT and immediately unlinks log 3 without an fsync
    in between.  The trace conforms, but not strictly; in the crash image in which the rename did not persist the
    old version (log number 0) is recovered, log 3 is back with only its fsynced (empty) part, and the unsynced
    batch 1 — whose log the database had already deleted — is lost. -/
def reopenTrace : List Ev := setup ++ [ .create (.log 3), .append (.log 3) (.batch 1), .ack 1 false,
  .create (.table 5), .append (.table 5) .chunk, .sync (.table 5), .create (.log 6), .create (.manifest 7),
  .append (.manifest 7) (ed none [(5, 1)]), .append (.manifest 7) (ed (some 6)), .syncDir, .sync (.manifest 7),
  .create (.tmp 7), .append (.tmp 7) (.ptr 7), .sync (.tmp 7), .rename (.tmp 7) .current,
  .unlink (.manifest 1), .unlink (.log 3) ]

theorem reopen_conforms_not_strict : Conforms reopenTrace ∧ ¬ ConformsStrict reopenTrace := by decide +kernel

theorem reopen_loses_unsynced :
    IsCrashImage (World.run reopenTrace) (cutImage (World.run reopenTrace) 8 (fun _ => 0)) ∧
    recover (cutImage (World.run reopenTrace) 8 (fun _ => 0)) = some { logNum := 0, tables := [], replayed := [] } ∧
    3 ∈ unlinkedLogs reopenTrace := by
  refine ⟨cutImage_isCrashImage (WInv.run _) (by decide +kernel) _, ?_⟩
  rw [recover_eq_recoverI]; decide +kernel

end Lcdb.C02
