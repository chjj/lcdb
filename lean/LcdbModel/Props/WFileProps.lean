/-
  Property theorems of the buffered writable file (Model/WFile.lean): the user-space buffer between `ldb_wfile_append`
  and write(2) is transparent as long as no write fails; what exactly happens when one does.  Every statement
  quantifies over every script of environment answers.
-/
import LcdbModel.Lemmas.WFile
import LcdbModel.Lemmas.WFileFs
namespace Lcdb.WFile

/-- `ldb_write` under every finite script of answers (termination is structural on the script; an exhausted script answers
    every call in full; an infinite stream of EINTR / zero-byte answers is not representable): what reached the descriptor is
    a prefix of the request, all of it on OK; any pattern of short writes, zero-byte writes and EINTR bursts ends in OK; a
    failure status is the errno of the last write(2) call. -/
theorem osWrite_spec (data : Bytes) (s : List WAns) :
    transferred (osWrite data s).ev <+: data ∧
    ((osWrite data s).rc = .ok → transferred (osWrite data s).ev = data) ∧
    ((∀ a ∈ s, a.isFault = false) → (osWrite data s).rc = .ok ∧ transferred (osWrite data s).ev = data) ∧
    (∀ e, (osWrite data s).rc = .err e → e ≠ .eintr ∧ ∃ pre req, (osWrite data s).ev = pre ++ [.writeErr req e]) ∧
    (∀ e ∈ (osWrite data s).ev, e.isWrite = true) ∧ (osWrite data s).rest <:+ s :=
  have W := osWrite_facts data s
  ⟨W.pre, W.ok, fun h => ⟨W.nf h, W.ok (W.nf h)⟩, W.err, W.isWrite, W.rest⟩

example : (osWrite [1, 2, 3, 4, 5] [.ok 1, .ok 1, .err .eintr, .ok 0, .half]).rc = .ok ∧
    transferred (osWrite [1, 2, 3, 4, 5] [.ok 1, .ok 1, .err .eintr, .ok 0, .half]).ev = [1, 2, 3, 4, 5] ∧
    (osWrite [1, 2, 3, 4, 5] [.ok 1, .ok 1, .err .eintr, .ok 0, .half]).ev.length = 6 := by decide +kernel

example : (osWrite [1, 2, 3] [.ok 2, .err .enospc]).rc = .err .enospc ∧
    transferred (osWrite [1, 2, 3] [.ok 2, .err .enospc]).ev = [1, 2] := by decide +kernel

/-- If no write(2) answer is a failure (any pattern of short writes / EINTR), then after ANY sequence of
    append / flush / sync the bytes transferred to the descriptor followed by the buffer are exactly the
    concatenation of all appended data — order preserved, nothing duplicated, nothing lost — and the buffer
    holds at most `cap` (= LDB_WRITE_BUFFER) bytes. -/
theorem no_fault_transparent (cap : Nat) (m : Bool) (orc : Oracle) (hnf : orc.WNoFault) (ops : List Op) :
    transferred (run cap (RunSt.init m orc) ops).tr ++ (run cap (RunSt.init m orc) ops).f.buf = (ops.map opData).flatten ∧
    (run cap (RunSt.init m orc) ops).f.buf.length ≤ cap := by
  have hi := run_inv ops (init_inv cap m orc)
  have h := (hi.wnf hnf).1
  unfold Clean at h
  rw [h, run_app]
  exact ⟨by simp [RunSt.init], hi.buf_le⟩

theorem no_fault_after_flush (cap : Nat) (m : Bool) (orc : Oracle) (hnf : orc.WNoFault) (ops : List Op) :
    (run cap (RunSt.init m orc) (ops ++ [.flush])).f.buf = [] ∧
    transferred (run cap (RunSt.init m orc) (ops ++ [.flush])).tr = (ops.map opData).flatten := by
  have h := (no_fault_transparent cap m orc hnf (ops ++ [.flush])).1
  have hb : (run cap (RunSt.init m orc) (ops ++ [.flush])).f.buf = [] := by rw [run_snoc]; rfl
  rw [hb] at h
  exact ⟨hb, by simpa [opData] using h⟩

/-- If no write(2) answer is a failure, a sync that returned OK leaves the buffer empty and everything appended in the
    file (a sync can fail on the directory or on fsync without any write failing: then the data is still in the buffer
    or in the file, see `no_fault_transparent`) -/
theorem no_fault_after_sync (cap : Nat) (m : Bool) (orc : Oracle) (hnf : orc.WNoFault) (ops : List Op)
    (hok : (run cap (RunSt.init m orc) (ops ++ [.sync])).rcs.getLast? = some .ok) :
    (run cap (RunSt.init m orc) (ops ++ [.sync])).f.buf = [] ∧
    transferred (run cap (RunSt.init m orc) (ops ++ [.sync])).tr = (ops.map opData).flatten := by
  have h := (no_fault_transparent cap m orc hnf (ops ++ [.sync])).1
  have hb : (run cap (RunSt.init m orc) (ops ++ [.sync])).f.buf = [] := by
    rw [run_snoc] at hok ⊢
    simp only [step, List.getLast?_append, List.getLast?_singleton, Option.some_or, Option.some.injEq] at hok
    exact (sync0_ok hok).1
  rw [hb] at h
  exact ⟨hb, by simpa [opData] using h⟩

/-- If no write(2) answer is a failure, `ldb_wfile_close` transfers whatever is still buffered before it closes the
    descriptor -/
theorem no_fault_after_close (cap : Nat) (m : Bool) (orc : Oracle) (hnf : orc.WNoFault) (ops : List Op) :
    let st := run cap (RunSt.init m orc) ops
    (close st.f st.orc).f.buf = [] ∧
    transferred (st.tr ++ (close st.f st.orc).ev) = (ops.map opData).flatten := by
  intro st
  have h := (no_fault_transparent cap m orc hnf ops).1
  have hn := ((run_inv ops (init_inv cap m orc)).wnf hnf).2
  refine ⟨rfl, ?_⟩
  rw [transferred_append, close_ev, ← h]
  congr 1
  exact ((flush_facts cap st.f st.orc).nf hn) |> fun x => by simpa [flush_buf] using x

/-- non-vacuity (capacity 4): 3 bytes buffered, 3 more force a flush of the full buffer through 1-byte writes and an
    EINTR, a 9-byte append takes the direct-write branch -/
example :
    let st := run 4 (RunSt.init false { w := [.ok 1, .err .eintr, .ok 1, .half] })
      [.append [1, 2, 3], .append [4, 5, 6], .append [7, 8, 9, 10, 11, 12, 13, 14, 15], .sync]
    transferred st.tr = [1, 2, 3, 4, 5, 6, 7, 8, 9, 10, 11, 12, 13, 14, 15] ∧ st.f.buf = [] ∧
    st.rcs = [.ok, .ok, .ok, .ok] ∧ st.tr.length = 8 := by decide +kernel

/-- Under ANY script of answers (failures included), after any sequence of operations:
    (a) transferred ++ buffer is a SUBLIST of the appended stream: bytes reach the file in append order, none is
        duplicated or invented; a failure only ever removes bytes from the stream;
    (b) as long as every operation so far returned OK, nothing is missing: transferred ++ buffer = appended
        (in particular the file is a prefix of the appended stream);
    (c) the buffer never exceeds its capacity.
    The last two conjuncts say what `app` and `rcs` are: all appended data in order, one status per operation. -/
theorem write_prefix_always (cap : Nat) (m : Bool) (orc : Oracle) (ops : List Op) :
    let st := run cap (RunSt.init m orc) ops
    (transferred st.tr ++ st.f.buf).Sublist st.app ∧
    ((∀ rc ∈ st.rcs, rc = .ok) → transferred st.tr ++ st.f.buf = st.app ∧ transferred st.tr <+: st.app) ∧
    st.f.buf.length ≤ cap ∧ st.app = (ops.map opData).flatten ∧ st.rcs.length = ops.length := by
  intro st
  have hi : Inv cap orc st := run_inv ops (init_inv cap m orc)
  refine ⟨hi.sub, ?_, hi.buf_le, by simp [st, run_app, RunSt.init], by simp [st, run_rcs_length, RunSt.init]⟩
  intro hok
  have hc := hi.ok hok
  exact ⟨hc, hc ▸ List.prefix_append _ _⟩

/-- The operation that FIRST reports an error still leaves a prefix of the appended stream in the file (what it
    transferred before failing are the next bytes of the stream). -/
theorem first_error_still_prefix (cap : Nat) (m : Bool) (orc : Oracle) (ops : List Op) (op : Op)
    (hok : ∀ rc ∈ (run cap (RunSt.init m orc) ops).rcs, rc = .ok) :
    transferred (run cap (RunSt.init m orc) (ops ++ [op])).tr <+: (run cap (RunSt.init m orc) (ops ++ [op])).app := by
  have hi := run_inv ops (init_inv cap m orc)
  rw [run_snoc]
  exact step_prefix hi (hi.ok hok) op

/-- "The failure surfaces as an error status": whenever, after some operation, the file is NOT a prefix of the
    appended stream, an EARLIER operation returned an error.  (The caller must latch that error: see `after_failed_flush_gap`.) -/
theorem gap_implies_reported_error (cap : Nat) (m : Bool) (orc : Oracle) (ops : List Op) (op : Op)
    (hgap : ¬ transferred (run cap (RunSt.init m orc) (ops ++ [op])).tr <+: (run cap (RunSt.init m orc) (ops ++ [op])).app) :
    ∃ rc ∈ (run cap (RunSt.init m orc) ops).rcs, rc ≠ .ok := by
  apply Classical.byContradiction
  intro hno
  exact hgap (first_error_still_prefix cap m orc ops op
    fun rc hrc => Classical.byContradiction fun hne => hno ⟨rc, hrc, hne⟩)

/-- The mechanism behind finding F1: a failed flush DROPS the buffer (`file->pos = 0` even when the write failed),
    so if the caller keeps writing, later data lands directly behind what was transferred before the failure —
    the file is no longer a prefix of the appended stream, and the later operations all return OK.
    Concrete witness (capacity 4): append [1,2]; flush fails with EIO; append [3]; flush succeeds.
    The file holds [3], the appended stream is [1,2,3]. -/
theorem after_failed_flush_gap :
    let st := run 4 (RunSt.init false { w := [.err .eio] }) [.append [1, 2], .flush, .append [3], .flush]
    st.rcs = [.ok, .err .eio, .ok, .ok] ∧ transferred st.tr = [3] ∧ st.app = [1, 2, 3] ∧
    ¬ transferred st.tr <+: st.app := by decide +kernel

/-- the same through a short write: one byte of the buffer reaches the file, the rest is dropped -/
example :
    let st := run 4 (RunSt.init false { w := [.ok 1, .err .enospc] }) [.append [1, 2], .flush, .append [3], .flush]
    st.rcs = [.ok, .err .enospc, .ok, .ok] ∧ transferred st.tr = [1, 3] ∧ ¬ transferred st.tr <+: st.app := by decide +kernel

/-- `emit_physical_record` (append header, append payload, flush) returning OK means: everything that was buffered
    before, the header and the payload have been handed to write(2), in this order, and the buffer is empty. -/
theorem emit_record_pushed (cap : Nat) (f : WF) (hf : f.buf.length ≤ cap) (hdr payload : Bytes) (orc : Oracle)
    (hok : (emitPhysicalRecord cap f hdr payload orc).rc = .ok) :
    transferred (emitPhysicalRecord cap f hdr payload orc).ev = f.buf ++ hdr ++ payload ∧
    (emitPhysicalRecord cap f hdr payload orc).f.buf = [] := by
  unfold emitPhysicalRecord at hok ⊢
  have Fa := append0_facts cap f hf hdr orc
  generalize append0 cap f hdr orc = a at Fa hok ⊢
  by_cases h1 : a.rc = .ok
  · simp only [h1, ne_eq, not_true_eq_false, ↓reduceIte] at hok ⊢
    have Fb := append0_facts cap a.f Fa.buf_le payload a.orc
    generalize append0 cap a.f payload a.orc = b at Fb hok ⊢
    by_cases h2 : b.rc = .ok
    · simp only [h2, not_true_eq_false, ↓reduceIte] at hok ⊢
      have e3 := (flush_facts cap b.f b.orc).ok hok
      simp only [flush_buf, List.append_nil] at e3
      refine ⟨?_, rfl⟩
      rw [transferred_append, transferred_append, e3, List.append_assoc, Fb.ok h2, ← List.append_assoc, Fa.ok h1]
    · simp only [h2, not_false_eq_true, ↓reduceIte] at hok
  · simp only [h1, ne_eq, not_false_eq_true, ↓reduceIte] at hok

theorem emit_record_pushed_run (cap : Nat) (m : Bool) (orc : Oracle) (ops : List Op) (hdr payload : Bytes)
    (hprev : ∀ rc ∈ (run cap (RunSt.init m orc) ops).rcs, rc = .ok) :
    let st := run cap (RunSt.init m orc) ops
    (emitPhysicalRecord cap st.f hdr payload st.orc).rc = .ok →
    transferred (st.tr ++ (emitPhysicalRecord cap st.f hdr payload st.orc).ev) = st.app ++ hdr ++ payload := by
  intro st hok
  have hi : Inv cap orc st := run_inv ops (init_inv cap m orc)
  have hc : Clean st := hi.ok hprev
  unfold Clean at hc
  rw [transferred_append, (emit_record_pushed cap st.f hi.buf_le hdr payload st.orc hok).1, ← hc]
  simp

/-- An append that fits into the free space of the buffer issues no system call and cannot fail.  This is why the
    IGNORED status of the block-trailer append in `ldb_writer_add_record` is harmless as long as every record is
    emitted through `emit_physical_record` (buffer empty afterwards, trailer < 7 bytes) — and only then. -/
theorem append_fits_no_syscall (cap : Nat) (f : WF) (data : Bytes) (orc : Oracle) (h : f.buf.length + data.length ≤ cap) :
    (append0 cap f data orc).ev = [] ∧ (append0 cap f data orc).rc = .ok ∧ (append0 cap f data orc).f.buf = f.buf ++ data := by
  have h1 : min data.length (cap - f.buf.length) = data.length := by omega
  simp [append0, h1]

example : (emitPhysicalRecord 4 { buf := [], manifest := false, fdOpen := true } [1, 2, 3] [4, 5] { w := [.ok 1] }).rc = .ok ∧
    transferred (emitPhysicalRecord 4 { buf := [], manifest := false, fdOpen := true } [1, 2, 3] [4, 5] { w := [.ok 1] }).ev
      = [1, 2, 3, 4, 5] := by decide +kernel

/-- `ldb_wfile_sync0` issues: the directory part (open / fsync / close of the directory — MANIFEST files only), then
    only write(2) calls, then only fsync calls of the file.  It returns OK only if the directory part returned OK
    (for a MANIFEST), the writes transferred the WHOLE buffer, and the final call is a successful fsync issued after
    every write; the buffer is then empty. -/
theorem sync_order (f : WF) (orc : Oracle) :
    ∃ D W S, (sync0 f orc).ev = D ++ W ++ S ∧
      D = (if f.manifest then (syncDir orc).ev else []) ∧ (∀ e ∈ D, e.isDirEv = true) ∧
      (∀ e ∈ W, e.isWrite = true) ∧ (∀ e ∈ S, ∃ r, e = Sys.fsync false r) ∧ transferred W <+: f.buf ∧
      ((sync0 f orc).rc = .ok →
        (f.manifest = true → (syncDir orc).rc = .ok ∧ Sys.openDir none ∈ D ∧
          ∃ r, Sys.fsync true r ∈ D ∧ (r = none ∨ r = some .ebadf ∨ r = some .einval)) ∧
        transferred W = f.buf ∧ (sync0 f orc).f.buf = [] ∧ ∃ pre, S = pre ++ [Sys.fsync false none]) := by
  obtain ⟨d, fl, s, hd, rfl, rfl, hcase⟩ := sync0_cases f orc
  have hdev : d.ev = if f.manifest then (syncDir orc).ev else [] := by rw [hd, sync0Dir]; split <;> rfl
  have hD : ∀ e ∈ d.ev, e.isDirEv = true := hd ▸ (sync0Dir_facts f orc).dirEv
  have W := osWrite_facts f.buf d.orc.w
  rcases hcase with ⟨h1, e⟩ | ⟨h1, h2, e⟩ | ⟨h1, h2, e⟩ <;> rw [e]
  · exact ⟨d.ev, [], [], by simp, hdev, hD, (fun _ h => nomatch h), (fun _ h => nomatch h), List.nil_prefix,
      fun h => absurd h h1⟩
  · exact ⟨d.ev, _, [], (List.append_nil _).symm, hdev, hD, W.isWrite, (fun _ h => nomatch h), W.pre, fun h => absurd h h2⟩
  · refine ⟨d.ev, _, _, rfl, hdev, hD, W.isWrite, (osFsync_facts _ _).mem, W.pre, fun h3 => ⟨fun hm => ?_, W.ok h2, rfl, ?_⟩⟩
    · have hs : (syncDir orc).rc = .ok := by rw [hd, sync0Dir, if_pos hm] at h1; exact h1
      rw [hdev, if_pos hm]
      exact ⟨hs, syncDir_ok orc hs⟩
    · obtain ⟨pre, hp, _⟩ := (osFsync_facts false (flush f d.orc).orc.s).shape
      rw [show (osFsync false (flush f d.orc).orc.s).rc = .ok from h3] at hp
      exact ⟨pre, hp⟩

/-- in a run: a sync that returns OK after operations that all returned OK has transferred the whole appended
    stream, and its successful fsync is the last system call — everything appended before is covered by it -/
theorem sync_covers_everything (cap : Nat) (m : Bool) (orc : Oracle) (ops : List Op)
    (hok : ∀ rc ∈ (run cap (RunSt.init m orc) (ops ++ [.sync])).rcs, rc = .ok) :
    let st := run cap (RunSt.init m orc) (ops ++ [.sync])
    transferred st.tr = (ops.map opData).flatten ∧ st.f.buf = [] ∧ ∃ pre, st.tr = pre ++ [Sys.fsync false none] := by
  intro st
  have hc : transferred st.tr ++ st.f.buf = st.app := (run_inv (ops ++ [Op.sync]) (init_inv cap m orc)).ok hok
  rw [run_snoc] at hok
  obtain ⟨hb, B, hB, _⟩ := sync0_ok ((List.forall_mem_append.mp hok).2 _ (List.mem_singleton.mpr rfl))
  have hbuf : st.f.buf = [] := by simp only [st, run_snoc]; exact hb
  rw [hbuf, List.append_nil] at hc
  refine ⟨by rw [hc]; simp [st, run_app, RunSt.init, opData], hbuf, (run cap (RunSt.init m orc) ops).tr ++ B, ?_⟩
  simp only [st, run_snoc, step, applyOp, hB, List.append_assoc]

/-- `ldb_write_file(name, data, should_sync = 1)` returning OK: the file holds exactly `data`, all of it covered by an
    fsync issued after the last write, and the descriptor is closed (for every script of answers) -/
theorem writeFile_synced (cap : Nat) (name : Disk.FName) (data : Bytes) (orc : Oracle)
    (hok : (writeFile cap name data true orc).rc = .ok) (fs : Fs) :
    (Fs.run fs (writeFile cap name data true orc).ev).files name = some data ∧
    (Fs.run fs (writeFile cap name data true orc).ev).synced name = true ∧
    (Fs.run fs (writeFile cap name data true orc).ev).cur = none := by
  cases h : (osOpen (Sys.openW name) orc.o).r with
  | some x => rw [writeFile_fail _ _ _ _ _ x h] at hok; simp at hok
  | none =>
    rw [writeFile_opened _ _ _ _ _ h] at hok ⊢
    simp only at hok ⊢
    obtain ⟨pre, hp, hpre⟩ := (osOpen_facts (Sys.openW name) orc.o).shape
    rw [h] at hp
    obtain ⟨B, hB, hBody, hT⟩ := writeBody_ok cap name data _ hok
    rw [hp, hB, Fs.run_append, Fs.run_open_ok name fs pre hpre, Fs.run_append]
    have h1 := Fs.run_body name B (fs.step (Sys.openW name none)) [] hBody (by simp [Fs.step]) (by simp [Fs.step])
    rw [hT] at h1
    simp only [List.nil_append] at h1
    generalize Fs.run (fs.step (Sys.openW name none)) B = fsB at h1 ⊢
    obtain ⟨c1, c2⟩ := h1
    simp only [Fs.run, List.foldl_cons, List.foldl_nil, Fs.step, c1]
    simp [c2]

/-- `ldb_set_current_file(n)` under EVERY script of answers, started in any directory state `fs0` with no file open
    for writing.  `Fs` interprets the system calls; `synced g` means "the whole current contents of `g` were covered by
    an fsync issued after the last write to it" and travels with a rename.
    (1) In EVERY prefix of the trace (= at every possible crash/kill point) CURRENT is either exactly what it was
        before the call, or it holds the complete pointer `MANIFEST-<n>\n` AND that content had been fsynced in full
        before the rename — never a partial or unsynced CURRENT.
    (2) Status OK ⇔ the successful rename `<n>.dbtmp → CURRENT` was issued; then CURRENT is the new pointer and the
        temp file is gone.
    (3) On any error CURRENT is untouched, the last system call is the unlink of the temp file, and no successful
        rename was issued. -/
theorem setCurrentFile_atomic (cap n : Nat) (orc : Oracle) (fs0 : Fs) (h0 : fs0.cur = none) :
    (∀ p, p <+: (setCurrentFile cap n orc).ev →
      ((Fs.run fs0 p).files .current = fs0.files .current ∧ (Fs.run fs0 p).synced .current = fs0.synced .current) ∨
      ((Fs.run fs0 p).files .current = some (ptrBytes n) ∧ (Fs.run fs0 p).synced .current = true)) ∧
    ((setCurrentFile cap n orc).rc = .ok →
      (Fs.run fs0 (setCurrentFile cap n orc).ev).files .current = some (ptrBytes n) ∧
      (Fs.run fs0 (setCurrentFile cap n orc).ev).synced .current = true ∧
      (Fs.run fs0 (setCurrentFile cap n orc).ev).files (.tmp n) = none ∧
      Sys.rename (.tmp n) .current none ∈ (setCurrentFile cap n orc).ev) ∧
    ((setCurrentFile cap n orc).rc ≠ .ok →
      (Fs.run fs0 (setCurrentFile cap n orc).ev).files .current = fs0.files .current ∧
      (∃ pre x, (setCurrentFile cap n orc).ev = pre ++ [Sys.unlink (.tmp n) x]) ∧
      Sys.rename (.tmp n) .current none ∉ (setCurrentFile cap n orc).ev) := by
  have hcur0 : fs0.cur ≠ some Disk.FName.current := by rw [h0]; exact fun h => nomatch h
  rcases setCurrentFile_cases cap n orc with ⟨pre, x, hev, hpre, hrc⟩ | ⟨D, hev, hD, hw, hrc⟩
  · have hav : ∀ e ∈ (setCurrentFile cap n orc).ev, e.avoids .current = true := by
      rw [hev]
      exact List.forall_mem_append.mpr ⟨hpre, List.forall_mem_singleton.mpr (by cases x <;> rfl)⟩
    exact ⟨fun p hp => Or.inl (Fs.prefix_avoids hav hcur0 hp), fun h => absurd h hrc,
      fun _ => ⟨(Fs.prefix_avoids hav hcur0 (List.prefix_refl _)).1, ⟨pre, x, hev⟩,
        fun hm => by have := hav _ hm; simp [Sys.avoids] at this⟩⟩
  · have hne : Disk.FName.tmp n ≠ Disk.FName.current := fun h => nomatch h
    have hW := writeFile_synced cap (.tmp n) (ptrBytes n) orc hw fs0
    obtain ⟨h1, h2, h3⟩ := Fs.run_rename hne hW hD
    rw [hev]
    exact ⟨Fs.rename_atomic hne (writeFile_avoids cap (.tmp n) .current hne (ptrBytes n) true orc) hcur0 hW hD,
      fun _ => ⟨h1, h2, h3, by simp⟩, fun h => absurd hrc h⟩

/-- a directory in which CURRENT holds `old\n` and nothing is synced -/
def exFs0 : Fs := { files := fun g => if g = .current then some [0x6f, 0x6c, 0x64, 0x0a] else none, synced := fun _ => false, cur := none }

/-- the contents are `MANIFEST-000005\n` -/
example : ptrBytes 5 = [77, 65, 78, 73, 70, 69, 83, 84, 45, 48, 48, 48, 48, 48, 53, 10] ∧
    (setCurrentFile writeBuffer 5 { w := [.ok 3, .err .eintr, .ok 3] }).rc = .ok ∧
    (Fs.run exFs0 (setCurrentFile writeBuffer 5 { w := [.ok 3, .err .eintr, .ok 3] }).ev).files .current = some (ptrBytes 5) := by
  decide +kernel

/-- a failing fsync: the temp file is unlinked twice, once by `ldb_write_file`, once more by `ldb_set_current_file` -/
example : (setCurrentFile writeBuffer 5 { s := [.err .eio] }).rc = .err .eio ∧
    (Fs.run exFs0 (setCurrentFile writeBuffer 5 { s := [.err .eio] }).ev).files .current = some [0x6f, 0x6c, 0x64, 0x0a] ∧
    (setCurrentFile writeBuffer 5 { s := [.err .eio] }).ev =
      [.openW (.tmp 5) none, .write 16 (ptrBytes 5), .fsync false (some .eio), .close false none,
       .unlink (.tmp 5) none, .unlink (.tmp 5) none] := by
  decide +kernel

/-- the abstraction `absGo` to the storage-protocol events (`Lcdb.Disk.Ev`) on a concrete run with short writes:
    create, the write(2) that completes the pointer record, sync, rename, directory sync — exactly the event
    sequence obligation O4 of the monitor `Disk.Mon` (the obligations are listed under "the monitor" in
    Model/Disk.lean) is stated over.  (Concrete instance only: for the calls of `ldb_set_current_file`
    there is no general statement; for runs of append / flush / sync it is `ok_run_abstracts_write_then_sync`.) -/
example : absGo (.tmp 5) (ptrBytes 5) (.ptr 5) [] (setCurrentFile writeBuffer 5 { w := [.ok 3, .err .eintr, .ok 3] }).ev =
    [.create (.tmp 5), .append (.tmp 5) (.ptr 5), .sync (.tmp 5), .rename (.tmp 5) .current, .syncDir] := by
  decide +kernel

/-- the environment never answers an error other than EINTR (a write(2) may be short or transfer nothing) -/
def Oracle.NoFault (orc : Oracle) : Prop :=
  (∀ a ∈ orc.w, a.isFault = false) ∧ (∀ a ∈ orc.s, a.isFault = false) ∧ (∀ a ∈ orc.o, a.isFault = false) ∧
  (∀ a ∈ orc.c, a.isFault = false) ∧ (∀ a ∈ orc.r, a.isFault = false) ∧ (∀ a ∈ orc.u, a.isFault = false)

/-- Under an oracle that never answers an error, EVERY status returned by any sequence of append / flush / sync is OK
    (whatever the pattern of short writes and EINTR bursts on write, fsync and open). -/
theorem no_fault_all_ok (cap : Nat) (m : Bool) (orc : Oracle) (hnf : Oracle.NoFault orc) (ops : List Op) :
    ∀ rc ∈ (run cap (RunSt.init m orc) ops).rcs, rc = .ok :=
  ((run_inv ops (init_inv cap m orc)).io ⟨hnf.1, hnf.2.1, hnf.2.2.1⟩).2

theorem no_fault_sync_covers (cap : Nat) (m : Bool) (orc : Oracle) (hnf : Oracle.NoFault orc) (ops : List Op) :
    let st := run cap (RunSt.init m orc) (ops ++ [.sync])
    transferred st.tr = (ops.map opData).flatten ∧ st.f.buf = [] ∧ ∃ pre, st.tr = pre ++ [Sys.fsync false none] := by
  have hok := no_fault_all_ok cap m orc hnf (ops ++ [.sync])
  exact sync_covers_everything cap m orc ops hok

example : Oracle.NoFault { w := [.ok 1, .err .eintr, .ok 0, .half], s := [.err .eintr, .ok], o := [.err .eintr] } := by
  refine ⟨?_, ?_, ?_, ?_, ?_, ?_⟩ <;> decide

example : (run 4 (RunSt.init true { w := [.ok 1, .err .eintr, .ok 0, .half], s := [.err .eintr, .ok], o := [.err .eintr] })
    [.append [1, 2, 3], .append [4, 5, 6], .sync, .append [7, 8, 9, 10, 11, 12, 13, 14, 15], .flush]).rcs
    = [.ok, .ok, .ok, .ok, .ok] := by decide +kernel

/-- The bridge to the `Disk` model's events.  For every op sequence `ops` that appends at least one byte, every oracle
    and every file name: if `ops` followed by a sync all return OK, then the abstraction `absGo` of the system-call
    trace — with the record `r` standing for the bytes appended before that sync,
    `full = (ops.map opData).flatten` — is

        A ++ [append name r] ++ B ++ [sync name]        (A, B contain only `sync name` / `syncDir` events)

    i.e. on `Disk.Ev`: the record is completed by exactly ONE `append` event (the write(2) after which the file holds
    all of `full`, whatever the pattern of short writes, EINTR, buffer flushes and direct writes, and however the data
    was cut into appends), and the `sync` contributed by the final sync op comes AFTER it: an OK sync covers everything
    appended before it.  Earlier OK syncs of `ops` show up as the `sync` events of `A` (before the record was
    complete) — none of them can follow the `append` except through `B` = syncs issued after completion. -/
theorem ok_run_abstracts_write_then_sync (cap : Nat) (m : Bool) (orc : Oracle) (ops : List Op) (name : Disk.FName)
    (r : Disk.Rec) (hne : (ops.map opData).flatten ≠ [])
    (hok : ∀ rc ∈ (run cap (RunSt.init m orc) (ops ++ [.sync])).rcs, rc = .ok) :
    ∃ A B, absGo name (ops.map opData).flatten r [] (run cap (RunSt.init m orc) (ops ++ [.sync])).tr
        = A ++ [Disk.Ev.append name r] ++ B ++ [Disk.Ev.sync name] ∧ OnlySyncs name A ∧ OnlySyncs name B := by
  obtain ⟨hT, _, pre, hpre⟩ := sync_covers_everything cap m orc ops hok
  have hbody := (run_inv (ops ++ [.sync]) (init_inv cap m orc)).body
  rw [hpre] at hT hbody ⊢
  have hpb : ∀ e ∈ pre, e.isBody = true := fun e he => hbody e (by simp [he])
  have hTp : transferred pre = (ops.map opData).flatten := by
    simpa [transferred_append, transferred] using hT
  obtain ⟨A, B, e1, e2, e3⟩ := absGo_cross name _ r pre [] hpb (fun h => hne h.symm) (by simpa using hTp)
  refine ⟨A, B, ?_, e2, e3⟩
  rw [absGo_append_body name _ r pre [] _ hpb, e1]
  simp [absGo]

/-- The abstracted trace has the shape `… append … sync` that obligation O1 of `Disk.Mon` asks for before a sync write is
    acknowledged (the record below the log's fsynced count). -/
example :
    absGo (.log 1) [1, 2, 3, 4, 5, 6, 7] (.batch 9) []
      (run 4 (RunSt.init false { w := [.ok 1, .err .eintr, .ok 1, .half] })
        [.append [1, 2, 3], .sync, .append [4, 5, 6], .append [7], .sync]).tr
      = [.sync (.log 1), .append (.log 1) (.batch 9), .sync (.log 1)] ∧
    (run 4 (RunSt.init false { w := [.ok 1, .err .eintr, .ok 1, .half] })
        [.append [1, 2, 3], .sync, .append [4, 5, 6], .append [7], .sync]).rcs = [.ok, .ok, .ok, .ok, .ok] := by decide +kernel

example :
    absGo (.manifest 2) [1, 2, 3, 4, 5] (.chunk) []
      (run 4 (RunSt.init true { w := [.ok 2] }) [.append [1, 2, 3, 4, 5], .sync]).tr
      = [.syncDir, .append (.manifest 2) .chunk, .sync (.manifest 2)] := by decide +kernel

end Lcdb.WFile
