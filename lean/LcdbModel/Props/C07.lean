/-
  C07 -- iterators give a consistent, ordered, complete view in both directions.
  The theorems live in Props/IterProps.lean (merging iterator, db_iter.c, composition over a database state)
  and Props/BlockProps.lean (block iterator, seek helpers); `checks/C07.py` imports and builds this module.
-/
import LcdbModel.Props.IterProps
import LcdbModel.Props.BlockProps
