/-
  End to end from the public entry points of version_set.c / db_impl.c:
  `pick_compaction` and `compact_range` (selection) + the work loop + any cut of its output into fresh files
  keep `Inv`, `NoSeqTies` and every view from the smallest protected sequence on; the flush of the immutable
  memtable to the level chosen by `pick_level_for_memtable_output` (or to level 0) keeps `Inv` and every view.
-/
import LcdbModel.Props.CompactionCapstone
namespace Lcdb.Compaction
open Lcdb Lcdb.Policy

/-- (1) automatic compactions: whatever `pick_compaction` selects, compacted by the work loop with a smallest
    snapshot `sm ≤ smallestProtected st`, its output cut anyhow into files with fresh numbers -/
theorem pickCompaction_full_preserves (c : Cmp) (st : DbState) (hinv : Inv c st) (hnt : NoSeqTies c st)
    (mfs : Nat) (sizeLevel : Option Nat) (seek : Option (Nat × FileMeta)) (cp : Option IKey)
    (level : Nat) (s : Setup)
    (hseek : sizeLevel = none → ∀ l f, seek = some (l, f) → f ∈ st.level l)
    (h : pickCompaction c mfs st.levels sizeLevel seek cp = some (some (level, s)))
    (sm : Nat) (hsm : sm ≤ smallestProtected st) (outs : List FileMeta)
    (hcut : IsCut (expectedOutput c st level (pickNums (st.level level) (s.in0.map (·.num)))
      (pickNums (st.level (level + 1)) (s.in1.map (·.num))) sm) outs)
    (hfresh : ∀ f ∈ outs, st.nextFile ≤ f.num) (hnums : outs.Pairwise (fun f g => f.num ≠ g.num)) :
    Inv c (applyStep c st (.compact level (s.in0.map (·.num)) (s.in1.map (·.num)) outs)) ∧
    NoSeqTies c (applyStep c st (.compact level (s.in0.map (·.num)) (s.in1.map (·.num)) outs)) ∧
    ∀ k q, smallestProtected st ≤ q →
      view c (allEntries (applyStep c st (.compact level (s.in0.map (·.num)) (s.in1.map (·.num)) outs))) k q =
        view c (allEntries st) k q := by
  obtain ⟨seed, hseed, hs⟩ := pickCompaction_seed (boundsOk_of_inv hinv) hseek h
  exact mechanism_full_preserves c st hinv hnt mfs level seed s hseed hs sm hsm outs hcut hfresh hnums

/-- (2) manual compactions: the same for whatever `compact_range` selects -/
theorem compactRange_full_preserves (c : Cmp) (st : DbState) (hinv : Inv c st) (hnt : NoSeqTies c st)
    (mfs level : Nat) (b e : Option IKey) (s : Setup)
    (h : compactRange c mfs st.levels level b e = some (some s))
    (sm : Nat) (hsm : sm ≤ smallestProtected st) (outs : List FileMeta)
    (hcut : IsCut (expectedOutput c st level (pickNums (st.level level) (s.in0.map (·.num)))
      (pickNums (st.level (level + 1)) (s.in1.map (·.num))) sm) outs)
    (hfresh : ∀ f ∈ outs, st.nextFile ≤ f.num) (hnums : outs.Pairwise (fun f g => f.num ≠ g.num)) :
    Inv c (applyStep c st (.compact level (s.in0.map (·.num)) (s.in1.map (·.num)) outs)) ∧
    NoSeqTies c (applyStep c st (.compact level (s.in0.map (·.num)) (s.in1.map (·.num)) outs)) ∧
    ∀ k q, smallestProtected st ≤ q →
      view c (allEntries (applyStep c st (.compact level (s.in0.map (·.num)) (s.in1.map (·.num)) outs))) k q =
        view c (allEntries st) k q := by
  obtain ⟨seed, hseed, hs⟩ := compactRange_seed (hinv.levelsSorted level) (boundsOk_of_inv hinv level) h
  exact mechanism_full_preserves c st hinv hnt mfs level seed s hseed hs sm hsm outs hcut hfresh hnums

def IsTableOf (r : Run) (f : FileMeta) : Prop :=
  f.run = r ∧ (∀ e ∈ r.head?, e.ukey = f.sk ∧ e.packed = f.sp) ∧ (∀ e ∈ r.getLast?, e.ukey = f.lk ∧ e.packed = f.lp)

instance (r : Run) (f : FileMeta) : Decidable (IsTableOf r f) := by unfold IsTableOf; infer_instance

theorem flush_fileOk {c : Cmp} {st : DbState} (hinv : Inv c st) {r : Run} {f : FileMeta}
    (himm : st.imm = some r) (hne : r ≠ []) (ht : IsTableOf r f) : st.imm = some f.run ∧ FileOk c f := by
  obtain ⟨h1, h2, h3⟩ := ht
  refine ⟨by rw [h1]; exact himm, ?_, ?_, ?_, ?_⟩
  · rw [h1]; exact hinv.immSorted r (by simp [himm])
  · rw [h1]; exact hne
  · rw [h1]; exact h2
  · rw [h1]; exact h3

theorem flush_preserves_of_stepOk (c : Cmp) (st : DbState) (hinv : Inv c st) (hnt : NoSeqTies c st)
    (L : Nat) (f : FileMeta) (hok : stepOk c st (.flush L f)) :
    Inv c (applyStep c st (.flush L f)) ∧ NoSeqTies c (applyStep c st (.flush L f)) ∧
    ∀ k q, view c (allEntries (applyStep c st (.flush L f))) k q = view c (allEntries st) k q :=
  ⟨C14.step_preserves_inv c st _ hinv hok, C06.step_preserves_noSeqTies c st _ hinv hnt hok,
    fun k q => C06.flush_preserves_view c st L f hinv hnt hok k q⟩

/-- (3) the flush of the immutable memtable to the level `pick_level_for_memtable_output` chooses -/
theorem flush_full_preserves (c : Cmp) (st : DbState) (hinv : Inv c st) (hnt : NoSeqTies c st)
    (hp : ∀ l, PackedOk (st.level l)) (mfs : Nat) (r : Run) (f : FileMeta) (L : Nat)
    (himm : st.imm = some r) (hne : r ≠ []) (ht : IsTableOf r f) (hnum : st.nextFile ≤ f.num)
    (hL : pickLevel c st.levels mfs f.sk f.lk = some L) :
    stepOk c st (.flush L f) ∧
    Inv c (applyStep c st (.flush L f)) ∧ NoSeqTies c (applyStep c st (.flush L f)) ∧
    ∀ k q, view c (allEntries (applyStep c st (.flush L f))) k q = view c (allEntries st) k q := by
  obtain ⟨L', h1, _, h3, h4⟩ := pickLevel_establishes_flush_clause c st hinv hp mfs f
  rw [hL] at h1
  have hLL : L = L' := Option.some.inj h1
  subst hLL
  obtain ⟨g1, g2⟩ := flush_fileOk (c := c) hinv himm hne ht
  have hok : stepOk c st (.flush L f) := ⟨g1, g2, h3, hnum, h4⟩
  exact ⟨hok, flush_preserves_of_stepOk c st hinv hnt L f hok⟩

/-- (3') the variant to level 0 (inline flush without level choice / recovery): no overlap condition at all -/
theorem flush0_full_preserves (c : Cmp) (st : DbState) (hinv : Inv c st) (hnt : NoSeqTies c st)
    (r : Run) (f : FileMeta) (himm : st.imm = some r) (hne : r ≠ []) (ht : IsTableOf r f)
    (hnum : st.nextFile ≤ f.num) :
    stepOk c st (.flush 0 f) ∧
    Inv c (applyStep c st (.flush 0 f)) ∧ NoSeqTies c (applyStep c st (.flush 0 f)) ∧
    ∀ k q, view c (allEntries (applyStep c st (.flush 0 f))) k q = view c (allEntries st) k q := by
  obtain ⟨g1, g2⟩ := flush_fileOk (c := c) hinv himm hne ht
  have hok : stepOk c st (.flush 0 f) := ⟨g1, g2, by decide, hnum, fun _ _ h => absurd rfl h⟩
  exact ⟨hok, flush_preserves_of_stepOk c st hinv hnt 0 f hok⟩

/-! non-vacuity: the states of `Props/C14.lean` — `stB`'s immutable memtable `[(k5, 9)]` overlaps nothing and is
    pushed to level 2; `stA`'s `[(k2, 9, del), (k3, 8)]` overlaps level 0 and stays there.  `max_file_size` is 2097152, the
    2 MiB default of `ldb_dbopt_default`. -/
namespace ExFlush
open Lcdb.C14.Ex Lcdb.C06.Ex

theorem packedOk_of_range {st : DbState} (hn : st.levels.length = 7)
    (h7 : ∀ l ∈ List.range 7, PackedOk (st.level l)) : ∀ l, PackedOk (st.level l) :=
  Policy.packedOk_of_range hn h7

theorem pickB : pickLevel .bytewise stB.levels 2097152 g7b.sk g7b.lk = some 2 := by decide +kernel
theorem pickA : pickLevel .bytewise stA.levels 2097152 g7.sk g7.lk = some 0 := by decide +kernel

example : pickLevel .bytewise stB.levels 2097152 g7b.sk g7b.lk = some 2 ∧
    pickLevel .bytewise stA.levels 2097152 g7.sk g7.lk = some 0 := ⟨pickB, pickA⟩

example : stepOk .bytewise stB (.flush 2 g7b) ∧ Inv .bytewise (applyStep .bytewise stB (.flush 2 g7b)) ∧
    NoSeqTies .bytewise (applyStep .bytewise stB (.flush 2 g7b)) ∧
    ∀ k q, view .bytewise (allEntries (applyStep .bytewise stB (.flush 2 g7b))) k q =
      view .bytewise (allEntries stB) k q :=
  flush_full_preserves .bytewise stB invB ntB (packedOk_of_range (by decide +kernel) (by decide +kernel)) 2097152
    [⟨k5, 9, 1, "q"⟩] g7b 2 (by decide +kernel) (by decide +kernel) (by decide +kernel) (by decide +kernel) pickB

example : stepOk .bytewise stA (.flush 0 g7) ∧ Inv .bytewise (applyStep .bytewise stA (.flush 0 g7)) ∧
    NoSeqTies .bytewise (applyStep .bytewise stA (.flush 0 g7)) ∧
    ∀ k q, view .bytewise (allEntries (applyStep .bytewise stA (.flush 0 g7))) k q =
      view .bytewise (allEntries stA) k q :=
  flush_full_preserves .bytewise stA invA ntA (packedOk_of_range (by decide +kernel) (by decide +kernel)) 2097152
    [⟨k2, 9, 0, ""⟩, ⟨k3, 8, 1, "i"⟩] g7 0 (by decide +kernel) (by decide +kernel) (by decide +kernel) (by decide +kernel) pickA

example : stepOk .bytewise stB (.flush 0 g7b) ∧ Inv .bytewise (applyStep .bytewise stB (.flush 0 g7b)) ∧
    NoSeqTies .bytewise (applyStep .bytewise stB (.flush 0 g7b)) ∧
    ∀ k q, view .bytewise (allEntries (applyStep .bytewise stB (.flush 0 g7b))) k q =
      view .bytewise (allEntries stB) k q :=
  flush0_full_preserves .bytewise stB invB ntB [⟨k5, 9, 1, "q"⟩] g7b (by decide +kernel) (by decide +kernel) (by decide +kernel) (by decide +kernel)

/-- (1)/(2) are not vacuous either: on `stE` (`Props/CompactionProps.lean`) the manual compaction of the whole
    key range of level 0 selects both level-0 files and the level-1 file -/
example : (compactRange .bytewise 2097152 Ex.stE.levels 0 none none).map (·.map fun s => (s.in0.map (·.num), s.in1.map (·.num)))
    = some (some ([5, 4], [3])) := by decide +kernel

end ExFlush

end Lcdb.Compaction
