/-
  C09 -- the write path neither deadlocks nor loses a wake-up.

  Statements about `Lcdb.Conc` (LcdbModel/Model/Conc.lean), for every schedule and every outcome of the data-dependent
  choices. `WF ws rs`: thread ids distinct (across writers and readers), batch ids distinct, nobody started.
-/
import LcdbModel.Lemmas.ConcDemo
import LcdbModel.Lemmas.ConcRank

namespace Lcdb.C09
open Lcdb.Conc

def queuedPc (p : WPc) : Prop :=
  p = .asleepW ∨ p = .wokenW ∨ p = .asleepBg ∨ p = .wokenBg ∨ p = .delayed ∨ p = .io

theorem queue_inv {ws : List Writer} {rs : List Reader} (hwf : WF ws rs) {st : St} (h : Reachable ws rs st) :
    st.queue.Nodup ∧
    (∀ t ∈ st.queue, ∃ w ∈ st.writers, w.tid = t) ∧
    -- on the queue iff in flight and not yet handed a result
    (∀ w ∈ st.writers, (w.tid ∈ st.queue ↔ queuedPc w.pc ∧ w.done = false)) ∧
    -- the group being written is a prefix of the queue, non-empty iff the head is doing its I/O
    st.inflight <+: st.queue ∧
    (st.inflight ≠ [] ↔ ∃ w ∈ st.writers, st.queue.head? = some w.tid ∧ w.pc = .io) ∧
    -- `done` is set only on writers a leader removed from the queue; they are woken (or, afterwards, have returned
    -- exactly the status they were handed)
    (∀ w ∈ st.writers, w.done = true → w.tid ∉ st.queue ∧ (w.pc = .wokenW ∨ w.pc = .returned w.status)) := by
  have H := (reachable_Inv hwf h).q
  refine ⟨H.qnodup, H.qmem, ?_, H.pfx, ?_, ?_⟩
  · intro w hw
    unfold queuedPc
    rcases (H.wq' hw).pos with ⟨hm, ⟨hp, _⟩ | ⟨_, hd⟩ | ⟨_, hp, _⟩⟩ | ⟨hp, hd, hm, _⟩ | ⟨hd, hh, ⟨hp, _⟩ | ⟨hp, _⟩⟩
    · simp [hp, hm]
    · simp [hd, hm]
    · simp [hp, hm]
    · simp [hp, hd, hm]
    · have := List.mem_of_mem_head? hh
      rcases hp with hp | hp | hp | hp <;> simp [hp, hd, this]
    · simp [hp, hd, List.mem_of_mem_head? hh]
  · constructor
    · intro hne
      cases hi : st.inflight with
      | nil => exact absurd hi hne
      | cons a l =>
        obtain ⟨r, hr⟩ := H.pfx
        have hq : st.queue.head? = some a := by rw [← hr, hi]; rfl
        obtain ⟨w, hw, hwt⟩ := H.qmem a (List.mem_of_mem_head? hq)
        exact ⟨w, hw, by rw [hwt]; exact hq, H.io_of_inflight hw (by simp) (by rw [hi, hwt]; rfl)⟩
    · rintro ⟨w, hw, _, hpc⟩ h0
      have := H.wq' hw
      simp [WQ, hpc, h0] at this
  · intro w hw hd
    rcases (H.wq' hw).pos with ⟨hm, ⟨_, h⟩ | ⟨hp, _⟩ | ⟨ok, hp, hs⟩⟩ | ⟨_, h, _, _⟩ | ⟨h, _, _⟩
    · rw [hd] at h; cases h
    · exact ⟨hm, Or.inl hp⟩
    · exact ⟨hm, Or.inr (by rw [hp, hs hd])⟩
    · rw [hd] at h; cases h
    · rw [hd] at h; cases h

/-- No lost wake-up: whoever sleeps on its own condition variable does not have to run yet, and the head of the
    queue never sleeps there. -/
theorem wakeup_inv {ws : List Writer} {rs : List Reader} (hwf : WF ws rs) {st : St} (h : Reachable ws rs st) :
    (∀ w ∈ st.writers, w.pc = .asleepW → st.queue.head? ≠ some w.tid ∧ w.done = false ∧ w.tid ∈ st.queue) ∧
    (∀ t, st.queue.head? = some t → ∃ w ∈ st.writers, w.tid = t ∧ w.done = false ∧
      (w.pc = .wokenW ∨ w.pc = .asleepBg ∨ w.pc = .wokenBg ∨ w.pc = .delayed ∨ w.pc = .io)) ∧
    -- consequently a woken writer that is not done is the head: the wait loop never goes back to sleep
    (∀ w ∈ st.writers, (w.pc = .wokenW ∨ w.pc = .wokenBg ∨ w.pc = .delayed) → w.done = false →
      st.queue.head? = some w.tid) := by
  have H := (reachable_Inv hwf h).q
  refine ⟨?_, ?_, ?_⟩
  · intro w hw hpc
    have := H.wq' hw
    simp only [WQ, hpc] at this
    exact ⟨this.2.2, this.1, this.2.1⟩
  · intro t ht
    obtain ⟨w, hw, rfl⟩ := H.qmem t (List.mem_of_mem_head? ht)
    refine ⟨w, hw, rfl, ?_⟩
    have hm := List.mem_of_mem_head? ht
    rcases (H.wq' hw).pos with ⟨h, _⟩ | ⟨_, _, _, h⟩ | ⟨hd, _, ⟨hp, _⟩ | ⟨hp, _⟩⟩
    · exact absurd hm h
    · exact absurd ht h
    · exact ⟨hd, by rcases hp with hp | hp | hp | hp <;> simp [hp]⟩
    · exact ⟨hd, by simp [hp]⟩
  · intro w hw hpc hd
    exact (H.woken_head hw hpc hd).1

/-- Background work: it is scheduled whenever it is needed, and whoever waits for it will be woken. -/
theorem bg_inv {ws : List Writer} {rs : List Reader} (hwf : WF ws rs) {st : St} (h : Reachable ws rs st) :
    (st.bgScheduled = true ↔ st.bg ≠ .parked) ∧
    ((st.imm = true ∨ st.needsCompaction = true) → st.bgError = false → st.shuttingDown = false →
      st.bgScheduled = true) ∧
    (∀ w ∈ st.writers, w.pc = .asleepBg → st.bgScheduled = true ∧ st.bgError = false) ∧
    (st.closer = .asleepBg → st.bgScheduled = true) ∧
    -- close is exclusive
    (st.shuttingDown = true → (∀ w ∈ st.writers, w.pc = .idle ∨ ∃ ok, w.pc = .returned ok) ∧
      (∀ r ∈ st.readers, r.pc = .idle ∨ ∃ s, r.pc = .returned s)) := by
  have H := (reachable_Inv hwf h).b
  exact ⟨H.sched, H.need, fun w hw => (H.wb w hw).1, H.closerB,
    fun hs => ⟨fun w hw => (H.wb w hw).2 hs, fun r hr => H.rb r hr hs⟩⟩

/-- some operation has been invoked and has not returned, or the background worker has a job -/
def InFlight (st : St) : Prop :=
  (∃ w ∈ st.writers, w.pc ≠ .idle ∧ ∀ ok, w.pc ≠ .returned ok) ∨
  (∃ r ∈ st.readers, r.pc ≠ .idle ∧ ∀ s, r.pc ≠ .returned s) ∨
  st.closer = .asleepBg ∨ st.closer = .wokenBg ∨ st.bg ≠ .parked

theorem enabled_wake_done {st : St} {w : Writer} (hg : getW st w.tid = some w)
    (hpc : w.pc = .wokenW ∨ w.pc = .wokenBg ∨ w.pc = .delayed) (hd : w.done = true) :
    ∃ st', step st (.wWake w.tid .fail) = some st' := by
  dsimp only [step]; rw [hg]; dsimp only
  rw [if_neg (by rcases hpc with h | h | h <;> simp [h]), if_pos hd, if_neg (by decide)]
  exact ⟨_, rfl⟩

theorem enabled_wake_head {st : St} {w : Writer} (hg : getW st w.tid = some w)
    (hpc : w.pc = .wokenW ∨ w.pc = .wokenBg ∨ w.pc = .delayed) (hd : w.done = false)
    (hh : st.queue.head? = some w.tid) :
    ∃ c st', step st (.wWake w.tid c) = some st' := by
  have hpc' : ¬ (w.pc != .wokenW && w.pc != .wokenBg && w.pc != .delayed) = true := by
    rcases hpc with h | h | h <;> simp [h]
  have key : ∀ c, step st (.wWake w.tid c) = headAct st w c := by
    intro c; dsimp only [step]; rw [hg]; dsimp only
    rw [if_neg hpc', if_neg (by rw [hd]; nofun), if_pos (beq_iff_eq.2 hh)]
  -- the head can always fail or wait: with a background error it fails; otherwise it waits for the flush if there is
  -- an immutable memtable, and may fail to create the new log file if there is none
  by_cases hE : st.bgError = true
  · exact ⟨.fail, failAct st w, (key _).trans (by unfold headAct; rw [if_pos hE, if_neg (by decide)])⟩
  · by_cases hi : st.imm = true
    · exact ⟨.waitFlush, _, (key _).trans (by unfold headAct; rw [if_neg hE]; dsimp only; rw [if_pos hi])⟩
    · exact ⟨.fail, _, (key _).trans (by unfold headAct; rw [if_neg hE]; dsimp only; rw [if_neg hi])⟩

theorem runnable {st : St} (l : Label) (hl : isInvocation l = false) (h : ∃ st', step st l = some st') :
    ∃ l st', isInvocation l = false ∧ step st l = some st' :=
  h.elim fun st' hs => ⟨l, st', hl, hs⟩

/-- No deadlock: while anything is in flight, some thread other than a new caller can take a step. -/
theorem no_deadlock {ws : List Writer} {rs : List Reader} (hwf : WF ws rs) {st : St} (h : Reachable ws rs st)
    (hf : InFlight st) : ∃ l st', isInvocation l = false ∧ step st l = some st' := by
  have H := reachable_Inv hwf h
  -- the worker can always run
  by_cases hbg' : st.bg ≠ .parked
  · cases hb : st.bg with
    | parked => exact absurd hb hbg'
    | posted => exact runnable .bgStart rfl (by simp [step, hb])
    | working => exact runnable (.bgFinish false) rfl (by simp [step, hb])
  have hbg : st.bg = .parked := by simpa using hbg'
  have hns : st.bgScheduled = false := by
    cases hs : st.bgScheduled with
    | false => rfl
    | true => exact absurd hbg (H.b.sched.1 hs)
  rcases hf with ⟨w, hw, hni, hnr⟩ | ⟨r, hr, hni, hnr⟩ | hc | hc | hc
  · -- a writer is in flight: either it has been handed its result and signalled, and can return, or it is queued and
    -- the head of the queue can run
    have hmem : w.tid ∈ st.queue ∨ ∃ st', step st (.wWake w.tid .fail) = some st' := by
      rcases (H.q.wq' hw).pos with ⟨_, ⟨hp, _⟩ | ⟨hp, hd⟩ | ⟨ok, hp, _⟩⟩ | ⟨_, _, hm, _⟩ | ⟨_, hh, _⟩
      · exact absurd hp hni
      · exact Or.inr (enabled_wake_done (getW_of_mem H.q.wnodup hw) (Or.inl hp) hd)
      · exact absurd hp (hnr ok)
      · exact Or.inl hm
      · exact Or.inl (List.mem_of_mem_head? hh)
    rcases hmem with hm | hs
    · obtain ⟨t, q, hq⟩ : ∃ t q, st.queue = t :: q := by
        cases hq : st.queue with
        | nil => rw [hq] at hm; cases hm
        | cons t q => exact ⟨t, q, rfl⟩
      have hh : st.queue.head? = some t := by rw [hq]; rfl
      obtain ⟨x, hx, rfl⟩ := H.q.qmem t (by rw [hq]; simp)
      have hgx := getW_of_mem H.q.wnodup hx
      have hxm : x.tid ∈ st.queue := List.mem_of_mem_head? hh
      rcases (H.q.wq' hx).pos with ⟨h, _⟩ | ⟨_, _, _, h⟩ | ⟨hd, _, ⟨hp, _⟩ | ⟨hp, hi⟩⟩
      · exact absurd hxm h
      · exact absurd hh h
      · have hpc : x.pc = .wokenW ∨ x.pc = .wokenBg ∨ x.pc = .delayed := by
          rcases hp with hp | hp | hp | hp
          · exact Or.inl hp
          · have := ((H.b.wb x hx).1 hp).1; rw [hns] at this; cases this
          · exact Or.inr (Or.inl hp)
          · exact Or.inr (Or.inr hp)
        obtain ⟨c, hs⟩ := enabled_wake_head hgx hpc hd hh
        exact runnable (.wWake x.tid c) rfl hs
      · exact runnable (.wCommit x.tid false) rfl (by simp [step, hgx, hp, hi])
    · exact runnable _ rfl hs
  · -- a reader is in flight
    have hgr := getR_of_mem H.l.rnodup hr
    cases hpc : r.pc with
    | idle => exact absurd hpc hni
    | reading s => exact runnable (.rRead r.tid) rfl (by simp [step, hgr, hpc])
    | releasing s => exact runnable (.rRelease r.tid false) rfl (by simp [step, hgr, hpc])
    | returned s => exact absurd hpc (hnr s)
  · have := H.b.closerB hc; rw [hns] at this; cases this
  · exact runnable .closeWake rfl (by simp [step, hc, hns])
  · exact absurd hbg hc

theorem not_inFlight_of_allDone {st : St} (hd : allDone st = true) (hb : st.bg = .parked) : ¬ InFlight st := by
  simp only [allDone, Bool.and_eq_true, List.all_eq_true, Bool.or_eq_true, beq_iff_eq] at hd
  obtain ⟨⟨hw, hr⟩, hc⟩ := hd
  rintro (⟨w, hw', h1, h2⟩ | ⟨r, hr', h1, h2⟩ | hc' | hc' | hc')
  · have := hw w hw'
    cases hpc : w.pc <;> simp [hpc] at this h1 h2
  · have := hr r hr'
    cases hpc : r.pc <;> simp [hpc] at this h1 h2
  · rw [hc'] at hc; simp at hc
  · rw [hc'] at hc; simp at hc
  · exact hc' hb

/-! `Lcdb.Conc.rank` is a weighted sum over: the writers (by program counter: `asleepW > wokenW = delayed > wokenBg >
asleepBg > io = woken-and-done > returned`, plus the delay a writer may still take), the readers, the closer, the worker
phase, `imm` and `bgError`. Every step that continues an operation makes it strictly smaller, except for the only two
kinds of steps that can repeat without bound, both of the background worker (`Lcdb.Conc.isSpin`):

* `bgStart`: the worker starts another round -- `bgFinish stillNeeds` reschedules it for as long as the (abstracted)
  data say that a compaction is needed or the immutable memtable is still there;
* `bgMid false _ false`: a critical section in the middle of the work that neither installs the flushed memtable nor
  records an error (with `bcast = true` it even wakes a stalled writer, which then stalls again).

These raise the rank by at most `#writers + 2`. (A woken writer that is not the head going back to sleep -- the third
candidate -- never happens at all: `wakeup_inv`.) -/

theorem rank_step {ws : List Writer} {rs : List Reader} (hwf : WF ws rs) {st st' : St} {l : Label}
    (h : Reachable ws rs st) (hs : step st l = some st') (hni : isInvocation l = false) :
    st'.writers.length = st.writers.length ∧
    (isSpin l = false → rank st' < rank st) ∧
    (isSpin l = true → rank st' ≤ rank st + (st.writers.length + 2)) := by
  obtain ⟨h1, h2, h3⟩ := rankWith_step (M := st.writers.length + 2) (U := st.writers.length + 4)
    (reachable_Inv hwf h) (Nat.le_refl _) (Nat.le_refl _) hs hni
  refine ⟨h1, fun hsp => ?_, fun hsp => ?_⟩
  · have := h3 hsp; unfold rank; rw [h1]; omega
  · have := h2 hsp; unfold rank; rw [h1]; omega

/-- a sequence of non-invocation steps is no longer than the rank of its first state plus `#writers + 3` per worker
    spin step in it -/
theorem run_bound {ws : List Writer} {rs : List Reader} (hwf : WF ws rs) {ls : List Label} :
    ∀ {st st' : St}, Reachable ws rs st → run st ls = some st' → (∀ l ∈ ls, isInvocation l = false) →
      ls.length + rank st' ≤ rank st + ls.countP isSpin * (st.writers.length + 3) := by
  induction ls with
  | nil => intro st st' _ hr _; cases hr; simp
  | cons l ls ih =>
    intro st st' h hr hni
    obtain ⟨st1, hs, hr⟩ := Option.bind_eq_some_iff.1 hr
    obtain ⟨hl, h1, h2⟩ := rank_step hwf h hs (hni l (by simp))
    have := ih (Reachable.step l h hs) hr (fun l' hl' => hni l' (by simp [hl']))
    rw [hl] at this
    simp only [List.length_cons, List.countP_cons]
    cases hsp : isSpin l with
    | false =>
      have := h1 hsp
      simp; omega
    | true =>
      have := h2 hsp
      simp only [if_true, Nat.add_mul, Nat.one_mul]; omega

/-- From any reachable state, a sequence of steps that continue operations in flight, in which the worker spins
    (`bgStart` or `bgMid false _ false`) at most `N` times, has bounded length; and when it cannot be extended (no
    such step is enabled in its last state) nothing is in flight any more. -/
theorem progress_partial {ws : List Writer} {rs : List Reader} (hwf : WF ws rs) {st : St} (h : Reachable ws rs st)
    (N : Nat) {ls : List Label} {st' : St} (hr : run st ls = some st') (hni : ∀ l ∈ ls, isInvocation l = false)
    (hN : ls.countP isSpin ≤ N) :
    ls.length ≤ rank st + N * (st.writers.length + 3) ∧
    ((∀ l st'', isInvocation l = false → step st' l ≠ some st'') → ¬ InFlight st') := by
  refine ⟨?_, ?_⟩
  · have := run_bound hwf h hr hni
    have := Nat.mul_le_mul_right (st.writers.length + 3) hN
    omega
  · intro hmax hf
    obtain ⟨l, st'', h1, h2⟩ := no_deadlock hwf (reachable_run h hr) hf
    exact hmax l st'' h1 h2

/-- Consequently there is no infinite sequence of such steps with at most `N` worker spins. -/
theorem no_infinite_run {ws : List Writer} {rs : List Reader} (hwf : WF ws rs) {st : St} (h : Reachable ws rs st)
    (N : Nat) (ls : Nat → Label) (sts : Nat → St) (h0 : sts 0 = st)
    (hstep : ∀ i, isInvocation (ls i) = false ∧ step (sts i) (ls i) = some (sts (i + 1)))
    (hN : ∀ n, ((List.range n).map ls).countP isSpin ≤ N) : False := by
  have hrun : ∀ n, run st ((List.range n).map ls) = some (sts n) := by
    intro n
    induction n with
    | zero => simp [run, h0]
    | succ n ih =>
      rw [List.range_succ, List.map_append]
      refine run_append ih ?_
      simp [run, (hstep n).2]
  have := (progress_partial hwf h N (hrun (rank st + N * (st.writers.length + 3) + 1))
    (by intro l hl; obtain ⟨i, _, rfl⟩ := List.mem_map.1 hl; exact (hstep i).1) (hN _)).1
  simp only [List.length_map, List.length_range] at this
  omega

section Examples
open Lcdb.Conc.Demo

example : st1.queue.Nodup ∧ st2.inflight <+: st2.queue := by
  rw [st1_eq, st2_eq]; exact ⟨(queue_inv wf reach1).1, (queue_inv wf reach2).2.2.2.1⟩
-- writer 3 sleeps on its own cv behind the head (2), which is asleep on the background cv, not on its own
example : ∃ w ∈ st1.writers, w.pc = .asleepW := by rw [st1_eq]; decide
example : ∃ w ∈ st1.writers, w.pc = .asleepBg ∧ st1.queue.head? = some w.tid := by rw [st1_eq]; decide
example : st1.bgScheduled = true := by
  rw [st1_eq]; exact ((bg_inv wf reach1).2.2.1 (s1.writers[1]'(by decide)) (List.getElem_mem _) rfl).1
-- in `st1` both writers in flight are asleep; the worker can run (and reader 11 can release its snapshot)
example : InFlight st1 := Or.inl (by rw [st1_eq]; decide)
example : ∃ l st', isInvocation l = false ∧ step st1 l = some st' := by
  rw [st1_eq]; exact no_deadlock wf reach1 (Or.inl (by decide))
-- in `st2` writer 2 is writing its group; at the end of the run nothing is in flight
example : InFlight st2 ∧ ¬ InFlight st3 := by
  exact ⟨Or.inl (by rw [st2_eq]; decide), not_inFlight_of_allDone (by rw [st3_eq]; decide) (by rw [st3_eq]; decide)⟩

-- which labels are worker spins; the five steps of the demo run from `st2` up to `close` contain none, so
-- `progress_partial` bounds their number by `rank st2` alone
example : isSpin .bgStart = true ∧ isSpin (.bgMid false true false) = true ∧ isSpin (.bgMid true false false) = false ∧
    isSpin (.bgFinish true) = false := by decide
example : ∃ st4, run st2 [.wCommit 2 false, .rRelease 11 false, .wWake 3 .fail, .rRead 12, .rRelease 12 true] = some st4 ∧
    [Label.wCommit 2 false, .rRelease 11 false, .wWake 3 .fail, .rRead 12, .rRelease 12 true].length ≤
      rank st2 + 0 * (st2.writers.length + 3) := by
  rw [st2_eq]
  exact ⟨_, rfl, (progress_partial wf reach2 0 rfl (by decide) (by decide)).1⟩
example : rank st2 = 60 ∧ rank st3 = 31 := by rw [st2_eq, st3_eq]; decide

end Examples

end Lcdb.C09
