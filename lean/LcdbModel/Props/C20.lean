/-
  C20: file-name grammar of `ldb_parse_filename`.

  `OwnedName s ty n` (LcdbModel/Lemmas/FileName.lean) is the grammar, phrased over `s.toList`:
    "CURRENT" (.current,0) | "LOCK" (.lock,0) | "LOG" | "LOG.old" (.info,0)
    | "MANIFEST-" ds (.desc,n) | ds ".log" (.log,n) | ds ".sst" | ds ".ldb" (.table,n)
    | ds ".dbtmp" (.temp,n)          with `digitsVal ds = some n`
  where `digitsVal ds` is `none` if `ds` is empty, contains a non-digit or has value ≥ 2^64
  and the decimal value otherwise (leading zeros allowed).
-/
import LcdbModel.Lemmas.FileName
namespace Lcdb.C20
open Lcdb

theorem parse_sound {s : String} {ty : FileType} {n : Nat}
    (h : parseFileName s = some (ty, n)) : OwnedName s ty n :=
  parseChars_sound (parseFileName_eq_parseChars s ▸ h)

theorem parse_complete {s : String} {ty : FileType} {n : Nat}
    (h : OwnedName s ty n) : parseFileName s = some (ty, n) :=
  parseFileName_eq_parseChars s ▸ parseChars_complete h

theorem parse_grammar (s : String) (ty : FileType) (n : Nat) :
    parseFileName s = some (ty, n) ↔ OwnedName s ty n :=
  ⟨parse_sound, parse_complete⟩

theorem OwnedName.lt {s : String} {ty : FileType} {n : Nat} (h : OwnedName s ty n) :
    n < 2 ^ 64 := by
  unfold OwnedName at h
  generalize s.toList = cs at h
  cases h with
  | current | lock | info | infoOld => decide
  | desc _ _ hv | log _ _ hv | sst _ _ hv | ldb _ _ hv | temp _ _ hv =>
    exact (digitsVal_eq_some_iff.1 hv).2.2.2

theorem OwnedName.unique {s : String} {ty ty' : FileType} {n n' : Nat}
    (h : OwnedName s ty n) (h' : OwnedName s ty' n') : ty = ty' ∧ n = n' := by
  have := (parse_complete h).symm.trans (parse_complete h')
  simpa using this

example : OwnedName "00012.log" .log 12 := parse_sound (by decide +kernel)
example : OwnedName "MANIFEST-000005" .desc 5 := parse_sound (by decide +kernel)
example : parseFileName "CURRENT" = some (.current, 0) := by decide +kernel
example : parseFileName "LOCK" = some (.lock, 0) := by decide +kernel
example : parseFileName "LOG" = some (.info, 0) := by decide +kernel
example : parseFileName "LOG.old" = some (.info, 0) := by decide +kernel
example : parseFileName "MANIFEST-" = none := by decide +kernel
example : parseFileName "MANIFEST-5x" = none := by decide +kernel
example : parseFileName "MANIFEST-5.log" = none := by decide +kernel
example : parseFileName "MANIFEST-18446744073709551615" = some (.desc, 2 ^ 64 - 1) := by decide +kernel
example : parseFileName "MANIFEST-18446744073709551616" = none := by decide +kernel
example : parseFileName "18446744073709551615.log" = some (.log, 2 ^ 64 - 1) := by decide +kernel
example : parseFileName "18446744073709551616.log" = none := by decide +kernel
example : parseFileName "00012.log" = some (.log, 12) := by decide +kernel
example : parseFileName "7.sst" = some (.table, 7) := by decide +kernel
example : parseFileName "7.ldb" = some (.table, 7) := by decide +kernel
example : parseFileName "7.dbtmp" = some (.temp, 7) := by decide +kernel
example : parseFileName ".log" = none := by decide +kernel
example : parseFileName "7.logx" = none := by decide +kernel
example : parseFileName ":.log" = none := by decide +kernel   -- ':' is '9' + 1
example : parseFileName "/.log" = none := by decide +kernel   -- '/' is '0' - 1
example : digitsVal "18446744073709551615".toList = some (2 ^ 64 - 1) := by decide +kernel
example : digitsVal "18446744073709551616".toList = none := by decide +kernel
example : digitsVal [] = none := by decide +kernel
example : digitsVal "12a".toList = none := by decide +kernel

theorem parseFileName_none_of_not_owned {s : String}
    (h : ∀ ty n, ¬ OwnedName s ty n) : parseFileName s = none := by
  cases hp : parseFileName s with
  | none => rfl
  | some r => exact absurd (parse_sound (ty := r.1) (n := r.2) hp) (h r.1 r.2)

example : ∀ ty n, ¬ OwnedName "foo.txt" ty n := by
  intro ty n h
  have := parse_complete h
  have hp : parseFileName "foo.txt" = none := by decide +kernel
  rw [hp] at this; cases this

theorem parse_foreign_untouched {s : String} (h : '/' ∈ s.toList) : parseFileName s = none :=
  parseFileName_none_of_not_owned fun _ _ ho => OwnedChars.slash_not_mem ho h

example : '/' ∈ "sub/000001.log".toList := by decide +kernel

theorem makeName_parse {n : Nat} (hn : n < 2 ^ 64) :
    parseFileName (fileNumStr n ++ ".log") = some (.log, n) ∧
    parseFileName (fileNumStr n ++ ".ldb") = some (.table, n) ∧
    parseFileName (fileNumStr n ++ ".sst") = some (.table, n) ∧
    parseFileName (fileNumStr n ++ ".dbtmp") = some (.temp, n) ∧
    parseFileName ("MANIFEST-" ++ fileNumStr n) = some (.desc, n) := by
  have hv := digitsVal_fileNumChars hn
  refine ⟨parse_complete ?_, parse_complete ?_, parse_complete ?_, parse_complete ?_,
    parse_complete ?_⟩ <;> rw [OwnedName, String.toList_append, fileNumStr_toList]
  · exact .log _ _ hv
  · exact .ldb _ _ hv
  · exact .sst _ _ hv
  · exact .temp _ _ hv
  · exact .desc _ _ hv

-- `fileNumStr` really is "%06llu"
example : fileNumStr 0 = "000000" := by decide +kernel
example : fileNumStr 5 = "000005" := by decide +kernel
example : fileNumStr 123456 = "123456" := by decide +kernel
example : fileNumStr 1234567 = "1234567" := by decide +kernel
example : fileNumStr (2 ^ 64 - 1) = "18446744073709551615" := by decide +kernel
example : parseFileName (fileNumStr 42 ++ ".log") = some (.log, 42) := (makeName_parse (by decide)).1

end Lcdb.C20
