/-
  Table blocks (src/table/block_builder.c, src/table/block.c and the seek
  helpers of src/table/iterator.c), over the model in LcdbModel/Model/Block.lean.
  `blockIter_no_fault` is C18 for blocks.  The special cases after `blockIter_is_cursor` are the
  cursor's answer (Lemmas/Cursor.lean) carried over by it, those after `blockIter_first_next`
  through `blockIter_snoc`.
-/
import LcdbModel.Lemmas.BlockIter
import LcdbModel.Lemmas.BlockBuild
import LcdbModel.Lemmas.BlockSafety
import LcdbModel.Lemmas.InternalKey
namespace Lcdb

/-- Decoding a built block entry by entry (with the very decoder the iterator uses: `first`, then
    `next` until invalid) gives back the entries.  Sizes below 2^32: every key and value, and the
    block as a whole (the C code stores lengths and offsets in `uint32_t`). -/
theorem block_roundtrip (interval : Nat) (es : List (Bytes × Bytes)) (h : 1 ≤ interval)
    (hk : ∀ e ∈ es, e.1.length < 2 ^ 32 ∧ e.2.length < 2 ^ 32)
    (hsz : (blockBuild interval es).length < 2 ^ 32) :
    blockParse (blockBuild interval es) = some es := by
  obtain ⟨hw, hes⟩ := blockBuild_wf interval es h hk hsz
  rw [hw.parse, hes]

/-- On arbitrary bytes, with any comparator, any sequence of operations on the iterator returned
    by ldb_blockiter_create runs to completion in the model: no read outside the buffer, no
    comparator call on an internal key shorter than 8 bytes, no NULL-slice arithmetic, and every
    loop (restart-index bump, backward scan, forward skip, binary search over a hostile restart
    array, linear search) finishes within its fuel.  (`next`/`prev` are only issued on a valid
    iterator, as the C code requires.) -/
theorem blockIter_no_fault (c : BlockCmp) (data : Bytes) (ops : List BlockOp) :
    (blockIterOps c).run ops (blockIterCreate data) ≠ none := by
  obtain ⟨it, h, _⟩ := block_no_fault c data ops
  rw [h]; exact Option.some_ne_none it

/-- the C code never resets the status, even when a later `first`/`seek` positions the iterator on
    a good entry -/
theorem blockIter_status_sticky (c : BlockCmp) (data : Bytes) (ops₁ ops₂ : List BlockOp)
    (it₁ it₂ : TIter) (h₁ : (blockIterOps c).run ops₁ (blockIterCreate data) = some it₁)
    (hs : it₁.status = .corrupt) (h₂ : (blockIterOps c).run ops₂ it₁ = some it₂) :
    it₂.status = .corrupt := by
  obtain ⟨it, h, hinv⟩ := block_no_fault c data ops₁
  rw [h₁] at h
  cases h
  exact status_sticky_run c ops₂ it₁ it₂ hinv hs h₂

structure BuiltOk (c : BlockCmp) (interval : Nat) (es : List (Bytes × Bytes)) : Prop where
  interval_pos : 1 ≤ interval
  sizes : ∀ e ∈ es, e.1.length < 2 ^ 32 ∧ e.2.length < 2 ^ 32
  total : (blockBuild interval es).length < 2 ^ 32
  laws : OrdLaws c.cmp
  sorted : SortedKeys c.cmp (es.map (·.1))
  ikeys : c.internal = true → ∀ e ∈ es, 8 ≤ e.1.length

/-- an internal-key comparator needs 8 bytes; shorter targets make ldb_blockiter_seek flag
    corruption, see `blockIter_no_fault` for those -/
def OpsOk (c : BlockCmp) (ops : List BlockOp) : Prop :=
  ∀ op ∈ ops, ∀ x, op.target? = some x → c.internal = true → 8 ≤ x.length

def OnPos (es : List (Bytes × Bytes)) (it : TIter) : Option Nat → Prop
  | none => it.valid = false
  | some i => ∃ h : i < es.length, it.valid = true ∧ it.key = es[i].1 ∧ it.value = es[i].2

/-- After ANY sequence of operations (with targets the comparator can handle) the block iterator
    over `blockBuild interval es` has not faulted, has not flagged corruption, and stands exactly
    where the reference cursor over the sorted list `es` stands after the same operations. -/
theorem blockIter_is_cursor (c : BlockCmp) (interval : Nat) (es : List (Bytes × Bytes))
    (h : BuiltOk c interval es) (ops : List BlockOp) (hops : OpsOk c ops) :
    ∃ it p, (blockIterOps c).run ops (blockIterCreate (blockBuild interval es)) = some it ∧
      (cursorOps c.cmp (es.map (·.1))).run ops none = some p ∧
      it.status = .ok ∧ OnPos es it p := by
  obtain ⟨hw, hes⟩ := blockBuild_wf interval es h.interval_pos h.sizes h.total
  obtain ⟨it, p, h1, h2, hr⟩ :=
    (hw.sim_entries hes c h.laws h.sorted h.ikeys).run ops hops _ _ hw.create
  obtain ⟨hst, hv, hat⟩ := hr.obs hw hes
  refine ⟨it, p, h1, h2, hst, ?_⟩
  cases p with
  | none => exact hv
  | some i => obtain ⟨hi, hk⟩ := hat i rfl; exact ⟨hi, hv, hk⟩

theorem blockIter_snoc (c : BlockCmp) (interval : Nat) (es : List (Bytes × Bytes))
    (h : BuiltOk c interval es) (ops : List BlockOp) (hops : OpsOk c ops) (op : BlockOp)
    (hop : ∀ x, op.target? = some x → c.internal = true → 8 ≤ x.length) (q p : Option Nat)
    (hq : (cursorOps c.cmp (es.map (·.1))).run ops none = some q)
    (hp : (cursorOps c.cmp (es.map (·.1))).apply op q = some p) :
    ∃ it, (blockIterOps c).run (ops ++ [op]) (blockIterCreate (blockBuild interval es)) = some it ∧
      it.status = .ok ∧ OnPos es it p := by
  have hops' : OpsOk c (ops ++ [op]) := by
    intro op' hop' x hx
    rcases List.mem_append.mp hop' with hop' | hop'
    · exact hops op' hop' x hx
    · rw [List.mem_singleton.mp hop'] at hx; exact hop x hx
  obtain ⟨it, p', h1, h2, hst, hpos⟩ := blockIter_is_cursor c interval es h _ hops'
  simp only [IterOps.run_append, hq, Option.bind_some, IterOps.run, hp, Option.some.injEq] at h2
  subst h2
  exact ⟨it, h1, hst, hpos⟩

theorem blockIter_first_next (c : BlockCmp) (interval : Nat) (es : List (Bytes × Bytes))
    (h : BuiltOk c interval es) (k : Nat) :
    ∃ it, (blockIterOps c).run (.first :: List.replicate k .next)
            (blockIterCreate (blockBuild interval es)) = some it ∧
      it.status = .ok ∧ OnPos es it (if k < es.length then some k else none) := by
  have hops : OpsOk c (.first :: List.replicate k .next) := by
    intro op hop x hx
    simp only [List.mem_cons, List.mem_replicate] at hop
    rcases hop with rfl | ⟨_, rfl⟩ <;> cases hx
  obtain ⟨it, p, h1, h2, hst, hp⟩ := blockIter_is_cursor c interval es h _ hops
  rw [cursor_first_next, List.length_map] at h2
  cases h2
  exact ⟨it, h1, hst, hp⟩

theorem blockIter_seek_first_ge (c : BlockCmp) (interval : Nat) (es : List (Bytes × Bytes))
    (h : BuiltOk c interval es) (ops : List BlockOp) (hops : OpsOk c ops) (t : Bytes)
    (ht : c.internal = true → 8 ≤ t.length) :
    ∃ it, (blockIterOps c).run (ops ++ [.seek t]) (blockIterCreate (blockBuild interval es)) = some it ∧
      it.status = .ok ∧
      OnPos es it ((es.map (·.1)).findIdx? (fun k => c.cmp k t != .lt)) := by
  obtain ⟨_, q, _, hq, _⟩ := blockIter_is_cursor c interval es h ops hops
  exact blockIter_snoc c interval es h ops hops (.seek t) (fun x hx => by cases hx; exact ht) q _ hq rfl

/-- the four seek helpers of iterator.c on the block iterator land where the sorted list dictates -/
theorem blockIter_seek_helpers (c : BlockCmp) (interval : Nat) (es : List (Bytes × Bytes))
    (h : BuiltOk c interval es) (ops : List BlockOp) (hops : OpsOk c ops) (t : Bytes)
    (ht : c.internal = true → 8 ≤ t.length) (op : BlockOp) (target : Option Nat)
    (hop : (op = .seekGE t ∧ target = (es.map (·.1)).findIdx? (fun k => c.cmp k t != .lt)) ∨
           (op = .seekGT t ∧ target = (es.map (·.1)).findIdx? (fun k => c.cmp k t == .gt)) ∨
           (op = .seekLE t ∧ target = lastIdx (fun k => c.cmp k t != .gt) (es.map (·.1))) ∨
           (op = .seekLT t ∧ target = lastIdx (fun k => c.cmp k t == .lt) (es.map (·.1)))) :
    ∃ it, (blockIterOps c).run (ops ++ [op]) (blockIterCreate (blockBuild interval es)) = some it ∧
      it.status = .ok ∧ OnPos es it target := by
  obtain ⟨_, q, _, hq, _⟩ := blockIter_is_cursor c interval es h ops hops
  obtain ⟨hge, hgt, hle, hlt⟩ := seek_helpers_spec c.cmp h.laws (es.map (·.1)) h.sorted t q
  have hx : ∀ x, some t = some x → c.internal = true → 8 ≤ x.length := fun x hx => by cases hx; exact ht
  rcases hop with ⟨rfl, rfl⟩ | ⟨rfl, rfl⟩ | ⟨rfl, rfl⟩ | ⟨rfl, rfl⟩
  · exact blockIter_snoc c interval es h ops hops (.seekGE t) hx q _ hq hge
  · exact blockIter_snoc c interval es h ops hops (.seekGT t) hx q _ hq hgt
  · exact blockIter_snoc c interval es h ops hops (.seekLE t) hx q _ hq hle
  · exact blockIter_snoc c interval es h ops hops (.seekLT t) hx q _ hq hlt

theorem blockIter_prev (c : BlockCmp) (interval : Nat) (es : List (Bytes × Bytes))
    (h : BuiltOk c interval es) (ops : List BlockOp) (hops : OpsOk c ops) (k : Nat)
    (hreach : (cursorOps c.cmp (es.map (·.1))).run ops none = some (some (k + 1))) :
    ∃ it, (blockIterOps c).run (ops ++ [.prev]) (blockIterCreate (blockBuild interval es)) = some it ∧
      it.status = .ok ∧ OnPos es it (some k) :=
  blockIter_snoc c interval es h ops hops .prev (fun _ hx => nomatch hx) _ _ hreach rfl

theorem blockIter_prev_first (c : BlockCmp) (interval : Nat) (es : List (Bytes × Bytes))
    (h : BuiltOk c interval es) (ops : List BlockOp) (hops : OpsOk c ops)
    (hreach : (cursorOps c.cmp (es.map (·.1))).run ops none = some (some 0)) :
    ∃ it, (blockIterOps c).run (ops ++ [.prev]) (blockIterCreate (blockBuild interval es)) = some it ∧
      it.status = .ok ∧ it.valid = false :=
  blockIter_snoc c interval es h ops hops .prev (fun _ hx => nomatch hx) _ none hreach rfl

def exampleEntries : List (Bytes × Bytes) := [([1], [2]), ([1, 2], [3, 4]), ([2], [])]

theorem example_builtOk : BuiltOk bytewiseBlockCmp 2 exampleEntries :=
  { interval_pos := by decide
    sizes := by decide
    total := blockBuild_small 2 _ (by decide) (by decide)
    laws := ordLaws_bytesCmp
    sorted := by simp [SortedKeys, exampleEntries, bytewiseBlockCmp]; decide
    ikeys := by intro h; simp [bytewiseBlockCmp] at h }

example : blockParse (blockBuild 2 exampleEntries) = some exampleEntries :=
  block_roundtrip 2 _ (by decide) (by decide) (blockBuild_small 2 _ (by decide) (by decide))

example : ∃ it, (blockIterOps bytewiseBlockCmp).run [.first, .next]
      (blockIterCreate (blockBuild 2 exampleEntries)) = some it ∧
    it.valid = true ∧ it.key = [1, 2] ∧ it.value = [3, 4] := by
  obtain ⟨it, h1, _, hp⟩ := blockIter_first_next bytewiseBlockCmp 2 exampleEntries example_builtOk 1
  have : (1 : Nat) < exampleEntries.length := by decide
  simp only [this, if_true] at hp
  obtain ⟨_, hv, hk, hval⟩ := hp
  exact ⟨it, h1, hv, hk, hval⟩

example : ∃ it, (blockIterOps bytewiseBlockCmp).run [.seek [1, 1]]
      (blockIterCreate (blockBuild 2 exampleEntries)) = some it ∧
    it.valid = true ∧ it.key = [1, 2] := by
  obtain ⟨it, h1, _, hp⟩ := blockIter_seek_first_ge bytewiseBlockCmp 2 exampleEntries example_builtOk []
    (by intro op hop; simp at hop) [1, 1] (by intro h; simp [bytewiseBlockCmp] at h)
  have : (exampleEntries.map (·.1)).findIdx? (fun k => bytewiseBlockCmp.cmp k [1, 1] != .lt) = some 1 := by
    decide
  rw [this] at hp
  obtain ⟨_, hv, hk, _⟩ := hp
  exact ⟨it, h1, hv, hk⟩

/-- internal keys (user key ‖ 8-byte trailer), ldb_ikc_init over the bytewise comparator:
    `BuiltOk` is satisfiable there (`example_builtOk_internal`) as it is for plain keys (`example_builtOk`) -/
def exampleIKeys : List (Bytes × Bytes) :=
  [([0x61, 2, 0, 0, 0, 0, 0, 0, 0], [1]), ([0x61, 1, 0, 0, 0, 0, 0, 0, 0], [2]),
   ([0x62, 1, 0, 0, 0, 0, 0, 0, 0], [])]

theorem example_builtOk_internal : BuiltOk (mkBlockCmp .bytewise true) 1 exampleIKeys :=
  { interval_pos := by decide
    sizes := by decide
    total := blockBuild_small 1 _ (by decide) (by decide)
    laws := ordLaws_mkBlockCmp .bytewise true
    sorted := by simp [SortedKeys, exampleIKeys, mkBlockCmp]; decide
    ikeys := by intro _; decide }

/-- a hostile block: restart count 2, the second restart entry pointing past the data
    (get_restart_point clamps it; a `seek` that probes it flags corruption) -/
example (ops : List BlockOp) :
    (blockIterOps bytewiseBlockCmp).run ops
      (blockIterCreate [0, 1, 1, 0x61, 0x62, 0, 0, 0, 0, 0xff, 0xff, 0xff, 0xff, 2, 0, 0, 0]) ≠ none :=
  blockIter_no_fault _ _ ops

end Lcdb
