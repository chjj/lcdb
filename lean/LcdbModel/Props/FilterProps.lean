/-
  The bloom filter, the filter block, the internal filter policy wrapper, the block handle and the
  footer; `filterConsts_ok` is the T1 obligation (Props/Consts.lean) for their constants
  (models: Model/Bloom.lean, Model/FilterBlock.lean, Model/TableFormat0.lean).
-/
import LcdbModel.Generated.Consts
import LcdbModel.Lemmas.Bloom
import LcdbModel.Lemmas.FilterBlock
import LcdbModel.Lemmas.TableFormat0
namespace Lcdb

theorem filterConsts_ok : Generated.filterBaseLg = filterBaseLg ∧ Generated.tableMagic = tableMagic ∧
    Generated.handleMaxLen = handleMaxLen ∧ Generated.footerSize = footerSize := by decide

/-- a filter is never shorter than 64 bits + 1 byte -/
theorem bloomBuild_length_ge (bits : Nat) (keys : List Bytes) : 9 ≤ (bloomBuild bits keys).length := by
  rw [bloomBuild_length]; have := bloomBytes_ge bits keys.length; omega

theorem bloomBuild_last (bits : Nat) (keys : List Bytes) :
    (bloomBuild bits keys).getLast? = some (UInt8.ofNat (bloomK bits)) ∧
      1 ≤ bloomK bits ∧ bloomK bits ≤ 30 := by
  refine ⟨?_, bloomK_le bits⟩
  unfold bloomBuild; simp

/-- No false negatives, for every key set (duplicates, empty keys, any size) and every
    `bits_per_key`: a key that was given to `bloom_build` is matched by `bloom_match`. -/
theorem bloom_no_false_negative (bits : Nat) (keys : List Bytes) (k : Bytes) (h : k ∈ keys) :
    bloomMatch (bloomBuild bits keys) k = true := by
  have hk := bloomK_le bits
  have hsz := bloomBitsArray_size bits keys
  have hge := bloomBytes_ge bits keys.length
  unfold bloomBuild
  rw [bloomMatch_snoc _ _ _ (by rw [Array.length_toList]; omega), UInt8.toNat_ofNat',
    Nat.mod_eq_of_lt (by omega), if_neg (by omega), Array.length_toList, bloomProbeGo_eq, List.all_eq_true]
  intro p hp
  have hlt := probes_byte_lt (by omega) hp
  rw [List.getD_eq_getElem?_getD, List.getElem?_append_left (by rw [Array.length_toList]; exact hlt),
    Array.getElem?_toList, ← Array.getD_eq_getD_getElem?]
  rw [hsz] at hp
  exact bloomBitsArray_probes h hp

example : bloomMatch (bloomBuild 10 [[1, 2, 3], [], [255, 255]]) [] = true :=
  bloom_no_false_negative 10 _ _ (by simp)

/-- reserved encodings (`k > 30` in the last byte) are treated as a match -/
theorem bloomMatch_reserved (filter key : Bytes) (hl : 2 ≤ filter.length)
    (hk : (filter.getD (filter.length - 1) 0).toNat > 30) : bloomMatch filter key = true := by
  unfold bloomMatch
  have : ¬ filter.length < 2 := by omega
  simp only [this, if_false]
  rw [if_pos hk]

theorem bloomMatch_short (filter key : Bytes) (hl : filter.length < 2) : bloomMatch filter key = false := by
  unfold bloomMatch; simp [hl]

theorem bloomPolicy_sound (bits : Nat) : (bloomPolicy bits).Sound :=
  fun keys k hk => bloom_no_false_negative bits keys k hk

/-- the internal-key wrapper keeps the guarantee (on user keys: the 8-byte trailer is stripped on
    both sides) -/
theorem ifpPolicy_sound (p : Policy) (h : p.Sound) : (ifpPolicy p).Sound := by
  intro keys k hk
  exact h (keys.map stripTrailer) (stripTrailer k) (List.mem_map_of_mem hk)

/-- two internal keys with the same user key get the same answer -/
theorem ifpPolicy_trailer_irrelevant (p : Policy) (filter k k' : Bytes)
    (h : stripTrailer k' = stripTrailer k) :
    (ifpPolicy p).mayMatch filter k' = (ifpPolicy p).mayMatch filter k := by
  simp only [ifpPolicy, h]

theorem stripTrailer_append (u t : Bytes) (ht : t.length = 8) : stripTrailer (u ++ t) = u := by
  unfold stripTrailer
  rw [List.length_append, ht, Nat.add_sub_cancel, List.take_left]

theorem filterMatch_congr (p : Policy) (contents : Bytes) (off : Nat) (k k' : Bytes)
    (h : ∀ f, p.mayMatch f k' = p.mayMatch f k) :
    filterMatch p contents off k' = filterMatch p contents off k := by
  unfold filterMatch FilterReader.mayMatch
  simp only [h]

/-- Every key is covered by the filter of its data block.  For a filter block built by the call
    sequence `(start_block(off) add_key*)* finish` with non-decreasing block offsets, using any
    policy without false negatives, `matches(off', key)` is true for every key added under block
    offset `off` and every `off'` in the same 2 KiB range (in particular `off' = off`).

    The size hypothesis is a genuine limit of the format: the array offset is stored in 32 bits. -/
theorem filter_covers_block (p : Policy) (hs : p.Sound) (blocks : List (Nat × List Bytes))
    (hsorted : List.Pairwise (fun a b => a.1 ≤ b.1) blocks)
    (hsize : (filterBuild p blocks).length < 2 ^ 32)
    (off : Nat) (keys : List Bytes) (hb : (off, keys) ∈ blocks) (key : Bytes) (hk : key ∈ keys)
    (off' : Nat) (hoff : off' / filterBase = off / filterBase) :
    filterMatch p (filterBuild p blocks) off' key = true := by
  obtain ⟨ks, hks, hmem⟩ := keySets_covers blocks hsorted (off, keys) hb key hk
  obtain ⟨hidx, rfl⟩ := List.getElem?_eq_some_iff.mp hks
  rw [filterBuild_eq] at hsize ⊢
  rw [layout_length] at hsize
  rw [filterMatch_layout p _ (by omega) (off / filterBase) (by rw [List.length_map]; exact hidx) off' hoff key,
    List.getElem_map, genFilter, if_neg fun h => by rw [List.isEmpty_iff.mp h] at hmem; cases hmem]
  exact hs _ _ hmem

theorem filter_covers_block_bloom (bits : Nat) (blocks : List (Nat × List Bytes))
    (hsorted : List.Pairwise (fun a b => a.1 ≤ b.1) blocks)
    (hsize : (filterBuild (bloomPolicy bits) blocks).length < 2 ^ 32)
    (off : Nat) (keys : List Bytes) (hb : (off, keys) ∈ blocks) (key : Bytes) (hk : key ∈ keys) :
    filterMatch (bloomPolicy bits) (filterBuild (bloomPolicy bits) blocks) off key = true :=
  filter_covers_block _ (bloomPolicy_sound bits) blocks hsorted hsize off keys hb key hk off rfl

/-- instance: the table's actual configuration, InternalFilterPolicy(bloom).  Keys are internal keys
    (user key ‖ 8-byte trailer); the probe may carry ANY trailer (a different sequence number / type). -/
theorem filter_covers_block_ifp (bits : Nat) (blocks : List (Nat × List Bytes))
    (hsorted : List.Pairwise (fun a b => a.1 ≤ b.1) blocks)
    (hsize : (filterBuild (ifpPolicy (bloomPolicy bits)) blocks).length < 2 ^ 32)
    (off : Nat) (keys : List Bytes) (hb : (off, keys) ∈ blocks) (ukey t t' : Bytes)
    (ht : t.length = 8) (ht' : t'.length = 8) (hk : ukey ++ t ∈ keys) :
    filterMatch (ifpPolicy (bloomPolicy bits)) (filterBuild (ifpPolicy (bloomPolicy bits)) blocks) off (ukey ++ t')
      = true := by
  have h := filter_covers_block _ (ifpPolicy_sound _ (bloomPolicy_sound bits)) blocks hsorted hsize
    off keys hb (ukey ++ t) hk off rfl
  rw [← h]
  apply filterMatch_congr
  intro f
  exact ifpPolicy_trailer_irrelevant _ f (ukey ++ t) (ukey ++ t')
    (by rw [stripTrailer_append _ _ ht, stripTrailer_append _ _ ht'])

example : filterMatch (bloomPolicy 10)
    (filterBuild (bloomPolicy 10) [(0, [[1], [2]]), (5000, [[3]]), (5100, [[4]])]) 5100 [4] = true :=
  filter_covers_block_bloom 10 _ (by simp) (by decide) 5100 [[4]] (by simp) [4] (by simp)

theorem filter_no_fault (bits : Nat) (contents : Bytes) (off : Nat) (key : Bytes) :
    filterMatchC (bloomPolicy bits) contents off key = some (filterMatch (bloomPolicy bits) contents off key) ∧
    filterMatchC (ifpPolicy (bloomPolicy bits)) contents off key
      = some (filterMatch (ifpPolicy (bloomPolicy bits)) contents off key) :=
  ⟨filterMatch_total _ (bloomPolicy_safe bits) _ _ _,
   filterMatch_total _ (ifpPolicy_safe _ (bloomPolicy_safe bits)) _ _ _⟩

/-- Errors are treated as potential matches: a `false` answer is only ever produced for an
    in-range filter index whose `[start, limit)` is a valid range rejected by the policy, or by
    the `start == limit` "empty filter" test.  Every malformed situation (block shorter than 5
    bytes, array offset beyond the block, index beyond the offset array, `start > limit`,
    `limit` beyond the array with `start ≠ limit`) answers `true`. -/
theorem filterMatch_false_only_if (p : Policy) (contents : Bytes) (off : Nat) (key : Bytes)
    (h : filterMatch p contents off key = false) :
    let fr := filterReaderInit contents
    let idx := off / 2 ^ fr.baseLg
    let start := fixed32At contents (fr.arrayOff + idx * 4)
    let limit := fixed32At contents (fr.arrayOff + idx * 4 + 4)
    5 ≤ contents.length ∧ idx < fr.num ∧
      ((start ≤ limit ∧ limit ≤ fr.arrayOff ∧ p.mayMatch ((contents.drop start).take (limit - start)) key = false)
        ∨ (start = limit ∧ fr.arrayOff < limit)) := by
  intro fr idx start limit
  unfold filterMatch FilterReader.mayMatch at h
  simp only at h
  obtain ⟨hdata, hwf⟩ := filterReaderInit_spec contents
  rw [hdata] at h
  split at h
  · next hidx =>
    refine ⟨?_, hidx, ?_⟩
    · rcases hwf with h0 | hb
      · rw [h0] at hidx; exact absurd hidx (Nat.not_lt_zero _)
      · rw [hdata] at hb; exact Nat.le_trans (Nat.le_add_left _ _) hb
    · split at h
      · next hc => exact Or.inl ⟨hc.1, hc.2, h⟩
      · next hc =>
        split at h
        · next he => exact Or.inr ⟨he, Nat.lt_of_not_le fun hle => hc ⟨Nat.le_of_eq he, hle⟩⟩
        · cases h
  · cases h

theorem filterMatch_short (p : Policy) (contents : Bytes) (off : Nat) (key : Bytes)
    (h : contents.length < 5) : filterMatch p contents off key = true := by
  cases hm : filterMatch p contents off key with
  | true => rfl
  | false => have := (filterMatch_false_only_if p contents off key hm).1; omega

theorem handle_length (h : BlockHandle) (ho : h.offset < 2 ^ 64) (hs : h.size < 2 ^ 64) :
    2 ≤ (handleEncode h).length ∧ (handleEncode h).length ≤ handleMaxLen :=
  ⟨handleEncode_length_pos h, handleEncode_length_le h ho hs⟩

def Footer.InRange (f : Footer) : Prop :=
  f.metaindex.offset < 2 ^ 64 ∧ f.metaindex.size < 2 ^ 64 ∧ f.index.offset < 2 ^ 64 ∧ f.index.size < 2 ^ 64

instance (f : Footer) : Decidable f.InRange := by unfold Footer.InRange; infer_instance

theorem footer_handles_le (f : Footer) (h : f.InRange) :
    (handleEncode f.metaindex ++ handleEncode f.index).length ≤ 2 * handleMaxLen := by
  have := handleEncode_length_le f.metaindex h.1 h.2.1
  have := handleEncode_length_le f.index h.2.2.1 h.2.2.2
  rw [List.length_append]; omega

theorem footer_length (f : Footer) (h : f.InRange) : (footerEncode f).length = 48 := by
  have hle := footer_handles_le f h
  unfold footerEncode
  simp only [List.length_append, List.length_replicate, fixedEnc_length]
  simp only [List.length_append, handleMaxLen] at hle ⊢
  omega

theorem footer_roundtrip (f : Footer) (h : f.InRange) (rest : Bytes) :
    footerRead (footerEncode f ++ rest) = some (f, rest) := by
  have hle := footer_handles_le f h
  unfold footerEncode
  exact footerRead_layout f _ rest h.1 h.2.1 h.2.2.1 h.2.2.2 (by rw [List.length_replicate]; omega)

theorem footerDecode_roundtrip (f : Footer) (h : f.InRange) : footerDecode (footerEncode f) = some f := by
  have := footer_roundtrip f h []
  rw [List.append_nil] at this
  unfold footerDecode; rw [this]; rfl

/-- The padding carries no information: replacing the bytes between the end of the second
    handle and offset 40 by ANY bytes of the same length does not change what the decoder returns. -/
theorem footer_padding_irrelevant (f : Footer) (h : f.InRange) (pad : Bytes)
    (hp : pad.length = 2 * handleMaxLen - (handleEncode f.metaindex ++ handleEncode f.index).length) :
    footerDecode (handleEncode f.metaindex ++ handleEncode f.index ++ pad ++ fixedEnc 8 tableMagic)
      = footerDecode (footerEncode f) := by
  have hle := footer_handles_le f h
  rw [footerDecode_roundtrip f h]
  have := footerRead_layout f pad [] h.1 h.2.1 h.2.2.1 h.2.2.2 (by omega)
  rw [List.append_nil] at this
  unfold footerDecode; rw [this]; rfl

theorem footer_padding_byte_irrelevant (f : Footer) (h : f.InRange) (i : Nat) (v : UInt8)
    (hlo : (handleEncode f.metaindex ++ handleEncode f.index).length ≤ i) (hhi : i < 2 * handleMaxLen) :
    footerDecode ((footerEncode f).set i v) = footerDecode (footerEncode f) := by
  have hle := footer_handles_le f h
  have hset : (footerEncode f).set i v =
      handleEncode f.metaindex ++ handleEncode f.index
        ++ (List.replicate (2 * handleMaxLen - (handleEncode f.metaindex ++ handleEncode f.index).length) 0).set
            (i - (handleEncode f.metaindex ++ handleEncode f.index).length) v
        ++ fixedEnc 8 tableMagic := by
    unfold footerEncode
    simp only
    rw [List.set_append_left _ _ (by rw [List.length_append, List.length_replicate]; omega),
      List.set_append_right _ _ hlo]
  rw [hset]
  exact footer_padding_irrelevant f h _ (by rw [List.length_set, List.length_replicate])

/-- what a successful read has validated: length, magic, four parseable varint64; that nothing else is
    validated is `footer_padding_irrelevant` -/
theorem footerRead_some_iff_magic (bs : Bytes) (f : Footer) (rest : Bytes)
    (h : footerRead bs = some (f, rest)) :
    48 ≤ bs.length ∧ fixedDec ((bs.drop 40).take 8) = tableMagic ∧ rest = bs.drop 48 ∧ f.InRange := by
  unfold footerRead at h
  split at h
  · cases h
  · next hl =>
    split at h
    · cases h
    · next hm =>
      split at h
      · cases h
      · next mh r1 h1 =>
        split at h
        · cases h
        · next ih r2 h2 =>
          cases h
          obtain ⟨a1, a2, _⟩ := handleRead_consumes bs mh r1 h1
          obtain ⟨a3, a4, _⟩ := handleRead_consumes r1 ih r2 h2
          exact ⟨Nat.le_of_not_lt hl, Decidable.not_not.mp hm, rfl, a1, a2, a3, a4⟩

example : footerRead (footerEncode ⟨⟨1, 2⟩, ⟨3, 4⟩⟩ ++ [9]) = some (⟨⟨1, 2⟩, ⟨3, 4⟩⟩, [9]) :=
  footer_roundtrip _ (by decide) [9]

example : (footerEncode ⟨⟨2 ^ 64 - 1, 2 ^ 64 - 1⟩, ⟨2 ^ 64 - 1, 2 ^ 64 - 1⟩⟩).length = 48 :=
  footer_length _ (by decide)

example : handleRead (handleEncode ⟨300, 2 ^ 64 - 1⟩ ++ [7]) = some (⟨300, 2 ^ 64 - 1⟩, [7]) :=
  handle_roundtrip _ _ (by decide) (by decide)

/-- junk in the padding of the footer ⟨(1,2),(3,4)⟩ (4 bytes of handles, 36 bytes of padding) -/
example : footerDecode ([1, 2, 3, 4] ++ List.replicate 36 0xAB ++ fixedEnc 8 tableMagic)
    = some ⟨⟨1, 2⟩, ⟨3, 4⟩⟩ := by
  have he : handleEncode ⟨1, 2⟩ ++ handleEncode ⟨3, 4⟩ = [1, 2, 3, 4] := by
    simp [handleEncode, varintEnc_lt]
  have h : footerDecode (handleEncode ⟨1, 2⟩ ++ handleEncode ⟨3, 4⟩ ++ List.replicate 36 0xAB
      ++ fixedEnc 8 tableMagic) = _ :=
    footer_padding_irrelevant ⟨⟨1, 2⟩, ⟨3, 4⟩⟩ (by decide) (List.replicate 36 0xAB)
      (congrArg (fun l : Bytes => 2 * handleMaxLen - l.length) he).symm
  rwa [footerDecode_roundtrip _ (by decide), he] at h

end Lcdb
