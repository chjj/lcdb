/-
  Whole table files (src/table/format.c `ldb_read_block`, src/table/table_builder.c,
  src/table/table.c, src/table/two_level_iterator.c) over the model in LcdbModel/Model/Table.lean.
  Vocabulary (`TableWF`, `OnPosT`, `TOpsOk`, `refSeek`, `GetResult.visible`, `AlteredOK`) is in
  LcdbModel/Lemmas/TableDefs.lean.

  Everything turns on `TableWF o file es`, "`file` is a well-formed table holding exactly `es`",
  which constrains neither block cuts nor compression nor the choice of separators: the builder
  writes such files for every option combination (`build_wf`), and every reader of such a file
  agrees with a cursor / lookup over `es` (`wf_reads`; together `table_roundtrip`).  C11
  (`altered_table_partial`, `single_byte_alteration_detected`): with verify + paranoid a table
  altered inside checksummed blocks yields the original answer or an error.  C18
  (`table_no_fault`, `readBlock_total`): open / iterate / scan / get on ARBITRARY bytes never
  fault, and an error status stays.
-/
import LcdbModel.Lemmas.TableCursorGet
import LcdbModel.Lemmas.TableBuildWf
import LcdbModel.Lemmas.TableAlteredByte
import LcdbModel.Lemmas.TableAltered
namespace Lcdb.TableProps
open Lcdb

/-- A block that `ldb_read_block` hands out with `verify_checksums` lies inside the file and its
    stored (masked) CRC equals the CRC-32C of contents ‖ type byte. -/
theorem readBlock_ok_crc (f : Bytes) (off size : Nat) (c : Bytes)
    (h : readBlock f off size true = .ok c) :
    off + size + blockTrailerSize ≤ f.length ∧
      crcUnmask (BitVec.ofNat 32 (fixedDec (pread f (off + size + 1) 4)))
        = crc32c (pread f off (size + 1)) :=
  Lcdb.readBlock_ok_crc f off size c h

/-- Every byte `ldb_read_block` looks at lies inside the buffer returned by the read (the model's
    bounds-checked accesses never fail), for arbitrary file contents, offset and size. -/
theorem readBlock_total (file : Bytes) (off size : Nat) (verify : Bool) :
    readBlock file off size verify ≠ .error .fault :=
  Lcdb.readBlock_total file off size verify

theorem readBlock_verify_irrel (f : Bytes) (off size : Nat) (c : Bytes) :
    readBlock f off size true = .ok c → readBlock f off size false = .ok c :=
  fun h => readBlock_any_verify h false

/-- what the builder wrote (either compression outcome) is read back -/
theorem readBlock_written (o : TableOpts) (pre suf raw : Bytes) (v : Bool)
    (hraw : raw.length ≤ Snappy.maxLength) :
    readBlock (pre ++ (writeBlock o pre.length raw).1 ++ suf) (writeBlock o pre.length raw).2.offset
      (writeBlock o pre.length raw).2.size v = .ok raw :=
  Lcdb.readBlock_written o pre suf raw v hraw

/-- For ANY well-formed table holding `es` — whatever the block cut positions, restart intervals,
    per-block compression choice and (valid) index separators — and for both settings of
    `paranoid_checks` and `verify_checksums`:
    * `ldb_table_open` succeeds;
    * a full scan returns exactly `es`, status ok;
    * after ANY sequence of iterator operations (first/last/next/prev/seek and the seek_ge/gt/le/lt
      helpers, targets of at least 8 bytes) the two-level iterator has not faulted, reports ok and
      stands exactly where the reference cursor over `es` stands; in particular `seek t` lands on
      the first entry `≥ t`;
    * `ldb_table_internal_get` reports ok, hands back nothing but the first entry `≥ ikey` of the
      whole table, and does hand it back whenever that entry has the user key looked up (no filter
      false negative, and seeking ONE data block is enough). -/
theorem wf_reads (o : TableOpts) (file : Bytes) (es : List (Bytes × Bytes))
    (hwf : TableWF o file es) (paranoid verify : Bool) :
    ∃ t, tableOpen o file paranoid = .ok t ∧
      (∀ n, es.length < n →
        tableIterAll t verify n = some { entries := es, status := .ok, complete := true }) ∧
      (∀ ops, TOpsOk ops →
        ∃ it p, (tableIterOps t verify).run ops (tableIterCreate t) = some it ∧
          (cursorOps (ikeyCmp o.cmp) (es.map (·.1))).run ops none = some p ∧
          it.getStatus = .ok ∧ OnPosT es it p) ∧
      (∀ ops target, TOpsOk ops → 8 ≤ target.length →
        ∃ it, (tableIterOps t verify).run (ops ++ [.seek target]) (tableIterCreate t) = some it ∧
          it.getStatus = .ok ∧
          OnPosT es it ((es.map (·.1)).findIdx? (fun k => ikeyCmp o.cmp k target != .lt))) ∧
      (∀ ikey, 8 ≤ ikey.length →
        ∃ g, tableGet t ikey verify = some g ∧ g.status = .ok ∧
          (∀ e, g.found = some e → refSeek o.cmp es ikey = some e) ∧
          (∀ e, refSeek o.cmp es ikey = some e → ikeyUser e.1 = ikeyUser ikey → g.found = some e) ∧
          g.visible ikey = (refSeek o.cmp es ikey).filter (fun e => ikeyUser e.1 == ikeyUser ikey)) := by
  obtain ⟨t, L, _, _, ht, _⟩ := table_open_wf o file es hwf paranoid
  refine ⟨t, ht, ?_, ?_, ?_, ?_⟩
  · intro n hn; exact table_scan o file es hwf t paranoid verify ht n hn
  · intro ops hops; exact table_is_cursor o file es hwf t paranoid verify ht ops hops
  · intro ops target hops h8
    exact table_seek_first_ge o file es hwf t paranoid verify ht ops hops target h8
  · intro ikey hk
    obtain ⟨g, hg, hs, h1, h2⟩ := table_get_spec o file es hwf t paranoid verify ht ikey hk
    obtain ⟨g', hg', _, hv⟩ := table_get_visible o file es hwf t paranoid verify ht ikey hk
    rw [hg] at hg'; cases hg'
    exact ⟨g, hg, hs, h1, h2, hv⟩

/-- `ldb_tablegen_*` on strictly sorted internal keys produces a well-formed table, for every
    block size (incl. 0), restart interval ≥ 1, compression on/off, filter on/off, comparator. -/
theorem build_wf (o : TableOpts) (es : List (Bytes × Bytes)) (hri : 1 ≤ o.restartInterval)
    (hsorted : SortedKeys (ikeyCmp o.cmp) (es.map (·.1)))
    (hsz : ∀ e ∈ es, 8 ≤ e.1.length ∧ e.1.length < 2 ^ 32 ∧ e.2.length < 2 ^ 32)
    (hfile : (tableBuild o es).length < 2 ^ 32) (hraw : tableRawBound es < 2 ^ 31) :
    TableWF o (tableBuild o es) es :=
  Lcdb.build_wf o es hri hsorted hsz hfile hraw

/-- builder then readers: scan, seek and get on a freshly built table agree with the entry list -/
theorem table_roundtrip (o : TableOpts) (es : List (Bytes × Bytes)) (hri : 1 ≤ o.restartInterval)
    (hsorted : SortedKeys (ikeyCmp o.cmp) (es.map (·.1)))
    (hsz : ∀ e ∈ es, 8 ≤ e.1.length ∧ e.1.length < 2 ^ 32 ∧ e.2.length < 2 ^ 32)
    (hfile : (tableBuild o es).length < 2 ^ 32) (hraw : tableRawBound es < 2 ^ 31)
    (paranoid verify : Bool) :
    ∃ t, tableOpen o (tableBuild o es) paranoid = .ok t ∧
      (∀ n, es.length < n →
        tableIterAll t verify n = some { entries := es, status := .ok, complete := true }) ∧
      (∀ ops target, TOpsOk ops → 8 ≤ target.length →
        ∃ it, (tableIterOps t verify).run (ops ++ [.seek target]) (tableIterCreate t) = some it ∧
          it.getStatus = .ok ∧
          OnPosT es it ((es.map (·.1)).findIdx? (fun k => ikeyCmp o.cmp k target != .lt))) ∧
      (∀ ikey, 8 ≤ ikey.length →
        ∃ g, tableGet t ikey verify = some g ∧ g.status = .ok ∧
          g.visible ikey = (refSeek o.cmp es ikey).filter (fun e => ikeyUser e.1 == ikeyUser ikey)) := by
  obtain ⟨t, ht, hscan, _, hseek, hget⟩ :=
    wf_reads o (tableBuild o es) es (build_wf o es hri hsorted hsz hfile hraw) paranoid verify
  refine ⟨t, ht, hscan, hseek, ?_⟩
  intro ikey hk
  obtain ⟨g, hg, hs, _, _, hv⟩ := hget ikey hk
  exact ⟨g, hg, hs, hv⟩

/-- the tool function `decodeTableFile` (open paranoid, scan with verification) gives back the
    entries of any well-formed table whose entry count is within its step budget -/
theorem decodeTableFile_wf (o : TableOpts) (file : Bytes) (es : List (Bytes × Bytes))
    (hwf : TableWF o file es) (hbudget : es.length < file.length * 32 + 64) :
    decodeTableFile o file = .ok es := by
  obtain ⟨t, ht, hscan, _⟩ := wf_reads o file es hwf true true
  unfold decodeTableFile
  rw [ht]
  simp only [hscan _ hbudget]
  rfl

/-- If `file'` differs from a well-formed table only so that every checksummed block region is
    byte-identical or fails its CRC (`AlteredOK`: no CRC collision, footer handles intact), then
    with `paranoid_checks` and `verify_checksums`: either `ldb_table_open` fails, or every
    iterator operation sequence ends flagged with an error or in exactly the original state,
    every scan reports an error or the original result, and every get reports an error or what the
    caller sees (`visible`) is the original answer. -/
theorem altered_table_partial (o : TableOpts) (file file' : Bytes) (es : List (Bytes × Bytes))
    (hwf : TableWF o file es) (halt : AlteredOK file file') (t' : Table)
    (ht' : tableOpen o file' true = .ok t') :
    ∃ t, tableOpen o file true = .ok t ∧
      (∀ ops, TOpsOk ops → ∀ it', (tableIterOps t' true).run ops (tableIterCreate t') = some it' →
        it'.getStatus ≠ .ok ∨
          ∃ it, (tableIterOps t true).run ops (tableIterCreate t) = some it ∧ it' = it) ∧
      (∀ n r', tableIterAll t' true n = some r' → r'.status ≠ .ok ∨ tableIterAll t true n = some r') ∧
      (∀ ikey, 8 ≤ ikey.length → ∀ g', tableGet t' ikey true = some g' →
        g'.status ≠ .ok ∨ ∃ g, tableGet t ikey true = some g ∧ g'.visible ikey = g.visible ikey) :=
  Lcdb.altered_table_partial o file file' es hwf halt t' ht'

/-- Changing one byte in front of the footer is always covered by `AlteredOK`: every block
    region that held a checksum-valid block either does not contain the byte or no longer
    passes its CRC (`crc_detects_single_byte`; a changed stored CRC no longer matches either). -/
theorem single_byte_alteration_detected (pre suf : Bytes) (x y : UInt8) (hxy : x ≠ y)
    (hfoot : footerSize ≤ suf.length) : AlteredOK (pre ++ x :: suf) (pre ++ y :: suf) :=
  Lcdb.single_byte_alteration_detected pre suf x y hxy hfoot

/-- C11 for single-byte alterations: scanning the altered file with verify + paranoid gives the
    original entries or an error, never a silently different answer. -/
theorem single_byte_scan (o : TableOpts) (pre suf : Bytes) (x y : UInt8) (es : List (Bytes × Bytes))
    (hwf : TableWF o (pre ++ x :: suf) es) (hxy : x ≠ y) (hfoot : footerSize ≤ suf.length)
    (t' : Table) (ht' : tableOpen o (pre ++ y :: suf) true = .ok t') (n : Nat) (hn : es.length < n)
    (r' : ScanResult) (hr : tableIterAll t' true n = some r') :
    r'.status ≠ .ok ∨ r' = { entries := es, status := .ok, complete := true } := by
  obtain ⟨t, ht, _, hscan, _⟩ := altered_table_partial o _ _ es hwf
    (single_byte_alteration_detected pre suf x y hxy hfoot) t' ht'
  rcases hscan n r' hr with h | h
  · exact .inl h
  · right
    have := table_scan o _ es hwf t true true ht n hn
    rw [this] at h
    exact (Option.some.inj h).symm

/-- On ARBITRARY file bytes and for both `paranoid_checks` settings: `ldb_table_open` does not
    fault; on the table it returns (if any), with either `verify_checksums` setting, no sequence
    of iterator operations faults (all reads are inside their buffers, comparators only see
    internal keys of at least 8 bytes, every skip loop ends within its fuel), no scan faults and
    no `ldb_table_internal_get` faults. -/
theorem table_no_fault (o : TableOpts) (file : Bytes) (paranoid : Bool) :
    tableOpen o file paranoid ≠ .error .fault ∧
    ∀ t, tableOpen o file paranoid = .ok t → ∀ verify : Bool,
      (∀ ops : List BlockOp, (tableIterOps t verify).run ops (tableIterCreate t) ≠ none) ∧
      (∀ n : Nat, tableIterAll t verify n ≠ none) ∧ (∀ ikey : Bytes, tableGet t ikey verify ≠ none) :=
  Lcdb.table_no_fault o file paranoid

/-- an error status of the table iterator is never cleared by later operations -/
theorem tableIter_status_sticky (t : Table) (verify : Bool) (ops₁ ops₂ : List BlockOp)
    (it₁ it₂ : TwoIter) (h₁ : (tableIterOps t verify).run ops₁ (tableIterCreate t) = some it₁)
    (hs : it₁.getStatus ≠ .ok) (h₂ : (tableIterOps t verify).run ops₂ it₁ = some it₂) :
    it₂.getStatus ≠ .ok := by
  obtain ⟨it, hit, hinv⟩ := tableIter_run_ok t verify ops₁
  rw [h₁] at hit; cases hit
  exact (twoIter_run_good (blockReader_rdInv t.cmpB t verify) (blockReader_total t verify) (skipFuel t)
    ops₂ it₁ it₂ hinv h₂).2.2.2 hs

private def exE (u : String) (seq v : Nat) : Bytes × Bytes :=
  (ikeyEnc u.toUTF8.toList seq 1, List.replicate v 7)
private def exEntries : List (Bytes × Bytes) := [exE "aaa" 5 30, exE "aab" 9 40, exE "abc" 3 50, exE "b" 2 10]
/-- two data blocks -/
private def exOpts : TableOpts :=
  { blockSize := 100, restartInterval := 3, compression := true, filterBits := some 10, cmp := .bytewise }
/-- one entry per data block -/
private def exOptsPlain : TableOpts :=
  { blockSize := 1, restartInterval := 1, compression := false, filterBits := none, cmp := .bytewise }
private def exSmall : List (Bytes × Bytes) := [exE "a" 2 1, exE "b" 1 2]

/-- the hypotheses of `build_wf` (hence of `wf_reads`, `table_roundtrip`) are satisfiable -/
example : TableWF exOpts (tableBuild exOpts exEntries) exEntries := Lcdb.exTable_wf

/-- a two-block table without compression or filter: the builder's theorem, its hypotheses (among
    them the bound on the output length, taken from the input alone) evaluated by the kernel -/
private theorem exSmall_wf : TableWF exOptsPlain (tableBuild exOptsPlain exSmall) exSmall :=
  Lcdb.build_wf_of_bound exOptsPlain exSmall (by decide) (by unfold SortedKeys; decide +kernel)
    (by decide +kernel) (by decide +kernel)

example : TableWF exOptsPlain (tableBuild exOptsPlain exSmall) exSmall := exSmall_wf

/-- `TableWF` rejects the same file as a table for a different entry list: the entries are those
    of the data blocks found in the file -/
example : ¬ TableWF exOptsPlain (tableBuild exOptsPlain exSmall) exSmall.tail := fun h => by
  obtain ⟨_, L, hL, hg, _⟩ := table_open_wf _ _ _ exSmall_wf true
  obtain ⟨_, L', hL', hg', _⟩ := table_open_wf _ _ _ h true
  rw [hL] at hL'
  cases hL'
  exact absurd (congrArg List.length (hg.entries_eq.trans hg'.entries_eq.symm)) (by decide)

/-- `readBlock_ok_crc` has instances: the first data block of the small table (handle `⟨0, 21⟩`)
    reads back -/
example : ∃ c, readBlock (tableBuild exOptsPlain exSmall) 0 21 true = .ok c := by decide +kernel

/-- the hypotheses of `altered_table_partial` are satisfiable with a really altered file that
    still opens: flip one byte of the first data block (offset 5) of the small table -/
example :
    let file := tableBuild exOptsPlain exSmall
    let file' := file.take 5 ++ (file.getD 5 0 ^^^ 1) :: file.drop 6
    TableWF exOptsPlain file exSmall ∧ AlteredOK file file' ∧ file' ≠ file ∧
      (∃ t', tableOpen exOptsPlain file' true = .ok t') := by
  intro file file'
  have h5 : 5 < file.length := by decide +kernel
  have hsplit : file = file.take 5 ++ file.getD 5 0 :: file.drop 6 := by
    rw [List.getD_eq_getElem?_getD, List.getElem?_eq_getElem h5, Option.getD_some,
      List.getElem_cons_drop, List.take_append_drop]
  refine ⟨exSmall_wf, ?_, by decide +kernel, ?_⟩
  · have h := single_byte_alteration_detected (file.take 5) (file.drop 6) (file.getD 5 0)
      (file.getD 5 0 ^^^ 1) (by decide +kernel) (by decide +kernel)
    rw [← hsplit] at h
    exact h
  · have hopen : (tableOpen exOptsPlain file' true).toBool = true := by decide +kernel
    cases h : tableOpen exOptsPlain file' true with
    | ok t' => exact ⟨t', rfl⟩
    | error e => rw [h] at hopen; cases hopen

/-- The footer hypothesis of `altered_table_partial` (`AlteredOK.footer`) cannot be dropped: the
    footer carries no checksum.  Rewriting the index handle of the small table so that it names
    the (checksum-valid, empty) metaindex block gives a file that a paranoid, verifying reader
    opens and scans as an EMPTY table with status ok.  The file has 159 bytes, its footer starts at
    111, its metaindex handle is `⟨53, 8⟩`, its index handle `⟨66, 40⟩`.  (Known limitation T-F1 of
    the format; the C code behaves the same way: `tmut … s:<footer bytes> 1 1 scan` answers `. ok`.) -/
example :
    let file := tableBuild exOptsPlain exSmall
    let file' := file.take 111 ++ footerEncode { metaindex := ⟨53, 8⟩, index := ⟨53, 8⟩ }
    TableWF exOptsPlain file exSmall ∧ file'.length = file.length ∧
      (match tableOpen exOptsPlain file' true with
        | .ok t' =>
          (match tableIterAll t' true 10 with
            | some r => r.entries.isEmpty && r.status == .ok && r.complete
            | none => false)
        | .error _ => false) = true := by
  intro file file'
  exact ⟨exSmall_wf, by decide +kernel, by decide +kernel⟩

end Lcdb.TableProps
