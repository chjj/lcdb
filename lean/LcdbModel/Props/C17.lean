/-
  C17: version-edit (MANIFEST record) encoding.  Round trip, totality / fuel sufficiency of the
  reader, the (level, number) set used for deleted files, and what the reader returns on the
  concatenation of two encoded edits (later scalars win, lists accumulate: `editMerge`).
-/
import LcdbModel.Props.Consts
import LcdbModel.Lemmas.VersionEdit
namespace Lcdb.C17
open Lcdb

/-- `ldb_edit_import (ldb_edit_export e) = e` for every well-formed edit -/
theorem edit_roundtrip (e : Edit) (h : EditWF e) : editDecode (editEncode e) = some e := by
  have := takes_editEncode e h {} []
  rwa [List.append_nil, editDecodeFrom_nil, editMerge_empty e h.deletedSorted] at this

/-- `editDecode` is a Lean function, so total by construction; `none` stands for corruption -/
theorem decode_total (bs : Bytes) : ∃ r : Option Edit, editDecode bs = r := ⟨_, rfl⟩

theorem editDecodeGo_fuel_irrel (f1 f2 : Nat) (bs : Bytes) (e : Edit)
    (h1 : bs.length < f1) (h2 : bs.length < f2) :
    editDecodeGo f1 bs e = editDecodeGo f2 bs e :=
  editDecodeGo_fuel_eq f1 f2 bs e h1 h2

/-- the fuel `bs.length + 1` used by `editDecode` is sufficient: more fuel changes nothing -/
theorem editDecodeGo_fuel (f : Nat) (bs : Bytes) (e : Edit) (h : f ≥ bs.length + 1) :
    editDecodeGo f bs e = editDecodeGo (bs.length + 1) bs e :=
  editDecodeGo_fuel_eq f (bs.length + 1) bs e (by omega) (by omega)

/-- in particular the reader never fails merely for lack of fuel -/
theorem editDecode_eq_of_fuel (f : Nat) (bs : Bytes) (h : f ≥ bs.length + 1) :
    editDecodeGo f bs {} = editDecode bs :=
  editDecodeGo_fuel f bs {} h

theorem mem_setInsert (x y : Nat × Nat) (l : List (Nat × Nat)) :
    y ∈ setInsert x l ↔ y = x ∨ y ∈ l := by
  induction l with
  | nil => simp [setInsert]
  | cons z zs ih =>
    rcases pairLt_trichotomy x z with h | rfl | h
    · rw [setInsert_cons_lt zs h, List.mem_cons]
    · rw [setInsert_cons_self, List.mem_cons]; simp
    · rw [setInsert_cons_gt zs h, List.mem_cons, ih, List.mem_cons, or_left_comm]

theorem setInsert_sorted (x : Nat × Nat) (l : List (Nat × Nat))
    (h : l.Pairwise (fun a b => pairLt a b = true)) :
    (setInsert x l).Pairwise (fun a b => pairLt a b = true) := by
  induction l with
  | nil => simp [setInsert]
  | cons z zs ih =>
    have hz := List.pairwise_cons.mp h
    rcases pairLt_trichotomy x z with h1 | rfl | h1
    · rw [setInsert_cons_lt zs h1]
      exact List.pairwise_cons.2 ⟨fun w hw => (List.mem_cons.1 hw).elim (· ▸ h1)
        fun hw => pairLt_trans h1 (hz.1 w hw), h⟩
    · rw [setInsert_cons_self]; exact h
    · rw [setInsert_cons_gt zs h1]
      exact List.pairwise_cons.2 ⟨fun w hw => ((mem_setInsert x w zs).1 hw).elim (· ▸ h1) (hz.1 w),
        ih hz.2⟩

theorem setInsert_idem (x : Nat × Nat) (l : List (Nat × Nat)) :
    setInsert x (setInsert x l) = setInsert x l := by
  induction l with
  | nil => exact setInsert_cons_self x []
  | cons z zs ih =>
    rcases pairLt_trichotomy x z with h | rfl | h
    · rw [setInsert_cons_lt zs h, setInsert_cons_self]
    · rw [setInsert_cons_self, setInsert_cons_self]
    · rw [setInsert_cons_gt zs h, setInsert_cons_gt _ h, ih]

theorem decode_encode_append (b : Edit) (hb : EditWF b) (rest : Bytes) (acc : Edit) :
    editDecodeGo ((editEncode b ++ rest).length + 1) (editEncode b ++ rest) acc
      = editDecodeGo (rest.length + 1) rest (editMerge acc b) :=
  takes_editEncode b hb acc rest

/-- later scalar fields win, list fields accumulate, deleted files are set-inserted -/
theorem decode_last_scalar_wins (a b : Edit) (ha : EditWF a) (hb : EditWF b) :
    editDecode (editEncode a ++ editEncode b) = some (editMerge a b) := by
  have h := (takes_editEncode a ha {}).append (takes_editEncode b hb _) []
  rwa [List.append_nil, editDecodeFrom_nil, editMerge_empty a ha.deletedSorted] at h

theorem editMerge_spec (a b : Edit) :
    (editMerge a b).comparator = (match b.comparator with | some c => some c | none => a.comparator) ∧
    (editMerge a b).logNumber = (match b.logNumber with | some v => some v | none => a.logNumber) ∧
    (editMerge a b).prevLogNumber = (match b.prevLogNumber with | some v => some v | none => a.prevLogNumber) ∧
    (editMerge a b).nextFile = (match b.nextFile with | some v => some v | none => a.nextFile) ∧
    (editMerge a b).lastSeq = (match b.lastSeq with | some v => some v | none => a.lastSeq) ∧
    (editMerge a b).compactPointers = a.compactPointers ++ b.compactPointers ∧
    (editMerge a b).deletedFiles = b.deletedFiles.foldl (fun s x => setInsert x s) a.deletedFiles ∧
    (editMerge a b).newFiles = a.newFiles ++ b.newFiles := by
  obtain ⟨c, l, p, n, s, _, _, _⟩ := b
  exact ⟨by cases c <;> rfl, by cases l <;> rfl, by cases p <;> rfl, by cases n <;> rfl,
    by cases s <;> rfl, rfl, rfl, rfl⟩

theorem mem_editMerge_deletedFiles (a b : Edit) (x : Nat × Nat) :
    x ∈ (editMerge a b).deletedFiles ↔ x ∈ a.deletedFiles ∨ x ∈ b.deletedFiles := by
  simp only [editMerge]
  generalize a.deletedFiles = s
  induction b.deletedFiles generalizing s with
  | nil => simp
  | cons y ys ih =>
    simp only [List.foldl_cons, ih, mem_setInsert, List.mem_cons]
    exact or_assoc.trans or_left_comm

/-- the merged deleted-file list stays strictly sorted, so it is a faithful image of the C red-black set -/
theorem editMerge_deletedFiles_sorted (a b : Edit) (h : PairSorted a.deletedFiles) :
    PairSorted (editMerge a b).deletedFiles :=
  List.foldlRecOn b.deletedFiles _ h fun s hs y _ => setInsert_sorted y s hs

/-- a well-formed edit with every field populated -/
def sampleEdit : Edit :=
  { comparator := some [108, 101, 118, 101, 108, 100, 98]
    logNumber := some 12
    prevLogNumber := some 0
    nextFile := some (2 ^ 64 - 1)
    lastSeq := some 300
    compactPointers := [(1, [1, 2, 3, 4, 5, 6, 7, 8]), (6, [9, 9, 9, 9, 9, 9, 9, 9, 9])]
    deletedFiles := [(0, 5), (0, 7), (3, 1)]
    newFiles := [{ level := 2, number := 17, size := 4096,
                   smallest := [97, 1, 0, 0, 0, 0, 0, 0, 0], largest := [122, 1, 0, 0, 0, 0, 0, 0, 0] }] }

/-- a second one whose scalars partly override and whose deleted files overlap the first -/
def sampleEdit2 : Edit :=
  { logNumber := some 13
    lastSeq := some 301
    compactPointers := [(0, [0, 0, 0, 0, 0, 0, 0, 0])]
    deletedFiles := [(0, 6), (0, 7), (4, 200)]
    newFiles := [{ level := 0, number := 18, size := 1,
                   smallest := [0, 0, 0, 0, 0, 0, 0, 0], largest := [0, 0, 0, 0, 0, 0, 0, 1] }] }

theorem sampleEdit_wf : EditWF sampleEdit := by
  constructor <;> decide

theorem sampleEdit2_wf : EditWF sampleEdit2 := by
  constructor <;> decide

example : editDecode (editEncode sampleEdit) = some sampleEdit :=
  edit_roundtrip sampleEdit sampleEdit_wf

example : editDecode (editEncode sampleEdit ++ editEncode sampleEdit2)
    = some (editMerge sampleEdit sampleEdit2) :=
  decode_last_scalar_wins sampleEdit sampleEdit2 sampleEdit_wf sampleEdit2_wf

example : (editMerge sampleEdit sampleEdit2).logNumber = some 13
    ∧ (editMerge sampleEdit sampleEdit2).nextFile = some (2 ^ 64 - 1)
    ∧ (editMerge sampleEdit sampleEdit2).deletedFiles = [(0, 5), (0, 6), (0, 7), (3, 1), (4, 200)] := by
  decide

/-- sortedness is needed for the round trip: an unsorted deleted-file list comes back sorted -/
theorem edit_roundtrip_needs_sorted : editDecode (editEncode { deletedFiles := [(1, 2), (0, 3)] })
    = some { deletedFiles := [(0, 3), (1, 2)] } := by
  have h := decode_last_scalar_wins { deletedFiles := [(1, 2)] } { deletedFiles := [(0, 3)] }
    (by constructor <;> decide) (by constructor <;> decide)
  have he : editEncode { deletedFiles := [(1, 2), (0, 3)] }
      = editEncode { deletedFiles := [(1, 2)] } ++ editEncode { deletedFiles := [(0, 3)] } := by
    simp [editEncode, optField]
  rw [he, h]
  decide

example : setInsert (0, 6) [(0, 5), (0, 7)] = [(0, 5), (0, 6), (0, 7)] := by decide
example : ∃ r, editDecode [7, 0] = r := decode_total _

end Lcdb.C17
