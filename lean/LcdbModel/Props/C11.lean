/-
  C11 -- corrupted files are detected, never turned into wrong answers.
  Table files: Props/TableProps.lean (`altered_table_partial`, `single_byte_alteration_detected`), over the
  CRC facts of Props/CrcProps.lean and Props/CrcTablesOk.lean and the footer facts of Props/FilterProps.lean.
  Write-ahead log and batches: Props/C15.lean (`read_sound`), Props/C04.lean (`iterate_count`,
  `prefix_rejected`).  This module gathers them for
  /verif/checks/C11.py, which builds it and audits the theorems by name.
-/
import LcdbModel.Props.TableProps
import LcdbModel.Props.CrcProps
import LcdbModel.Props.CrcTablesOk
import LcdbModel.Props.FilterProps
import LcdbModel.Props.C15
import LcdbModel.Props.C04
