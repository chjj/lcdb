/-
  C07 for the iterator stack above blocks: the merging iterator (table/merger.c) and the user
  iterator (db_iter.c, with the generic seek helpers of table/iterator.c).  The namespace is `Lcdb.C07x`;
  Props/C07.lean is the module `checks/C07.py` builds: it imports this file and Props/BlockProps.lean.

  Every statement about a run of operations includes "the run does not fault" (`= some st'`): no
  `next`/`prev`/`key` on an invalid internal iterator, and fuel `total length + 2` suffices for every loop.
-/
import LcdbModel.Lemmas.DbIterImpl
import LcdbModel.Lemmas.MergeIter
import LcdbModel.Lemmas.MapCursor
namespace Lcdb.C07x
open Lcdb Lcdb.Lsm Lcdb.CmpBasic Lcdb.DbIt Lcdb.MapCursor

def freshChildren (runs : List Run) : List MChild := runs.map fun r => { run := r, st := .ok, pos := none }

/-- For children that are cursors over strictly sorted runs with pairwise distinct
    internal keys, after ANY operation sequence the merging iterator has not faulted and is valid iff the
    reference cursor over the sorted union `mergedRun c runs` is, at the same entry; its status is OK. -/
theorem merge_is_cursor (c : Cmp) (runs : List Run) (hs : ∀ r ∈ runs, RunSorted c r)
    (hd : DistinctKeys c runs) (ops : List InternalOp) :
    ∃ mi p, (mergeIterI c).run ops (mergeCreate (freshChildren runs)) = some mi ∧
      (runIter c (mergedRun c runs)).run ops none = some p ∧
      mi.valid = (runEntry (mergedRun c runs) p).isSome ∧
      mi.entry = runEntry (mergedRun c runs) p ∧ mi.status = .ok := by
  obtain ⟨mi, p, h1, h2, hrel⟩ := (Merge.merge_sim c runs hs hd).simOn.run ops
    (fun _ _ _ _ _ => trivial) _ none (Merge.mergeRel_create c runs)
  obtain ⟨g1, g2, g3⟩ := Merge.mergeRel_observe hrel
  exact ⟨mi, p, h1, h2, g1, g2, g3⟩

theorem mergedRun_spec (c : Cmp) (runs : List Run) (hd : DistinctKeys c runs) :
    (mergedRun c runs).Perm runs.flatten ∧ RunSorted c (mergedRun c runs) :=
  ⟨Merge.mergedRun_perm c runs, Merge.mergedRun_sorted c runs hd⟩

/-- Whatever the children hold (unsorted runs, the same internal key in several
    children, error children) no operation sequence makes the merging iterator fault: `mi->current`, when not
    NULL, always designates a valid child. -/
theorem merge_no_fault (c : Cmp) (children : List MChild) (ops : List InternalOp) :
    ∃ mi, (mergeIterI c).run ops (mergeCreate children) = some mi := by
  obtain ⟨mi, _, h, _⟩ := (Merge.total_sim c).simOn.run ops (fun _ _ _ _ _ => trivial) (mergeCreate children) _
    ⟨rfl, fun i hi => by cases hi⟩
  exact ⟨mi, h⟩

def Shows {σ : Type} (I : InternalIter σ) (st : DbIter σ) (m : List (Bytes × String)) (ms : DbIterState) : Prop :=
  st.isValid = (mapCursorGet m ms).isSome ∧ st.getStatus I = .ok ∧
    ∀ k v, mapCursorGet m ms = some (k, v) → st.key? I = some k ∧ st.value? I = some v

theorem Shows.of_get {σ : Type} {I : InternalIter σ} {st : DbIter σ} {m : List (Bytes × String)}
    {ms : DbIterState} (h : Shows I st m ms) {k : Bytes} {v : String} (hget : mapCursorGet m ms = some (k, v)) :
    st.isValid = true ∧ st.key? I = some k ∧ st.value? I = some v := by
  obtain ⟨g1, _, g3⟩ := h
  rw [hget] at g1
  exact ⟨g1, g3 k v hget⟩

theorem Shows.of_valid {σ : Type} {I : InternalIter σ} {st : DbIter σ} {m : List (Bytes × String)}
    {ms : DbIterState} (h : Shows I st m ms) (hv : st.isValid = true) :
    ∃ k v, (k, v) ∈ m ∧ st.key? I = some k ∧ st.value? I = some v := by
  obtain ⟨g1, _, g3⟩ := h
  rw [hv] at g1
  cases ms with
  | invalid => cases g1
  | «at» i =>
    cases hget : m[i]? with
    | none => rw [show mapCursorGet m (.at i) = m[i]? from rfl, hget] at g1; cases g1
    | some kv => exact ⟨kv.1, kv.2, List.mem_of_getElem? hget, g3 kv.1 kv.2 hget⟩

/-- General form of `dbiter_is_map_cursor`.  `I` is any internal iterator that simulates a cursor over the
    strictly sorted run `r` through `R` for the seek targets in `P` (e.g. the plain cursor itself, the merging
    iterator, or the memtable iterator for targets below 4 GiB); entries have kind ≤ 1.  For every sequence `s`,
    fuel ≥ `r.length + 2` and ANY sequence of public operations (first/last/next/prev/seek/seek_ge/gt/le/lt;
    `next`/`prev` only issued when valid) whose targets `t` satisfy `P t (seekPacked s)` the db_iter.c state
    machine does not fault and ends exactly where `mapCursorStep` over `visibleMap c r s` ends, showing the
    same key and value, with status OK. -/
theorem dbiter_is_map_cursor_on {σ : Type} {I : InternalIter σ} {c : Cmp} {r : Run}
    {R : σ → Option Nat → Prop} {P : Bytes → Nat → Prop} (hsim : InternalIter.SimOn P I (runIter c r) R)
    (hs : RunSorted c r) (hk : ∀ e ∈ r, e.kind ≤ 1) (s : Nat) {fuel : Nat} (hfuel : r.length + 2 ≤ fuel)
    {it₀ : σ} {p₀ : Option Nat} (h₀ : R it₀ p₀) (ops : List IterOp)
    (hops : ∀ op ∈ ops, ∀ t, (DbIter.toBlockOp op).target? = some t → P t (seekPacked s)) :
    ∃ st', DbIter.run I c s fuel ops (DbIter.create it₀) = some st' ∧
      Shows I st' (visibleMap c r s) (ops.foldl (mapCursorStep c (visibleMap c r s)) .invalid) := by
  have hD := dbiter_sim hsim hs hk s (lt_of_add_two_le hfuel)
  have hinit : DRel R s r (DbIter.create it₀) none := ⟨rfl, rfl, p₀, h₀⟩
  obtain ⟨st', cp', h1, h2, hrel⟩ := hD.run (ops.map DbIter.toBlockOp)
    (fun op hop t ht => by
      obtain ⟨op₀, hop₀, rfl⟩ := List.mem_map.mp hop
      exact hops op₀ hop₀ t ht) _ none hinit
  refine ⟨st', by rw [DbIter.run_eq_iterOps_run]; exact h1, ?_⟩
  rw [visibleMap_eq_live hs hk]
  obtain ⟨p', h3, h4⟩ := cursor_run_eq_foldl c (liveMap s r) (liveMap_sorted hs) ops none (fun i hi => by cases hi)
  rw [← keysOf_eq_map, h2] at h3
  cases h3
  have h4' : ops.foldl (mapCursorStep c (liveMap s r)) .invalid = posToState cp' := h4.symm
  rw [h4']
  obtain ⟨g1, g2, g3⟩ := drel_observe hsim hrel
  cases cp' with
  | none => exact ⟨g1, g2, fun k v hkv => nomatch hkv⟩
  | some i =>
    obtain ⟨q, hq, hkey, hval⟩ := g3 i rfl
    have hget : mapCursorGet (liveMap s r) (posToState (some i)) = some (uk r q, vl r q) := by
      show (liveMap s r)[i]? = _
      unfold liveMap
      rw [List.getElem?_map, hq]
      rfl
    unfold Shows
    rw [hget]
    refine ⟨g1, g2, fun k v hkv => ?_⟩
    cases hkv
    exact ⟨hkey, hval⟩

/-- `dbiter_is_map_cursor_on` for an iterator that simulates the cursor for every seek target -/
theorem dbiter_is_map_cursor_gen {σ : Type} {I : InternalIter σ} {c : Cmp} {r : Run}
    {R : σ → Option Nat → Prop} (hsim : InternalIter.Sim I (runIter c r) R) (hs : RunSorted c r)
    (hk : ∀ e ∈ r, e.kind ≤ 1) (s : Nat) {fuel : Nat} (hfuel : r.length + 2 ≤ fuel)
    {it₀ : σ} {p₀ : Option Nat} (h₀ : R it₀ p₀) (ops : List IterOp) :
    ∃ st', DbIter.run I c s fuel ops (DbIter.create it₀) = some st' ∧
      Shows I st' (visibleMap c r s) (ops.foldl (mapCursorStep c (visibleMap c r s)) .invalid) :=
  dbiter_is_map_cursor_on hsim.simOn hs hk s hfuel h₀ ops (fun _ _ _ _ => trivial)

/-- The user iterator over a plain cursor over one strictly sorted run. -/
theorem dbiter_is_map_cursor (c : Cmp) (r : Run) (hs : RunSorted c r) (hk : ∀ e ∈ r, e.kind ≤ 1) (s : Nat)
    (ops : List IterOp) :
    ∃ st', DbIter.run (runIter c r) c s (dbIterFuel [r]) ops (DbIter.create none) = some st' ∧
      Shows (runIter c r) st' (visibleMap c r s) (ops.foldl (mapCursorStep c (visibleMap c r s)) .invalid) :=
  dbiter_is_map_cursor_gen (RunCursor.runIter_self_sim c r) hs hk s (by simp [dbIterFuel]) (rfl : (none : Option Nat) = none) ops

section Corollaries
variable {σ : Type} {I : InternalIter σ} {c : Cmp} {r : Run} {R : σ → Option Nat → Prop}

/-- Forward scan: `first` followed by `k` times `next` shows entry `k` of `visibleMap c r s` — every
    live key exactly once, in comparator order (see `visibleMap_strictly_sorted`) — and is invalid from
    `k = length` on. -/
theorem dbiter_forward_scan (hsim : InternalIter.Sim I (runIter c r) R) (hs : RunSorted c r)
    (hk : ∀ e ∈ r, e.kind ≤ 1) (s : Nat) {fuel : Nat} (hfuel : r.length + 2 ≤ fuel)
    {it₀ : σ} {p₀ : Option Nat} (h₀ : R it₀ p₀) (k : Nat) :
    ∃ st', DbIter.run I c s fuel (.first :: List.replicate k .next) (DbIter.create it₀) = some st' ∧
      Shows I st' (visibleMap c r s) (cursorOfIdx (visibleMap c r s) k) := by
  have := dbiter_is_map_cursor_gen hsim hs hk s hfuel h₀ (.first :: List.replicate k .next)
  rw [foldl_first_next] at this
  exact this

/-- Backward scan: `last` followed by `k` times `prev` shows entry `length - 1 - k`: the forward scan
    reversed. -/
theorem dbiter_backward_scan (hsim : InternalIter.Sim I (runIter c r) R) (hs : RunSorted c r)
    (hk : ∀ e ∈ r, e.kind ≤ 1) (s : Nat) {fuel : Nat} (hfuel : r.length + 2 ≤ fuel)
    {it₀ : σ} {p₀ : Option Nat} (h₀ : R it₀ p₀) (k : Nat) :
    ∃ st', DbIter.run I c s fuel (.last :: List.replicate k .prev) (DbIter.create it₀) = some st' ∧
      Shows I st' (visibleMap c r s) (cursorFromEnd (visibleMap c r s) k) := by
  have := dbiter_is_map_cursor_gen hsim hs hk s hfuel h₀ (.last :: List.replicate k .prev)
  rw [foldl_last_prev] at this
  exact this

/-- Forward = reverse of backward: step `k` of the forward scan and step `length - 1 - k` of the
    backward scan show the same key and value. -/
theorem forward_eq_reverse_backward (hsim : InternalIter.Sim I (runIter c r) R) (hs : RunSorted c r)
    (hk : ∀ e ∈ r, e.kind ≤ 1) (s : Nat) {fuel : Nat} (hfuel : r.length + 2 ≤ fuel)
    {it₀ : σ} {p₀ : Option Nat} (h₀ : R it₀ p₀) (k : Nat) (hk' : k < (visibleMap c r s).length) :
    ∃ st₁ st₂,
      DbIter.run I c s fuel (.first :: List.replicate k .next) (DbIter.create it₀) = some st₁ ∧
      DbIter.run I c s fuel (.last :: List.replicate ((visibleMap c r s).length - 1 - k) .prev)
        (DbIter.create it₀) = some st₂ ∧
      st₁.isValid = true ∧ st₂.isValid = true ∧ st₁.key? I = st₂.key? I ∧ st₁.value? I = st₂.value? I := by
  obtain ⟨st₁, h1, g⟩ := dbiter_forward_scan hsim hs hk s hfuel h₀ k
  obtain ⟨st₂, h2, f⟩ := dbiter_backward_scan hsim hs hk s hfuel h₀ ((visibleMap c r s).length - 1 - k)
  have e1 : cursorOfIdx (visibleMap c r s) k = .at k := if_pos hk'
  have e2 := cursorFromEnd_sub hk'
  rw [e1] at g
  rw [e2] at f
  have hget : mapCursorGet (visibleMap c r s) (.at k) = some (visibleMap c r s)[k] :=
    List.getElem?_eq_getElem hk'
  obtain ⟨a0, a1, a2⟩ := g.of_get hget
  obtain ⟨b0, b1, b2⟩ := f.of_get hget
  exact ⟨st₁, st₂, h1, h2, a0, b0, a1.trans b1.symm, a2.trans b2.symm⟩

/-- Whatever the operation sequence, a valid iterator shows a key `k` and the value
    `view c r k s` — what `ldb_get` at sequence `s` answers for `k` (`C01.get_eq_view`). -/
theorem iter_agrees_get (hsim : InternalIter.Sim I (runIter c r) R) (hs : RunSorted c r)
    (hk : ∀ e ∈ r, e.kind ≤ 1) (s : Nat) {fuel : Nat} (hfuel : r.length + 2 ≤ fuel)
    {it₀ : σ} {p₀ : Option Nat} (h₀ : R it₀ p₀) (ops : List IterOp) :
    ∃ st', DbIter.run I c s fuel ops (DbIter.create it₀) = some st' ∧
      (st'.isValid = true → ∃ k v, st'.key? I = some k ∧ st'.value? I = some v ∧ view c r k s = some v) := by
  obtain ⟨st', h1, g⟩ := dbiter_is_map_cursor_gen hsim hs hk s hfuel h₀ ops
  refine ⟨st', h1, fun hv => ?_⟩
  obtain ⟨k, v, hmem, a1, a2⟩ := g.of_valid hv
  exact ⟨k, v, a1, a2, (VisMap.mem_visibleMap_iff_view c r s k v).mp hmem⟩

/-- Seek agrees with get: after any operations, `seek k` lands on `k` exactly when `view c r k s`
    (= what `ldb_get` answers at sequence `s`) is a value, and then shows that value. -/
theorem seek_agrees_get (hsim : InternalIter.Sim I (runIter c r) R) (hs : RunSorted c r)
    (hk : ∀ e ∈ r, e.kind ≤ 1) (s : Nat) {fuel : Nat} (hfuel : r.length + 2 ≤ fuel)
    {it₀ : σ} {p₀ : Option Nat} (h₀ : R it₀ p₀) (ops : List IterOp) (k : Bytes) :
    ∃ st', DbIter.run I c s fuel (ops ++ [.seek k]) (DbIter.create it₀) = some st' ∧
      (∀ v, view c r k s = some v → st'.isValid = true ∧ st'.key? I = some k ∧ st'.value? I = some v) ∧
      (view c r k s = none → ¬ (st'.isValid = true ∧ st'.key? I = some k)) := by
  obtain ⟨st', h1, g⟩ := dbiter_is_map_cursor_gen hsim hs hk s hfuel h₀ (ops ++ [.seek k])
  refine ⟨st', h1, ?_, ?_⟩
  · intro v hv
    have hmem := (VisMap.mem_visibleMap_iff_view c r s k v).mpr hv
    obtain ⟨j, hj⟩ := List.getElem?_of_mem hmem
    have hjl := getElem?_lt hj
    have hms : (ops ++ [IterOp.seek k]).foldl (mapCursorStep c (visibleMap c r s)) .invalid = .at j := by
      rw [List.foldl_append]
      show cursorOfIdx _ (firstGe c _ k) = _
      rw [firstGe_of_get c (VisMap.visibleMap_sorted c r s) hj]
      exact if_pos hjl
    rw [hms] at g
    exact g.of_get hj
  · intro hnone ⟨hv, hkey⟩
    obtain ⟨k', v', hmem, a1, _⟩ := g.of_valid hv
    rw [hkey] at a1
    cases a1
    rw [(VisMap.mem_visibleMap_iff_view c r s k v').mp hmem] at hnone
    cases hnone

end Corollaries

/-- the keys of the visible map are strictly increasing: no key is shown twice by a scan -/
theorem visibleMap_strictly_sorted (c : Cmp) (es : List Entry) (s : Nat) :
    (visibleMap c es s).Pairwise (fun a b => c.compare a.1 b.1 = .lt) := VisMap.visibleMap_sorted c es s

/-- the visible map holds exactly the keys `get` finds, with the value `get` returns -/
theorem mem_visibleMap_iff_view (c : Cmp) (es : List Entry) (s : Nat) (k : Bytes) (v : String) :
    (k, v) ∈ visibleMap c es s ↔ view c es k s = some v := VisMap.mem_visibleMap_iff_view c es s k v

/-- true of a database: sequence numbers are unique per write -/
def SeqDistinct (runs : List Run) : Prop :=
  runs.flatten.Pairwise (fun a b => a.ukey = b.ukey → a.seq ≠ b.seq)

theorem SeqDistinct.distinctKeys {c : Cmp} {runs : List Run} (h : SeqDistinct runs)
    (hk : ∀ r ∈ runs, ∀ e ∈ r, e.kind ≤ 1) : DistinctKeys c runs := by
  unfold DistinctKeys
  unfold SeqDistinct at h
  refine h.imp_of_mem (fun {a b} ha hb hab hc => ?_)
  obtain ⟨ra, hra, hea⟩ := List.mem_flatten.mp ha
  obtain ⟨rb, hrb, heb⟩ := List.mem_flatten.mp hb
  have hka := hk ra hra a hea
  have hkb := hk rb hrb b heb
  obtain ⟨hu, hp⟩ := (ikCmp3_eq_iff c _ _ _ _).mp hc
  apply hab hu
  simp only [Entry.packed] at hp
  omega

theorem SeqDistinct.noDup {runs : List Run} (h : SeqDistinct runs) : KeyNoTies runs.flatten := by
  intro x hx y hy hu hq
  rcases Classical.em (x = y) with heq | hne
  · exact heq
  · exact absurd hq (pairwise_symm_mem h (fun {a b} hab hu' hq' => hab hu'.symm hq'.symm) hx hy hne hu)

/-- The user iterator over the merging iterator over the runs of a database
    (each strictly sorted, kinds ≤ 1, no (user key, sequence) twice) is, after ANY operation sequence,
    exactly where the sorted map `visibleMap c (all entries) s` dictates, with the same key and value;
    nothing faults and fuel `total length + 2` suffices. -/
theorem dbiter_over_merge (c : Cmp) (runs : List Run) (hs : ∀ r ∈ runs, RunSorted c r)
    (hk : ∀ r ∈ runs, ∀ e ∈ r, e.kind ≤ 1) (hd : SeqDistinct runs) (s : Nat) (ops : List IterOp) :
    ∃ st', DbIter.run (mergeIterI c) c s (dbIterFuel runs) ops
        (DbIter.create (mergeCreate (freshChildren runs))) = some st' ∧
      Shows (mergeIterI c) st' (visibleMap c runs.flatten s)
        (ops.foldl (mapCursorStep c (visibleMap c runs.flatten s)) .invalid) := by
  have hdk : DistinctKeys c runs := hd.distinctKeys hk
  have hperm := Merge.mergedRun_perm c runs
  have hkU : ∀ e ∈ mergedRun c runs, e.kind ≤ 1 := by
    intro e he
    obtain ⟨r, hr, her⟩ := List.mem_flatten.mp (hperm.mem_iff.mp he)
    exact hk r hr e her
  have hmap : visibleMap c (mergedRun c runs) s = visibleMap c runs.flatten s :=
    VisMap.visibleMap_perm c hperm (hd.noDup.of_subset fun _ => hperm.mem_iff.mp) s
  have := dbiter_is_map_cursor_gen (Merge.merge_sim c runs hs hdk) (Merge.mergedRun_sorted c runs hdk) hkU s
    (fuel := dbIterFuel runs) (by rw [Merge.mergedRun_length]; exact Nat.le_refl _)
    (Merge.mergeRel_create c runs) ops
  rw [hmap] at this
  exact this

/-- `dbiter_over_merge` for the runs of a database state satisfying the LSM invariant: memtable, immutable
    memtable, level-0 files (newest first), one run per deeper level.  (In lcdb a deeper level is read
    through a two-level iterator over its files; here it is one run.  That the iterator of a single table
    is a cursor over the table's entries is `TableProps.wf_reads`; the concatenation over the files of a
    level is not modelled.) -/
theorem dbiter_over_db (c : Cmp) (st : DbState) (h : Inv c st) (hd : SeqDistinct (sourceRuns st))
    (s : Nat) (ops : List IterOp) :
    ∃ st', DbIter.run (mergeIterI c) c s (dbIterFuel (sourceRuns st)) ops
        (DbIter.create (mergeCreate (freshChildren (sourceRuns st)))) = some st' ∧
      Shows (mergeIterI c) st' (visibleMap c (sourceRuns st).flatten s)
        (ops.foldl (mapCursorStep c (visibleMap c (sourceRuns st).flatten s)) .invalid) ∧
      ∀ k v, (k, v) ∈ visibleMap c (sourceRuns st).flatten s ↔ view c (allEntries st) k s = some v := by
  obtain ⟨st', h1, h2⟩ := dbiter_over_merge c (sourceRuns st) (sourceRuns_sorted h) (sourceRuns_kinds h) hd s ops
  refine ⟨st', h1, h2, fun k v => ?_⟩
  rw [VisMap.mem_visibleMap_iff_view c _ s k v]
  rw [VisMap.view_perm c (sourceRuns_flatten_perm st) hd.noDup k s]

/-- Over an internal iterator that simulates a cursor over an ARBITRARY entry list `r`
    (no order, no bound on the value types: `kind > 1` takes the `ldb_pkey_import` failure path) no sequence
    of public operations faults: the internal iterator's `key`/`next`/`prev` are only used while it is
    valid and fuel `r.length + 2` suffices for every loop of db_iter.c. -/
theorem dbiter_total {σ : Type} {I : InternalIter σ} {c : Cmp} {r : Run} {R : σ → Option Nat → Prop}
    (hsim : InternalIter.Sim I (runIter c r) R) (s : Nat) {fuel : Nat} (hfuel : r.length + 2 ≤ fuel)
    {it₀ : σ} (h₀ : R it₀ none) (ops : List IterOp) :
    ∃ st', DbIter.run I c s fuel ops (DbIter.create it₀) = some st' := by
  obtain ⟨st', h, _⟩ := run_total hsim s (lt_of_add_two_le hfuel) ops (DbIter.create it₀)
    ⟨0, h₀, Nat.zero_le _, fun h => (by cases h)⟩
  exact ⟨st', h⟩

/-- `dbiter_total` for the plain cursor over any run -/
theorem dbiter_total_run (c : Cmp) (r : Run) (s : Nat) (ops : List IterOp) :
    ∃ st', DbIter.run (runIter c r) c s (dbIterFuel [r]) ops (DbIter.create none) = some st' :=
  dbiter_total (RunCursor.runIter_self_sim c r) s (by simp [dbIterFuel]) rfl ops

/-- `dbiter_total` for the merging iterator over strictly sorted runs with distinct internal keys, whatever
    the value types (corrupt keys included) -/
theorem dbiter_over_merge_total (c : Cmp) (runs : List Run) (hs : ∀ r ∈ runs, RunSorted c r)
    (hd : DistinctKeys c runs) (s : Nat) (ops : List IterOp) :
    ∃ st', DbIter.run (mergeIterI c) c s (dbIterFuel runs) ops
        (DbIter.create (mergeCreate (freshChildren runs))) = some st' :=
  dbiter_total (Merge.merge_sim c runs hs hd) s (by rw [Merge.mergedRun_length]; exact Nat.le_refl _)
    (Merge.mergeRel_create c runs) ops

/-- two runs: `b` has a value (seq 4) under a newer tombstone (seq 6) in another run; `a` is live;
    `c` has only a deletion -/
def exRuns : List Run :=
  [ [⟨[0x61], 5, 1, "a5"⟩, ⟨[0x62], 6, 0, ""⟩, ⟨[0x63], 2, 0, ""⟩],
    [⟨[0x61], 3, 1, "a3"⟩, ⟨[0x62], 4, 1, "b4"⟩, ⟨[0x62], 1, 1, "b1"⟩] ]

example : (∀ r ∈ exRuns, RunSorted .bytewise r) ∧ (∀ r ∈ exRuns, ∀ e ∈ r, e.kind ≤ 1) := by decide +kernel
example : SeqDistinct exRuns := by unfold SeqDistinct; decide +kernel
example : DistinctKeys .bytewise exRuns := by unfold DistinctKeys; decide +kernel

/-- at sequence 5 the tombstone of `b` is invisible -/
example : view .bytewise exRuns.flatten [0x61] 5 = some "a5" ∧ view .bytewise exRuns.flatten [0x62] 5 = some "b4" ∧
    view .bytewise exRuns.flatten [0x63] 5 = none := by decide +kernel
example : view .bytewise exRuns.flatten [0x62] 9 = none := by decide +kernel

/-- two direction changes -/
example :
    (DbIter.run (mergeIterI .bytewise) .bytewise 5 (dbIterFuel exRuns) [.last, .prev, .next]
      (DbIter.create (mergeCreate (freshChildren exRuns)))).map
        (fun st => (st.isValid, st.key? (mergeIterI .bytewise), st.value? (mergeIterI .bytewise)))
      = some (true, some [0x62], some "b4") := by decide +kernel

end Lcdb.C07x
