/-
  Properties of the file-selection mechanisms of src/version_set.c (model: LcdbModel/Model/Policy.lean).
  The mechanisms establish the contracts that `stepOk` of Model/Lsm.lean states relationally:
    * find_file = first file whose largest key is ≥ the target (the `find?` of `levelFile`)
    * some_file_overlaps_range decides "some file's user-key range meets [lo, hi]" (both branches)
    * get_overlapping_inputs: exact selection; level 0: terminates, closed under user-key overlap
    * pick_level_for_memtable_output establishes the flush clause of `stepOk`
    * add_boundary_inputs: terminates, only adds files of the level, closed under boundary files
    * setup_other_inputs establishes the selection clauses (the first six conjuncts, among them (a) and (a'))
      of `stepOk (.compact level in0 in1 outs)`
    * hence so does whatever compact_range returns and whatever pick_compaction returns, by size or by seek
  The statements about get_overlapping_inputs, pick_level_for_memtable_output and add_boundary_inputs include
  that the function does not return `none` with the fuel the model gives it; for setup_other_inputs that is
  `versionSetup_total`.
-/
import LcdbModel.Lemmas.PolicySetup
import LcdbModel.Lemmas.PolicyFind
import LcdbModel.Props.C01
namespace Lcdb.Policy
open Lcdb.CmpBasic Lcdb.Lsm

/-- the binary search returns the index of the first file whose largest key is ≥ the target: it agrees with the
    `find?` of `levelFile` -/
theorem findFile_eq_find (c : Cmp) (files : List FileMeta) (k : Bytes) (p : Nat)
    (hs : LevelSorted c files) (hb : BoundsOk c files) :
    findFile c files k p = files.findIdx (fun f => !ikLt c f.lk f.lp k p) ∧
    files[findFile c files k p]? = files.find? (fun f => !ikLt c f.lk f.lp k p) :=
  ⟨findFile_eq_findIdx c files k p (largestSorted_of_levelSorted hs hb),
   findFile_getElem?_eq_find c files k p (largestSorted_of_levelSorted hs hb)⟩

/-- `levelFile` (the relational model's choice of the file of a deeper level) is find_file + the guard -/
theorem levelFile_eq_findFile (c : Cmp) (files : List FileMeta) (k : Bytes) (p : Nat)
    (hs : LevelSorted c files) (hb : BoundsOk c files) :
    levelFile c files k p =
      match files[findFile c files k p]? with
      | some f => if c.compare k f.sk == .lt then none else some f
      | none => none := by
  rw [(findFile_eq_find c files k p hs hb).2]; rfl

theorem someFileOverlapsRange_iff (c : Cmp) (disjoint : Bool) (files : List FileMeta) (lo hi : Option Bytes)
    (h : disjoint = true → LevelSorted c files ∧ BoundsOk c files ∧ PackedOk files) :
    someFileOverlapsRange c disjoint files lo hi = true ↔ ∃ f ∈ files, rangeHits c lo hi f = true := by
  cases disjoint with
  | false => exact someFileOverlapsRange_linear_iff c files lo hi
  | true => obtain ⟨hs, hb, hp⟩ := h rfl; exact someFileOverlapsRange_binary_iff c files lo hi hs hb hp

/-- level > 0: exactly the files whose user-key range meets `[begin.user, end.user]`, in level order
    (no sortedness needed); level 0: terminates within `goiFuel`, the final widened range `[b', e']` is the hull of
    the result and the original range, and the result is *closed*: no level-0 file outside it overlaps (in user
    keys) a file inside it -/
theorem getOverlappingInputs_spec (c : Cmp) (files : List FileMeta) (b e : Option Bytes) :
    getOverlappingInputs c false files b e = some (files.filter (rangeHits c b e), b, e) ∧
    ∃ r b' e', getOverlappingInputs c true files b e = some (r, b', e') ∧
      r = files.filter (rangeHits c b' e') ∧
      (∀ f ∈ r, (∀ ub, b' = some ub → c.compare f.sk ub ≠ .lt) ∧ (∀ ue, e' = some ue → c.compare f.lk ue ≠ .gt)) ∧
      (b' = none ↔ b = none) ∧ (e' = none ↔ e = none) ∧
      (∀ ub ub', b = some ub → b' = some ub' → ub' = ub ∨ (c.compare ub' ub = .lt ∧ ∃ f ∈ r, f.sk = ub')) ∧
      (∀ ue ue', e = some ue → e' = some ue' → ue' = ue ∨ (c.compare ue' ue = .gt ∧ ∃ f ∈ r, f.lk = ue')) ∧
      (∀ f ∈ files, rangeHits c b e f = true → f ∈ r) ∧
      r.Sublist files ∧
      (∀ g ∈ files, g ∉ r → ∀ f ∈ r, userRangesOverlap c f g = false) := by
  refine ⟨getOverlappingInputs_deep c files b e, ?_⟩
  obtain ⟨r, b', e', h, hp, w⟩ := getOverlappingInputs_rule c true files b e
  obtain ⟨hr, hin⟩ := goiPass_ok hp
  obtain ⟨hhits, hclosed⟩ := getOverlappingInputs_level0_closed h
  -- a bound that moved is the bound of a file that hits the final range, hence of a selected one
  have hmem : ∀ f ∈ files, rangeHits c b' e' f = true → f ∈ r :=
    fun f hf hh => hr ▸ List.mem_filter.mpr ⟨hf, hh⟩
  refine ⟨r, b', e', h, hr, ?_, ?_, ?_, ?_, ?_, hhits, getOverlappingInputs_sublist h, hclosed⟩
  · exact fun f hf => ⟨stickB_false_iff.mp (hin rfl f hf).1, stickE_false_iff.mp (hin rfl f hf).2⟩
  · rcases w.1 with rfl | ⟨f, _, rfl, hs, _⟩
    · exact Iff.rfl
    · obtain ⟨ub, rfl, _⟩ := stickB_iff.mp hs
      exact ⟨fun h => (nomatch h), fun h => (nomatch h)⟩
  · rcases w.2 with rfl | ⟨f, _, rfl, hs, _⟩
    · exact Iff.rfl
    · obtain ⟨ue, rfl, _⟩ := stickE_iff.mp hs
      exact ⟨fun h => (nomatch h), fun h => (nomatch h)⟩
  · rintro ub ub' rfl rfl
    rcases w.1 with h | ⟨f, hf, h, hs, hh⟩
    · exact .inl (Option.some.inj h)
    · obtain ⟨_, hk, hlt⟩ := stickB_iff.mp hs
      cases hk
      exact .inr ⟨Option.some.inj h ▸ hlt, f, hmem f hf hh, (Option.some.inj h).symm⟩
  · rintro ue ue' rfl rfl
    rcases w.2 with h | ⟨f, hf, h, hs, hh⟩
    · exact .inl (Option.some.inj h)
    · obtain ⟨_, hk, hgt⟩ := stickE_iff.mp hs
      cases hk
      exact .inr ⟨Option.some.inj h ▸ hgt, f, hmem f hf hh, (Option.some.inj h).symm⟩

/-- the level chosen for a flushed memtable satisfies the two conjuncts of `stepOk (.flush L f)` that speak of the
    level, `L < 7` and no user-key overlap in the levels `≤ L` unless `L = 0`; and it is at most
    `maxMemCompactLevel` = 2 -/
theorem pickLevel_establishes_flush_clause (c : Cmp) (st : DbState) (hinv : Inv c st)
    (hp : ∀ l, PackedOk (st.level l)) (mfs : Nat) (f : FileMeta) :
    ∃ L, pickLevel c st.levels mfs f.sk f.lk = some L ∧ L ≤ 2 ∧ L < 7 ∧
      (∀ l, l ≤ L → L ≠ 0 → ∀ g ∈ st.level l, userRangesOverlap c f g = false) := by
  obtain ⟨L, h1, h2, h3⟩ :=
    pickLevel_contract c st.levels mfs f.sk f.lk hinv.levelsSorted (boundsOk_of_inv hinv) hp
  exact ⟨L, h1, h2, Nat.lt_of_le_of_lt h2 (by decide), h3 f rfl rfl⟩

/-- if every file of the level has smallest ≤ largest, the loop terminates within `level_files.length + 1`
    rounds, and afterwards no file of the level has a smallest key with the user key of the result's largest key
    `l` that is after `l` in internal-key order -/
theorem addBoundaryInputs_spec (c : Cmp) (levelFiles inputs : List FileMeta) (hb : BoundsOk c levelFiles) :
    ∃ r added, addBoundaryInputs c levelFiles inputs = some r ∧ r = inputs ++ added ∧
      (∀ f ∈ added, f ∈ levelFiles) ∧ (inputs = [] → added = []) ∧
      ∀ l, findLargestKey c r = some l →
        ∀ g ∈ levelFiles, ¬ (ikl c l (smallest g) = true ∧ c.compare g.sk l.1 = .eq) := by
  obtain ⟨r, hr⟩ := addBoundaryInputs_total inputs hb
  obtain ⟨added, h1, h2, h3, h4⟩ := addBoundaryInputs_closed hb hr
  refine ⟨r, added, hr, h1, h2, h3, ?_⟩
  intro l hl g hg ⟨hc1, hc2⟩
  have := h4 l hl g hg
  simp [isCand, hc1, hc2] at this

theorem eq_of_num_eq {c : Cmp} {st : DbState} (hinv : Inv c st) {l : Nat} {f g : FileMeta}
    (hf : f ∈ st.level l) (hg : g ∈ st.level l) (h : f.num = g.num) : f = g := by
  apply Classical.byContradiction
  intro hne
  exact pairwise_symm_mem hinv.numsDistinct (fun h => Ne.symm h) (mem_allFiles_of_mem_level hf)
    (mem_allFiles_of_mem_level hg) hne h

theorem mem_pickNums_iff {c : Cmp} {st : DbState} (hinv : Inv c st) {l : Nat} {S : List FileMeta}
    (hsub : ∀ f ∈ S, f ∈ st.level l) (f : FileMeta) :
    f ∈ pickNums (st.level l) (S.map (·.num)) ↔ f ∈ S := by
  simp only [pickNums, List.mem_filter, List.contains_eq_mem, List.mem_map, decide_eq_true_eq]
  constructor
  · rintro ⟨hf, f', hf', hn⟩
    rw [← eq_of_num_eq hinv (hsub f' hf') hf hn]; exact hf'
  · intro hf; exact ⟨hsub f hf, f, hf, rfl⟩

theorem mem_removeNums_iff {c : Cmp} {st : DbState} (hinv : Inv c st) {l : Nat} {S : List FileMeta}
    (hsub : ∀ f ∈ S, f ∈ st.level l) (g : FileMeta) :
    g ∈ removeNums (st.level l) (S.map (·.num)) ↔ g ∈ st.level l ∧ g ∉ S := by
  simp only [removeNums, List.mem_filter, List.contains_eq_mem, List.mem_map,
    Bool.not_eq_true', decide_eq_false_iff_not]
  constructor
  · rintro ⟨hg, hn⟩
    exact ⟨hg, fun hgS => hn ⟨g, hgS, rfl⟩⟩
  · rintro ⟨hg, hgS⟩
    refine ⟨hg, ?_⟩
    rintro ⟨f', hf', hn⟩
    rw [eq_of_num_eq hinv (hsub f' hf') hg hn] at hf'; exact hgS hf'

/-- **setup_other_inputs establishes the selection contract of a compaction step.**  From a seed as
    `pick_compaction` / `compact_range` make it (`SeedOk`), the pair `(in0, in1)` returned by setup_other_inputs —
    whichever branch it took — satisfies the first six conjuncts of `stepOk (.compact level in0 in1 outs)`, among them
    (a) what stays in `level` is newer key by key than what leaves it, and (a') what stays in `level+1` is newer than
    every input.  The function does not fault (the hypothesis `h` is satisfiable: see `versionSetup_total`). -/
theorem setupOtherInputs_establishes_contract (c : Cmp) (st : DbState) (hinv : Inv c st) (mfs level : Nat)
    (seed : List FileMeta) (s : Setup)
    (hseed : SeedOk c (st.level level) (level == 0) seed)
    (hd : level ≠ 0 → LevelSeqDistinct c (st.level level)) (hd1 : LevelSeqDistinct c (st.level (level + 1)))
    (h : versionSetup c mfs st.levels level seed = some s) :
    let in0 := s.in0.map (·.num)
    let in1 := s.in1.map (·.num)
    let ins := (pickNums (st.level level) in0 ++ pickNums (st.level (level + 1)) in1).flatMap (·.run)
    level + 1 < 7 ∧ in0 ≠ [] ∧
    (∀ n ∈ in0, ∃ f ∈ st.level level, f.num = n) ∧ (∀ n ∈ in1, ∃ f ∈ st.level (level + 1), f.num = n) ∧
    (∀ g ∈ removeNums (st.level level) in0, ∀ f ∈ pickNums (st.level level) in0, NewerThan c g.run f.run) ∧
    (∀ g ∈ removeNums (st.level (level + 1)) in1, NewerThan c g.run ins) := by
  intro in0 in1 ins
  have hok := fileOk_of_inv hinv
  obtain ⟨hlev, hsel⟩ := versionSetup_selected
    (fun h0 => hinv.levelsSorted level (Nat.pos_of_ne_zero (ne_of_beq_false h0)))
    (hinv.levelsSorted (level + 1) (Nat.le_add_left 1 level)) (boundsOk_of_inv hinv level)
    (boundsOk_of_inv hinv (level + 1)) hseed h
  obtain ⟨hA, hA'⟩ := hsel.newer (hok level) (hok (level + 1)) (kinds_of_inv hinv level) (kinds_of_inv hinv (level + 1))
    (fun h0 => hd (ne_of_beq_false h0)) hd1
  have hsub0 := hsel.sub0
  have hsub1 := hsel.sub1
  refine ⟨hlev, ?_, ?_, ?_, ?_, ?_⟩
  · intro he; exact hsel.ne (List.map_eq_nil_iff.mp he)
  · intro n hn
    obtain ⟨f, hf, rfl⟩ := List.mem_map.mp hn
    exact ⟨f, hsub0 f hf, rfl⟩
  · intro n hn
    obtain ⟨f, hf, rfl⟩ := List.mem_map.mp hn
    exact ⟨f, hsub1 f hf, rfl⟩
  · intro g hg f hf
    rw [mem_removeNums_iff hinv hsub0] at hg
    rw [mem_pickNums_iff hinv hsub0] at hf
    exact hA g hg.1 hg.2 f hf
  · intro g hg x hx y hy
    rw [mem_removeNums_iff hinv hsub1] at hg
    obtain ⟨f, hf, hyf⟩ := List.mem_flatMap.mp hy
    rcases List.mem_append.mp hf with hf | hf
    · rw [mem_pickNums_iff hinv hsub0] at hf
      exact (hA' g hg.1 hg.2).1 f hf x hx y hyf
    · rw [mem_pickNums_iff hinv hsub1] at hf
      exact (hA' g hg.1 hg.2).2 f hf x hx y hyf

/-- end to end for manual compactions: whatever `ldb_versions_compact_range` returns satisfies the selection
    clauses of `stepOk (.compact ..)` (the seed is get_overlapping_inputs of the level, cut by size on levels ≥ 1) -/
theorem compactRange_establishes_contract (c : Cmp) (st : DbState) (hinv : Inv c st) (mfs level : Nat)
    (b e : Option IKey) (s : Setup)
    (hd : level ≠ 0 → LevelSeqDistinct c (st.level level)) (hd1 : LevelSeqDistinct c (st.level (level + 1)))
    (h : compactRange c mfs st.levels level b e = some (some s)) :
    let in0 := s.in0.map (·.num)
    let in1 := s.in1.map (·.num)
    let ins := (pickNums (st.level level) in0 ++ pickNums (st.level (level + 1)) in1).flatMap (·.run)
    level + 1 < 7 ∧ in0 ≠ [] ∧
    (∀ n ∈ in0, ∃ f ∈ st.level level, f.num = n) ∧ (∀ n ∈ in1, ∃ f ∈ st.level (level + 1), f.num = n) ∧
    (∀ g ∈ removeNums (st.level level) in0, ∀ f ∈ pickNums (st.level level) in0, NewerThan c g.run f.run) ∧
    (∀ g ∈ removeNums (st.level (level + 1)) in1, NewerThan c g.run ins) := by
  obtain ⟨seed, hseed, hs⟩ := compactRange_seed (hinv.levelsSorted level) (boundsOk_of_inv hinv level) h
  exact setupOtherInputs_establishes_contract c st hinv mfs level seed s hseed hd hd1 hs

/-! non-vacuity: the example state of `Props/C01` (level 0 = two overlapping files `f9` [a..e], `f12` [b..d];
     level 1 = `f7` [c@11 .. e@10], `f8` [e@9 .. f@8]: user key `e` straddles the two files; level 3 = `f3`) -/
section Examples
open Lcdb.C01

def showSetup (s : Option Setup) :=
  s.map (fun s => (s.in0.map (·.num), s.in1.map (·.num), s.grandparents.map (·.num), s.compactPointer))

theorem exLevelOk : LevelSorted .bytewise (exSt.level 1) ∧ BoundsOk .bytewise (exSt.level 1) ∧ PackedOk (exSt.level 1) := by
  decide +kernel

theorem exDistinct : LevelSeqDistinct .bytewise (exSt.level 1) ∧ LevelSeqDistinct .bytewise (exSt.level 2) := by
  unfold LevelSeqDistinct; decide +kernel

theorem exPacked : ∀ l, PackedOk (exSt.level l) :=
  packedOk_of_range rfl (by decide +kernel)

-- 1. find_file on level 1: the key (e, seq 9) is after `f7`'s largest (e, seq 10): index 1
example : findFile .bytewise (exSt.level 1) [101] (9 * 256 + 1) = 1 := by
  rw [(findFile_eq_find _ _ _ _ exLevelOk.1 exLevelOk.2.1).1]; decide
-- 2. the binary branch sees the overlap of [f, g] with `f8`
example : someFileOverlapsRange .bytewise true (exSt.level 1) (some [102]) (some [103]) = true := by
  rw [someFileOverlapsRange_iff _ _ _ _ _ (fun _ => exLevelOk)]; exact ⟨f8, by decide +kernel, by decide +kernel⟩
-- 3. level 0 from the range [b, b]: `f9` is hit first and widens the range, the restart picks `f12` too
example : (goi .bytewise true (exSt.level 0) (some ([98], 0)) (some ([98], 0))).map (·.map (·.num)) = some [9, 12] := by
  decide +kernel
-- 4. a memtable with keys [i, j] overlaps nothing
example : ∃ L, pickLevel .bytewise exSt.levels 100 [105] [106] = some L ∧ L ≤ 2 ∧ L < 7 ∧
    ∀ l, l ≤ L → L ≠ 0 → ∀ g ∈ exSt.level l, userRangesOverlap .bytewise (mkFile 20 [ent 105 21 1 "i", ent 106 22 1 "j"]) g = false :=
  pickLevel_establishes_flush_clause .bytewise exSt exInv exPacked 100 (mkFile 20 [ent 105 21 1 "i", ent 106 22 1 "j"])
-- 5. `f8` is the boundary file of `f7`
example : (addBoundaryInputs .bytewise (exSt.level 1) [f7]).map (·.map (·.num)) = some [7, 8] := by decide +kernel
-- 6. compaction of level 1 seeded with `f7`: in0 = {f7, f8}, in1 = {}, grandparents = {f3}, compact pointer = f8.largest
example : showSetup (versionSetup .bytewise 100 exSt.levels 1 [f7]) = some ([7, 8], [], [3], ([102], 8 * 256 + 1)) := by
  decide +kernel
example (s : Setup) (h : versionSetup .bytewise 100 exSt.levels 1 [f7] = some s) :=
  setupOtherInputs_establishes_contract .bytewise exSt exInv 100 1 [f7] s
    (seedOk_singleton exLevelOk.2.1 (by decide +kernel))
    (fun _ => exDistinct.1) exDistinct.2 h
-- level 0 seeded the way pick_compaction does (closure of `f12`): in0 = {f9, f12}, in1 = {f7, f8} (boundary file!)
example : showSetup (versionSetup .bytewise 100 exSt.levels 0 [f9, f12]) = some ([9, 12], [7, 8], [], ([101], 12 * 256 + 1)) := by
  decide +kernel
example (s : Setup) (h : versionSetup .bytewise 100 exSt.levels 0 [f9, f12] = some s) :=
  setupOtherInputs_establishes_contract .bytewise exSt exInv 100 0 [f9, f12] s
    (seedOk_goi0 (c := .bytewise) (lv := exSt.level 0) (b := some ([98], 0)) (e := some ([98], 0)) (by decide +kernel) (by decide +kernel))
    (fun h => absurd rfl h) exDistinct.1 h

end Examples

/-- **`ldb_versions_pick_compaction` establishes the selection contract of a compaction step.**  Inputs as the C code reads
    them: `sizeLevel = some l` iff `compaction_score ≥ 1` (with `compaction_level = l`), `seek = file_to_compact(_level)`,
    `cp = compact_pointer[l]` (`none` = empty); the seek victim is only consulted when there is no size compaction.
    Whatever compaction `(level, s)` is returned — size compaction by compact pointer incl. the wrap-around, seek
    compaction, with the level-0 re-expansion — satisfies the first six conjuncts of
    `stepOk c st (.compact level (s.in0.map (·.num)) (s.in1.map (·.num)) outs)`.  (`level + 1 < 7` is a conclusion:
    for other levels the model faults, as the C code reads out of bounds.) -/
theorem pickCompaction_establishes_contract (c : Cmp) (st : DbState) (hinv : Inv c st) (mfs : Nat)
    (sizeLevel : Option Nat) (seek : Option (Nat × FileMeta)) (cp : Option IKey) (level : Nat) (s : Setup)
    (hseek : sizeLevel = none → ∀ l f, seek = some (l, f) → f ∈ st.level l)
    (hd : level ≠ 0 → LevelSeqDistinct c (st.level level)) (hd1 : LevelSeqDistinct c (st.level (level + 1)))
    (h : pickCompaction c mfs st.levels sizeLevel seek cp = some (some (level, s))) :
    let in0 := s.in0.map (·.num)
    let in1 := s.in1.map (·.num)
    let ins := (pickNums (st.level level) in0 ++ pickNums (st.level (level + 1)) in1).flatMap (·.run)
    level + 1 < 7 ∧ in0 ≠ [] ∧
    (∀ n ∈ in0, ∃ f ∈ st.level level, f.num = n) ∧ (∀ n ∈ in1, ∃ f ∈ st.level (level + 1), f.num = n) ∧
    (∀ g ∈ removeNums (st.level level) in0, ∀ f ∈ pickNums (st.level level) in0, NewerThan c g.run f.run) ∧
    (∀ g ∈ removeNums (st.level (level + 1)) in1, NewerThan c g.run ins) := by
  obtain ⟨seed, hseed, hs⟩ := pickCompaction_seed (boundsOk_of_inv hinv) hseek h
  exact setupOtherInputs_establishes_contract c st hinv mfs level seed s hseed hd hd1 hs

/-- size compactions (first file after the compact pointer, wrap-around included): no hypothesis on the inputs at all -/
theorem pickCompaction_size_establishes_contract (c : Cmp) (st : DbState) (hinv : Inv c st) (mfs l : Nat)
    (seek : Option (Nat × FileMeta)) (cp : Option IKey) (level : Nat) (s : Setup)
    (hd : level ≠ 0 → LevelSeqDistinct c (st.level level)) (hd1 : LevelSeqDistinct c (st.level (level + 1)))
    (h : pickCompaction c mfs st.levels (some l) seek cp = some (some (level, s))) :
    let in0 := s.in0.map (·.num)
    let in1 := s.in1.map (·.num)
    let ins := (pickNums (st.level level) in0 ++ pickNums (st.level (level + 1)) in1).flatMap (·.run)
    level + 1 < 7 ∧ in0 ≠ [] ∧
    (∀ n ∈ in0, ∃ f ∈ st.level level, f.num = n) ∧ (∀ n ∈ in1, ∃ f ∈ st.level (level + 1), f.num = n) ∧
    (∀ g ∈ removeNums (st.level level) in0, ∀ f ∈ pickNums (st.level level) in0, NewerThan c g.run f.run) ∧
    (∀ g ∈ removeNums (st.level (level + 1)) in1, NewerThan c g.run ins) :=
  pickCompaction_establishes_contract c st hinv mfs (some l) seek cp level s (fun h => by cases h) hd hd1 h

/-- seek compactions: the victim must be a file of its level -/
theorem pickCompaction_seek_establishes_contract (c : Cmp) (st : DbState) (hinv : Inv c st) (mfs l : Nat)
    (f : FileMeta) (cp : Option IKey) (level : Nat) (s : Setup) (hf : f ∈ st.level l)
    (hd : level ≠ 0 → LevelSeqDistinct c (st.level level)) (hd1 : LevelSeqDistinct c (st.level (level + 1)))
    (h : pickCompaction c mfs st.levels none (some (l, f)) cp = some (some (level, s))) :
    let in0 := s.in0.map (·.num)
    let in1 := s.in1.map (·.num)
    let ins := (pickNums (st.level level) in0 ++ pickNums (st.level (level + 1)) in1).flatMap (·.run)
    level + 1 < 7 ∧ in0 ≠ [] ∧
    (∀ n ∈ in0, ∃ f ∈ st.level level, f.num = n) ∧ (∀ n ∈ in1, ∃ f ∈ st.level (level + 1), f.num = n) ∧
    (∀ g ∈ removeNums (st.level level) in0, ∀ f ∈ pickNums (st.level level) in0, NewerThan c g.run f.run) ∧
    (∀ g ∈ removeNums (st.level (level + 1)) in1, NewerThan c g.run ins) :=
  pickCompaction_establishes_contract c st hinv mfs none (some (l, f)) cp level s
    (fun _ l' f' h' => by cases h'; exact hf) hd hd1 h

section ExamplesPick
open Lcdb.C01

def showPick (r : Option (Option (Nat × Setup))) : Option (Option (Nat × List Nat × List Nat)) :=
  r.map (fun o => o.map (fun p => (p.1, p.2.in0.map (·.num), p.2.in1.map (·.num))))

-- seek compaction of the newer level-0 file `f12` [b..d]: the re-expansion hits the older `f9` [a..e], which widens the
-- range; inputs[0] = {f9, f12}; inputs[1] = `f7` [c..e@10] plus its boundary file `f8` [e@9..f]
example : showPick (pickCompaction .bytewise 100 exSt.levels none (some (0, f12)) none)
    = some (some (0, [9, 12], [7, 8])) := by decide +kernel
example (s : Setup) (h : pickCompaction .bytewise 100 exSt.levels none (some (0, f12)) none = some (some (0, s))) :=
  pickCompaction_seek_establishes_contract .bytewise exSt exInv 100 0 f12 none 0 s (by decide +kernel)
    (fun h => absurd rfl h) exDistinct.1 h
-- size compaction of level 1 with the compact pointer at `f8`'s largest key: nothing after it, wrap-around to `f7`,
-- whose boundary file `f8` comes along
example : showPick (pickCompaction .bytewise 100 exSt.levels (some 1) none (some ([102], 8 * 256 + 1)))
    = some (some (1, [7, 8], [])) := by decide +kernel
example (s : Setup) (h : pickCompaction .bytewise 100 exSt.levels (some 1) none (some ([102], 8 * 256 + 1)) = some (some (1, s))) :=
  pickCompaction_size_establishes_contract .bytewise exSt exInv 100 1 none _ 1 s
    (fun _ => exDistinct.1) exDistinct.2 h

end ExamplesPick

end Lcdb.Policy
