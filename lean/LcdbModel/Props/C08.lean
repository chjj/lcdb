/-
  C08 -- linearizability of writes and reads.

  `st.committed` is the sequential history (batch ids in commit order), `st.lastSeq` the published sequence (= number
  of committed batches), `st.log` the real-time log of invocations `(tid, false, lastSeq)` and responses
  `(tid, true, lastSeq)`.
-/
import LcdbModel.Lemmas.Conc
import LcdbModel.Lemmas.ConcDemo

namespace Lcdb.C08
open Lcdb.Conc

/-- The published sequence is the length of the history. -/
theorem lastSeq_committed {ws : List Writer} {rs : List Reader} (hwf : WF ws rs) {st : St} (h : Reachable ws rs st) :
    st.lastSeq = st.committed.length :=
  (reachable_Inv hwf h).l.lastSeq_eq

/-- A step only appends to the history, and advances the published sequence by the number of batches appended. -/
theorem committed_grows {ws : List Writer} {rs : List Reader} (hwf : WF ws rs) {st st' : St} {l : Label}
    (h : Reachable ws rs st) (hs : step st l = some st') :
    ∃ ext, st'.committed = st.committed ++ ext ∧ st'.lastSeq = st.lastSeq + ext.length := by
  have H := reachable_Inv hwf h
  rcases step_history H.q hs with ⟨h1, h2, _, _⟩ | ⟨t, _, h1, h2, _⟩
  · exact ⟨[], by simp [h1], by simp [h2]⟩
  · refine ⟨_, h1, ?_⟩
    rw [h2, length_batches _ (fun m hm => H.q.qmem m (H.q.pfx.subset hm))]

/-- Every batch is committed at most once, and exactly once iff its writer was (or is being) told so. -/
theorem commit_once {ws : List Writer} {rs : List Reader} (hwf : WF ws rs) {st : St} (h : Reachable ws rs st) :
    st.committed.Nodup ∧
    (∀ b ∈ st.committed, ∃ w ∈ st.writers, w.batch = b) ∧
    ∀ w ∈ st.writers,
      (w.pc = .returned true → st.committed.count w.batch = 1) ∧
      (w.pc = .returned false → st.committed.count w.batch = 0) ∧
      ((∀ ok, w.pc ≠ .returned ok) → w.done = true → w.status = true → st.committed.count w.batch = 1) ∧
      ((∀ ok, w.pc ≠ .returned ok) → (w.done = false ∨ w.status = false) → st.committed.count w.batch = 0) := by
  have H := (reachable_Inv hwf h).l
  refine ⟨?_, H.from_writer, ?_⟩
  · apply nodup_of_count_le
    intro b hb
    obtain ⟨w, hw, rfl⟩ := H.from_writer b hb
    exact Nat.le_trans (Nat.le_of_eq (H.wc w hw)) (by split <;> omega)
  · intro w hw
    have hc := H.wc w hw
    unfold WC at hc
    refine ⟨?_, ?_, ?_, ?_⟩
    · intro hpc; rw [hc]; simp [wCommitted, hpc]
    · intro hpc; rw [hc]; simp [wCommitted, hpc]
    · intro hpc hd hs; rw [hc, wCommitted_eq, retOk_none_of hpc]; simp [hd, hs]
    · intro hpc hds; rw [hc, wCommitted_eq, retOk_none_of hpc]
      rcases hds with hd | hs
      · simp [hd]
      · simp [hs]

/-- FIFO: successfully committed batches appear in the history in the order in which their writers entered the
    queue. -/
theorem fifo_order {ws : List Writer} {rs : List Reader} (hwf : WF ws rs) {st : St} (h : Reachable ws rs st)
    {a b : Writer} (ha : a ∈ st.writers) (hb : b ∈ st.writers)
    (hca : wCommitted a = true) (hcb : wCommitted b = true)
    (hord : [a.tid, b.tid].Sublist (invocations st.log)) :
    [a.batch, b.batch].Sublist st.committed := by
  have H := reachable_Inv hwf h
  obtain ⟨removed, e1, e2, _⟩ := H.l.fifo
  have h1 := sublist_writerInvs ha hb hord
  rw [e1, List.sublist_append_iff] at h1
  obtain ⟨l1, l2, e, s1, s2⟩ := h1
  have hbq : b.tid ∉ st.queue := by
    intro hm
    rw [(H.q.queued_pending hb hm).1] at hcb
    cases hcb
  have hl2 : l2 = [] := by
    rcases List.eq_nil_or_concat l2 with rfl | ⟨l, x, rfl⟩
    · rfl
    · have := congrArg List.getLast? e
      simp at this
      exact absurd (s2.subset (by simp [this])) hbq
  rw [hl2, List.append_nil] at e
  subst e
  have := s1.filterMap (commitBatch st)
  rw [← e2] at this
  have hga := getW_of_mem H.q.wnodup ha
  have hgb := getW_of_mem H.q.wnodup hb
  simpa [commitBatch, hga, hgb, hca, hcb] using this

/-- Real-time order: if `a` returned (successfully) before `b` was invoked, `a`'s batch precedes `b`'s. -/
theorem realtime_order {ws : List Writer} {rs : List Reader} (hwf : WF ws rs) {st : St} (h : Reachable ws rs st)
    {a b : Writer} (ha : a ∈ st.writers) (hb : b ∈ st.writers)
    (hra : a.pc = .returned true) (hcb : wCommitted b = true) {x y : Nat}
    (hord : [((a.tid, true, x) : Entry), (b.tid, false, y)].Sublist st.log) :
    [a.batch, b.batch].Sublist st.committed := by
  have H := reachable_Inv hwf h
  have hl := H.l.wlog' ha
  simp only [WLog, hra, retOk] at hl
  obtain ⟨s0, s1, hent, _⟩ := hl
  have := inv_before_of_resp_before hent hord
  exact fifo_order hwf h ha hb (by simp [wCommitted, hra]) hcb (invocations_pair this)

def captured : RPc → Option Nat
  | .idle => none
  | .reading s => some s
  | .releasing s => some s
  | .returned s => some s

/-- what a reader with captured sequence `s` reads: the first `s` batches of the history -/
def view (st : St) (s : Nat) : List Nat := st.committed.take s

theorem captured_entries {st : St} {r : Reader} (h : RL st r) {s : Nat} (hc : captured r.pc = some s) :
    ∃ rest, entriesOf st.log r.tid = (r.tid, false, s) :: rest ∧ ∀ e ∈ rest, e.2.1 = true := by
  unfold RL at h
  cases hpc : r.pc <;> simp only [hpc, captured] at h hc
  · cases hc
  · exact ⟨[], by rw [h, Option.some.inj hc], nofun⟩
  · exact ⟨[], by rw [h, Option.some.inj hc], nofun⟩
  · obtain ⟨s1, h⟩ := h
    exact ⟨[(r.tid, true, s1)], by rw [h, Option.some.inj hc], by simp⟩

theorem reader_inv_entry {ws : List Writer} {rs : List Reader} (hwf : WF ws rs) {st : St} (h : Reachable ws rs st)
    {r : Reader} (hr : r ∈ st.readers) {s : Nat} (hc : captured r.pc = some s) {y : Nat}
    (hm : ((r.tid, false, y) : Entry) ∈ st.log) : y = s := by
  obtain ⟨rest, he, hrest⟩ := captured_entries ((reachable_Inv hwf h).l.rl r hr) hc
  have hm' : ((r.tid, false, y) : Entry) ∈ entriesOf st.log r.tid := mem_entriesOf.2 ⟨hm, rfl⟩
  rw [he] at hm'
  rcases List.mem_cons.1 hm' with h1 | h1
  · exact (Prod.mk.inj (Prod.mk.inj h1).2).2
  · exact absurd (hrest _ h1) (by simp)

theorem log_le_of_sublist {ws : List Writer} {rs : List Reader} (hwf : WF ws rs) {st : St} (h : Reachable ws rs st)
    {e1 e2 : Entry} (hs : [e1, e2].Sublist st.log) : e1.2.2 ≤ e2.2.2 := by
  have := (reachable_Inv hwf h).l.log_mono
  have := List.Pairwise.sublist (hs.map (·.2.2)) this
  simpa using this

/-- A reader's captured sequence is the published sequence at its invocation, which is at most the published
    sequence at its response: what it reads, `view st s`, is the sequential state at a point inside its interval. -/
theorem reader_linearizable {ws : List Writer} {rs : List Reader} (hwf : WF ws rs) {st : St} (h : Reachable ws rs st)
    {r : Reader} (hr : r ∈ st.readers) {s : Nat} (hpc : r.pc = .returned s) :
    ∃ s1, entriesOf st.log r.tid = [(r.tid, false, s), (r.tid, true, s1)] ∧ s ≤ s1 ∧ s1 ≤ st.lastSeq ∧
      s1 ≤ st.committed.length ∧ view st s <+: view st s1 := by
  have H := (reachable_Inv hwf h).l
  have hrl := H.rl r hr
  simp only [RL, hpc] at hrl
  obtain ⟨s1, hent⟩ := hrl
  have hsub : [((r.tid, false, s) : Entry), (r.tid, true, s1)].Sublist st.log := by
    rw [← hent]; exact List.filter_sublist
  have h1 : s ≤ s1 := log_le_of_sublist hwf h hsub
  have h2 : s1 ≤ st.lastSeq := H.log_le (r.tid, true, s1) (hsub.subset (by simp))
  exact ⟨s1, hent, h1, h2, by rw [← H.lastSeq_eq]; exact h2, List.take_prefix_take_left h1⟩

theorem reader_captured {ws : List Writer} {rs : List Reader} (hwf : WF ws rs) {st : St} (h : Reachable ws rs st)
    {r : Reader} (hr : r ∈ st.readers) {s : Nat} (hc : captured r.pc = some s) :
    ((r.tid, false, s) : Entry) ∈ st.log := by
  have H := (reachable_Inv hwf h).l
  obtain ⟨rest, he, _⟩ := captured_entries (H.rl r hr) hc
  exact (mem_entriesOf.1 (he ▸ List.mem_cons_self)).1

/-- the step that captures: the invocation is logged with the published sequence, which is what the reader will use -/
theorem rCapture_spec {st st' : St} {t : Tid} (hs : step st (.rCapture t) = some st') :
    st'.log = st.log ++ [(t, false, st.lastSeq)] ∧ ∃ r ∈ st'.readers, r.tid = t ∧ r.pc = .reading st.lastSeq := by
  obtain ⟨r, hg, _, _, rfl⟩ := step_rCapture hs
  obtain ⟨hr, rfl⟩ := getR_some hg
  refine ⟨rfl, { r with pc := .reading st.lastSeq }, ?_, rfl, rfl⟩
  simp only [setR, List.mem_map]
  exact ⟨r, hr, by simp⟩

/-- Monotone reads: if `r1` returned before `r2` was invoked then `r2` reads a state at least as new. -/
theorem reads_monotone {ws : List Writer} {rs : List Reader} (hwf : WF ws rs) {st : St} (h : Reachable ws rs st)
    {r1 r2 : Reader} (h1 : r1 ∈ st.readers) (h2 : r2 ∈ st.readers) {s1 s2 : Nat}
    (hp1 : r1.pc = .returned s1) (hp2 : captured r2.pc = some s2) {x y : Nat}
    (hord : [((r1.tid, true, x) : Entry), (r2.tid, false, y)].Sublist st.log) :
    s1 ≤ s2 ∧ view st s1 <+: view st s2 := by
  obtain ⟨x1, hent, hle, _⟩ := reader_linearizable hwf h h1 hp1
  have hx : x = x1 := by
    have : ((r1.tid, true, x) : Entry) ∈ entriesOf st.log r1.tid := mem_entriesOf.2 ⟨hord.subset (by simp), rfl⟩
    rw [hent] at this; simpa using this
  have hy : y = s2 := reader_inv_entry hwf h h2 hp2 (hord.subset (by simp))
  have hxy : x ≤ y := log_le_of_sublist hwf h hord
  have : s1 ≤ s2 := by omega
  exact ⟨this, List.take_prefix_take_left this⟩

/-- Read your (and everybody's) acknowledged writes: a reader invoked after writer `a` returned successfully
    sees `a`'s batch. -/
theorem reader_sees_write {ws : List Writer} {rs : List Reader} (hwf : WF ws rs) {st : St} (h : Reachable ws rs st)
    {a : Writer} {r : Reader} (ha : a ∈ st.writers) (hr : r ∈ st.readers)
    (hra : a.pc = .returned true) {s : Nat} (hc : captured r.pc = some s) {x y : Nat}
    (hord : [((a.tid, true, x) : Entry), (r.tid, false, y)].Sublist st.log) :
    a.batch ∈ view st s := by
  have H := (reachable_Inv hwf h).l
  have hl := H.wlog' ha
  simp only [WLog, hra, retOk] at hl
  obtain ⟨s0, s1, hent, hb⟩ := hl
  have hx : x = s1 := by
    have : ((a.tid, true, x) : Entry) ∈ entriesOf st.log a.tid := mem_entriesOf.2 ⟨hord.subset (by simp), rfl⟩
    rw [hent] at this; simpa using this
  have hy : y = s := reader_inv_entry hwf h hr hc (hord.subset (by simp))
  have hxy : x ≤ y := log_le_of_sublist hwf h hord
  exact (List.take_prefix_take_left (l := st.committed) (by omega : s1 ≤ s)).subset (hb trivial)

/-- When every writer has returned (or never started) the history is exactly the batches of the writers that
    returned success, in the order in which they entered the queue; in particular a permutation of those batches. -/
theorem final_state {ws : List Writer} {rs : List Reader} (hwf : WF ws rs) {st : St} (h : Reachable ws rs st)
    (hdone : ∀ w ∈ st.writers, w.pc = .idle ∨ ∃ ok, w.pc = .returned ok) :
    st.queue = [] ∧
    st.committed = (writerInvs st).filterMap (commitBatch st) ∧
    st.committed.Perm ((st.writers.filter fun w => w.pc == .returned true).map (·.batch)) := by
  have H := reachable_Inv hwf h
  have hq : st.queue = [] := by
    cases hq : st.queue with
    | nil => rfl
    | cons t q =>
      obtain ⟨w, hw, hwt⟩ := H.q.qmem t (by rw [hq]; simp)
      have := H.q.queued hw (by rw [hwt, hq]; simp)
      rcases hdone w hw with h1 | ⟨ok, h1⟩
      · exact absurd h1 this.2.1
      · exact absurd h1 (this.2.2 ok)
  refine ⟨hq, ?_, ?_⟩
  · obtain ⟨removed, e1, e2, _⟩ := H.l.fifo
    rw [e1, hq, List.append_nil]; exact e2
  · have hnd := (commit_once hwf h).1
    have hnd2 : ((st.writers.filter fun w => w.pc == .returned true).map (·.batch)).Nodup :=
      List.Nodup.sublist (List.filter_sublist.map _) H.l.batches
    rw [List.perm_ext_iff_of_nodup hnd hnd2]
    intro b
    simp only [List.mem_map, List.mem_filter, beq_iff_eq]
    constructor
    · intro hb
      obtain ⟨w, hw, rfl⟩ := H.l.from_writer b hb
      refine ⟨w, ⟨hw, ?_⟩, rfl⟩
      have hcw := (H.l.wc w hw).mem_iff.1 hb
      rcases hdone w hw with h1 | ⟨ok, h1⟩
      · rw [wCommitted_of_not_done (H.q.idle_facts hw h1).1 (by simp [h1, retOk])] at hcw; cases hcw
      · rw [h1]; simpa [wCommitted, h1] using hcw
    · rintro ⟨w, ⟨hw, hpc⟩, rfl⟩
      exact (H.l.wc w hw).mem_iff.2 (by simp [wCommitted, hpc])

/-- A sync writer is never acknowledged by a leader that did not sync: in every `wCommit` of a non-sync leader no
    member of the group is a sync writer. -/
theorem sync_not_in_nonsync_group {ws : List Writer} {rs : List Reader} (hwf : WF ws rs) {st st' : St}
    (h : Reachable ws rs st) {t : Tid} {sf : Bool} (hs : step st (.wCommit t sf) = some st') :
    ∃ w, getW st t = some w ∧ st.inflight.head? = some t ∧
      (w.sync = false → ∀ m ∈ st.inflight, ∀ x, getW st m = some x → x.sync = false) := by
  have H := reachable_Inv hwf h
  obtain ⟨w, hw, hws⟩ := step_writer H.q hs rfl
  cases hws with
  | commit _ _ hi =>
  refine ⟨w, getW_of_mem H.q.wnodup hw, hi, ?_⟩
  intro hws m hm x hx
  obtain ⟨hx', hxt⟩ := getW_some hx
  have := H.s w.tid hi (by simp only [syncTable, List.mem_map]; exact ⟨w, hw, by simp [hws]⟩) m hm
  cases hxs : x.sync with
  | false => rfl
  | true => exact absurd (by simp only [syncTable, List.mem_map]; exact ⟨x, hx', by simp [hxt, hxs]⟩) this

section Examples
open Lcdb.Conc.Demo

example : st3.lastSeq = st3.committed.length := lastSeq_committed wf reach3
example : st3.committed.Nodup := (commit_once wf reach3).1
-- writers 1, 2, 3 entered in this order and all committed, 3 as a follower of 2
example : [10, 30].Sublist st3.committed := by
  rw [st3_eq]
  exact fifo_order wf reach3s (a := s3.writers[0]'(by decide)) (b := s3.writers[2]'(by decide)) (List.getElem_mem _) (List.getElem_mem _)
    rfl rfl (by decide)
-- reader 12 was invoked after writer 1 returned (fifth entry of the log) and sees batch 10
example : (10 : Nat) ∈ view st3 1 := by
  rw [st3_eq]
  exact reader_sees_write wf reach3s (a := s3.writers[0]'(by decide)) (r := s3.readers[1]'(by decide))
    (List.getElem_mem _) (List.getElem_mem _) rfl (s := 1) rfl (x := 1) (y := 1) (by decide)
example : ∃ s1, entriesOf st3.log 12 = [(12, false, 1), (12, true, s1)] ∧ 1 ≤ s1 ∧ s1 ≤ st3.lastSeq ∧
    s1 ≤ st3.committed.length ∧ view st3 1 <+: view st3 s1 := by
  rw [st3_eq]
  exact reader_linearizable wf reach3s (r := s3.readers[1]'(by decide)) (List.getElem_mem _) (s := 1) rfl
example : st3.committed.Perm [10, 20, 30] := by
  rw [st3_eq]; exact (final_state wf reach3s (by decide)).2.2
-- in the sequential run writer 1 returned before writer 2 was invoked, reader 11 before reader 12
example : [10, 20].Sublist st'.committed := by
  rw [st'_eq]
  exact realtime_order wf' reach's (a := s'.writers[0]'(by decide)) (b := s'.writers[1]'(by decide)) (List.getElem_mem _)
    (List.getElem_mem _) rfl rfl (x := 1) (y := 1) (by decide)
example : 1 ≤ 2 ∧ view st' 1 <+: view st' 2 := by
  rw [st'_eq]
  exact reads_monotone wf' reach's (r1 := s'.readers[0]'(by decide)) (r2 := s'.readers[1]'(by decide))
    (List.getElem_mem _) (List.getElem_mem _) (s1 := 1) (s2 := 2) rfl rfl (x := 1) (y := 2) (by decide)
-- the group commit of the sync leader 2 with the non-sync follower 3 (the next label after `st2`) is enabled: a
-- sync leader may take non-sync followers, only the converse is excluded (`sync_not_in_nonsync_group`)
example : ∃ st', step st2 (.wCommit 2 false) = some st' := by rw [st2_eq]; exact ⟨_, rfl⟩

end Examples

end Lcdb.C08
