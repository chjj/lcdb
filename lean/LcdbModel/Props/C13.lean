/-
  C13: garbage collection of database files (`ldb_remove_obsolete_files`, db_impl.c:644-735) never
  removes a file that is still needed, removes everything else, and file numbers handed out by the
  version set are fresh.

  Model: LcdbModel/Model/Files.lean.  `toDelete s dir` are the names unlinked for the directory listing
  `dir`; `removeObsolete s dir` is the listing afterwards.  The allocator as a machine (`runAlloc` over
  `AllocOp`, the call discipline `Disciplined`, `dropCancelled`): LcdbModel/Lemmas/Files.lean.
-/
import LcdbModel.Lemmas.Files
import LcdbModel.Props.C20
namespace Lcdb.C13
open Lcdb Lcdb.Files

theorem live_protects {s : GcState} {name : String} {ty : FileType} {n : Nat} (dir : List String)
    (hp : parseFileName name = some (ty, n)) (hty : ty = .table ∨ ty = .temp) (hl : n ∈ liveSet s) :
    name ∉ toDelete s dir := by
  intro h
  have hk := (keep_of_parse hp).symm.trans (keep_false_of_mem_toDelete h)
  rcases hty with rfl | rfl <;> simp [hl] at hk

/-- No table of any live version or pending output is ever removed. -/
theorem never_delete_live (s : GcState) (dir : List String) (name : String) :
    name ∈ toDelete s dir → ∀ n, parseFileName name = some (.table, n) → n ∉ liveSet s :=
  fun h _ hp hn => live_protects dir hp (.inl rfl) hn h

theorem never_delete_live' (s : GcState) (dir : List String) (name : String) (n : Nat)
    (h : name ∈ toDelete s dir) (hp : parseFileName name = some (.table, n)) :
    n ∉ s.pending ∧ ∀ v ∈ s.liveVersions, n ∉ v := by
  have := never_delete_live s dir name h n hp
  rw [mem_liveSet_iff] at this
  exact ⟨fun hn => this (.inl hn), fun v hv hn => this (.inr ⟨v, hv, hn⟩)⟩

theorem never_delete_needed_log (s : GcState) (dir : List String) (name : String) :
    name ∈ toDelete s dir → ∀ n, parseFileName name = some (.log, n) →
      n < s.logNumber ∧ n ≠ s.prevLogNumber := by
  intro h n hp
  have hk : (decide (n ≥ s.logNumber) || n == s.prevLogNumber) = false :=
    (keep_of_parse hp).symm.trans (keep_false_of_mem_toDelete h)
  simpa using hk

theorem never_delete_current_manifest (s : GcState) (dir : List String) (name : String) :
    name ∈ toDelete s dir → ∀ n, parseFileName name = some (.desc, n) → n < s.manifestNumber := by
  intro h n hp
  have hk : decide (n ≥ s.manifestNumber) = false :=
    (keep_of_parse hp).symm.trans (keep_false_of_mem_toDelete h)
  simpa using hk

/-- Nothing of type current / lock / info is deleted, whatever its spelling. -/
theorem never_delete_fixed_type (s : GcState) (dir : List String) (name : String) (ty : FileType)
    (n : Nat) (h : name ∈ toDelete s dir) (hp : parseFileName name = some (ty, n)) :
    ty ≠ .current ∧ ty ≠ .lock ∧ ty ≠ .info := by
  have hk := (keep_of_parse hp).symm.trans (keep_false_of_mem_toDelete h)
  refine ⟨?_, ?_, ?_⟩ <;> rintro rfl <;> cases hk

theorem never_delete_fixed (s : GcState) (dir : List String) :
    "CURRENT" ∉ toDelete s dir ∧ "LOCK" ∉ toDelete s dir ∧
    "LOG" ∉ toDelete s dir ∧ "LOG.old" ∉ toDelete s dir :=
  ⟨fun h => (never_delete_fixed_type s dir _ _ _ h (C20.parse_complete .current)).1 rfl,
   fun h => (never_delete_fixed_type s dir _ _ _ h (C20.parse_complete .lock)).2.1 rfl,
   fun h => (never_delete_fixed_type s dir _ _ _ h (C20.parse_complete .info)).2.2 rfl,
   fun h => (never_delete_fixed_type s dir _ _ _ h (C20.parse_complete .infoOld)).2.2 rfl⟩

/-- gc touches only owned names. -/
theorem never_delete_foreign (s : GcState) (dir : List String) (name : String)
    (hp : parseFileName name = none) : name ∉ toDelete s dir := by
  intro h
  have hk := keep_false_of_mem_toDelete h
  rw [keep_of_parse_none hp] at hk
  cases hk

/-- In particular anything in a sub-directory (a name with a path separator) is untouched. -/
theorem never_delete_subpath (s : GcState) (dir : List String) (name : String)
    (h : '/' ∈ name.toList) : name ∉ toDelete s dir :=
  never_delete_foreign s dir name (C20.parse_foreign_untouched h)

/-- A table registered in `pending_outputs` cannot be collected (before or after its file exists). -/
theorem pending_protects (s : GcState) (dir : List String) (n : Nat) (hn : n < 2 ^ 64)
    (h : n ∈ s.pending) : (fileNumStr n ++ ".ldb") ∉ toDelete s dir :=
  live_protects dir (C20.makeName_parse hn).2.1 (.inl rfl) (mem_liveSet_iff.2 (.inl h))

theorem pending_protects_sst (s : GcState) (dir : List String) (n : Nat) (hn : n < 2 ^ 64)
    (h : n ∈ s.pending) : (fileNumStr n ++ ".sst") ∉ toDelete s dir :=
  live_protects dir (C20.makeName_parse hn).2.2.1 (.inl rfl) (mem_liveSet_iff.2 (.inl h))

theorem pending_protects_dbtmp (s : GcState) (dir : List String) (n : Nat) (hn : n < 2 ^ 64)
    (h : n ∈ s.pending) : (fileNumStr n ++ ".dbtmp") ∉ toDelete s dir :=
  live_protects dir (C20.makeName_parse hn).2.2.2.1 (.inr rfl) (mem_liveSet_iff.2 (.inl h))

theorem live_version_protects (s : GcState) (dir : List String) (v : List Nat) (n : Nat)
    (hn : n < 2 ^ 64) (hv : v ∈ s.liveVersions) (h : n ∈ v) :
    (fileNumStr n ++ ".ldb") ∉ toDelete s dir ∧ (fileNumStr n ++ ".sst") ∉ toDelete s dir :=
  have hl := mem_liveSet_iff.2 (.inr ⟨v, hv, h⟩)
  ⟨live_protects dir (C20.makeName_parse hn).2.1 (.inl rfl) hl,
   live_protects dir (C20.makeName_parse hn).2.2.1 (.inl rfl) hl⟩

theorem bg_error_suspends (s : GcState) (dir : List String) (h : s.bgError = true) :
    toDelete s dir = [] := by
  rw [toDelete, if_pos h]

theorem bg_error_keeps_dir (s : GcState) (dir : List String) (h : s.bgError = true) :
    removeObsolete s dir = dir := by
  rw [removeObsolete_eq_filter, h]
  exact List.filter_eq_self.2 fun _ _ => rfl

theorem no_garbage (s : GcState) (dir : List String) (h : s.bgError = false) :
    ∀ name ∈ removeObsolete s dir, keep s name = true := by
  intro name hm
  rw [removeObsolete_eq_filter] at hm
  exact (Bool.or_eq_true_iff.1 (List.mem_filter.1 hm).2).resolve_left (h ▸ Bool.false_ne_true)

theorem no_garbage_owned (s : GcState) (dir : List String) (h : s.bgError = false) :
    ∀ name ∈ removeObsolete s dir, parseFileName name = none ∨ ownedAndLive s name = true :=
  fun name hm => keep_eq_true_iff.1 (no_garbage s dir h name hm)

theorem removeObsolete_complete (s : GcState) (dir : List String) (name : String)
    (hm : name ∈ dir) (hk : parseFileName name = none ∨ ownedAndLive s name = true) :
    name ∈ removeObsolete s dir := by
  rw [removeObsolete_eq_filter, List.mem_filter, keep_eq_true_iff.2 hk, Bool.or_true]
  exact ⟨hm, rfl⟩

theorem mem_dir_iff (s : GcState) (dir : List String) (name : String) :
    name ∈ dir ↔ name ∈ removeObsolete s dir ∨ name ∈ toDelete s dir := by
  rw [removeObsolete_eq_filter, toDelete_eq_filter, List.mem_filter, List.mem_filter, ← and_or_left,
    Bool.not_eq_true']
  exact (and_iff_left (Bool.eq_false_or_eq_true _)).symm

theorem removeObsolete_idempotent (s : GcState) (dir : List String) :
    removeObsolete s (removeObsolete s dir) = removeObsolete s dir := by
  rw [removeObsolete_eq_filter, removeObsolete_eq_filter, List.filter_filter]
  simp only [Bool.and_self]

theorem toDelete_after_removeObsolete (s : GcState) (dir : List String) :
    toDelete s (removeObsolete s dir) = [] := by
  rw [removeObsolete_eq_filter, toDelete_eq_filter, List.filter_filter]
  exact List.filter_eq_nil_iff.2 fun _ _ => Bool.not_and_self _ ▸ Bool.false_ne_true

theorem new_nextFile (s : GcState) :
    (newFileNumber s).1 = s.nextFile ∧ (newFileNumber s).2.nextFile = s.nextFile + 1 := ⟨rfl, rfl⟩

/-- After recovery marked a number found on disk, later allocations exceed it. -/
theorem mark_above (s : GcState) (n : Nat) : n < (markFileNumber s n).nextFile := by
  rw [markFileNumber_nextFile]; omega

theorem nextFile_monotone_without_reuse (s : GcState) (ops : List AllocOp)
    (h : ∀ op ∈ ops, op.isReuse = false) : s.nextFile ≤ (runAlloc s ops).1.nextFile :=
  (runAlloc_noReuse s ops h).1

theorem nextFile_monotone_step (s : GcState) (n : Nat) :
    s.nextFile ≤ (newFileNumber s).2.nextFile ∧ s.nextFile ≤ (markFileNumber s n).nextFile :=
  ⟨Nat.le_succ _, le_markFileNumber s n⟩

/-- Marked numbers stay below `nextFile` for the rest of a reuse-free run, so they are never
    handed out. -/
theorem mark_above_run (s : GcState) (n : Nat) (ops : List AllocOp)
    (h : ∀ op ∈ ops, op.isReuse = false) :
    n < (runAlloc (markFileNumber s n) ops).1.nextFile ∧
    ∀ x ∈ (runAlloc (markFileNumber s n) ops).2, n < x := by
  obtain ⟨h1, _, h3⟩ := runAlloc_noReuse (markFileNumber s n) ops h
  have := mark_above s n
  exact ⟨by omega, fun x hx => by have := (h3 x hx).1; omega⟩

theorem new_numbers_strictly_increasing (s : GcState) (ops : List AllocOp)
    (h : ∀ op ∈ ops, op.isReuse = false) :
    (runAlloc s ops).2.Pairwise (· < ·) ∧
    ∀ x ∈ (runAlloc s ops).2, s.nextFile ≤ x ∧ x < (runAlloc s ops).1.nextFile :=
  (runAlloc_noReuse s ops h).2

/-- The numbers below the initial `nextFile` are, by `Inv.numsBound` of Model/Lsm.lean, all the numbers in use
    before. -/
theorem numbers_fresh (s : GcState) (ops : List AllocOp)
    (h : ∀ op ∈ ops, op.isReuse = false) :
    (runAlloc s ops).2.Nodup ∧
    ∀ x ∈ (runAlloc s ops).2, ∀ old, old < s.nextFile → x ≠ old := by
  obtain ⟨hp, hb⟩ := new_numbers_strictly_increasing s ops h
  refine ⟨?_, fun x hx old hold => by have := (hb x hx).1; omega⟩
  exact hp.imp (fun hlt => Nat.ne_of_lt hlt)

/-- `reuse n` changes the state only when `n` is the number handed out last; it then lowers
    `nextFile` to `n` and touches nothing else, so the next `new` returns `n` again. -/
theorem reuse_only_last (s : GcState) (n : Nat) :
    (s.nextFile ≠ n + 1 → reuseFileNumber s n = s) ∧
    (s.nextFile = n + 1 →
      reuseFileNumber s n = { s with nextFile := n } ∧
      (newFileNumber (reuseFileNumber s n)).1 = n ∧
      (newFileNumber (reuseFileNumber s n)).2 = s) := by
  refine ⟨reuseFileNumber_of_ne, fun h => ?_⟩
  rw [reuseFileNumber_of_eq h]
  refine ⟨rfl, rfl, ?_⟩
  simp [newFileNumber, ← h]

theorem reuse_changes_iff (s : GcState) (n : Nat) :
    reuseFileNumber s n ≠ s ↔ s.nextFile = n + 1 := by
  refine ⟨fun h => Classical.byContradiction fun hne => h (reuseFileNumber_of_ne hne), fun h heq => ?_⟩
  have := congrArg GcState.nextFile heq
  rw [reuseFileNumber_nextFile, if_pos h] at this
  omega

theorem new_then_reuse (s : GcState) :
    reuseFileNumber (newFileNumber s).2 (newFileNumber s).1 = s := reuse_new_cancel s

/-- Arbitrary runs (any interleaving of `new`, `reuse`, `mark`): if `new` returns `x`, then some
    operations `mid` run, and the next `new` returns `x` again, then `mid` contains a `reuse x`
    executed in a state with `nextFile = x + 1`, i.e. while `x` was the number handed out last and
    not followed by any outstanding allocation. -/
theorem handed_out_twice_needs_reuse (s : GcState) (pre mid : List AllocOp) (x : Nat)
    (h1 : (runAlloc s pre).1.nextFile = x)
    (h2 : (runAlloc (newFileNumber (runAlloc s pre).1).2 mid).1.nextFile = x) :
    (runAlloc s (pre ++ .new :: (mid ++ [.new]))).2 = (runAlloc s pre).2 ++ x ::
        ((runAlloc (newFileNumber (runAlloc s pre).1).2 mid).2 ++ [x]) ∧
    ∃ a b, mid = a ++ AllocOp.reuse x :: b ∧
      (runAlloc (newFileNumber (runAlloc s pre).1).2 a).1.nextFile = x + 1 := by
  constructor
  · simp [runAlloc_append, runAlloc_cons, stepAlloc, h1, h2]
  · exact runAlloc_drop_needs_reuse _ mid x (by simp [h1]) (by omega)

/-- Under the call discipline of db_impl.c:1863 (`reuse n` only directly after the `new` that
    returned `n`, when creating file `n` failed) every `new; reuse` pair is a no-op, and the numbers
    that were handed out and not given back (`dropCancelled`) are strictly increasing, fresh, and
    below the final `nextFile`.  So a number is handed out twice only if it was given back immediately,
    with no allocation in between, and its file was never installed. -/
theorem disciplined_numbers_fresh (s : GcState) (ops : List AllocOp) (h : Disciplined s ops) :
    (runAlloc s (dropCancelled ops)).1 = (runAlloc s ops).1 ∧
    s.nextFile ≤ (runAlloc s ops).1.nextFile ∧
    (runAlloc s (dropCancelled ops)).2.Pairwise (· < ·) ∧
    ∀ x ∈ (runAlloc s (dropCancelled ops)).2, s.nextFile ≤ x ∧ x < (runAlloc s ops).1.nextFile := by
  obtain ⟨hr, hs⟩ := dropCancelled_of_disciplined s ops h
  have := runAlloc_noReuse s (dropCancelled ops) hr
  rw [hs] at this
  exact ⟨hs, this⟩

def exState : GcState :=
  { liveVersions := [[5, 7]], pending := [9], logNumber := 10, prevLogNumber := 0,
    manifestNumber := 4, nextFile := 11, bgError := false }

def exDir : List String :=
  ["CURRENT", "LOCK", "LOG", "LOG.old", "MANIFEST-000004", "MANIFEST-000002", "000005.ldb",
   "000006.ldb", "000007.sst", "000009.ldb", "000009.dbtmp", "000008.dbtmp", "000010.log",
   "000003.log", "notes.txt", "lost/000006.ldb"]

theorem toDelete_exDir : toDelete exState exDir =
    ["MANIFEST-000002", "000006.ldb", "000008.dbtmp", "000003.log"] := by decide +kernel

example : toDelete exState exDir =
    ["MANIFEST-000002", "000006.ldb", "000008.dbtmp", "000003.log"] := toDelete_exDir
example : removeObsolete exState exDir =
    ["CURRENT", "LOCK", "LOG", "LOG.old", "MANIFEST-000004", "000005.ldb", "000007.sst",
     "000009.ldb", "000009.dbtmp", "000010.log", "notes.txt", "lost/000006.ldb"] := by
  rw [removeObsolete, toDelete_exDir]; decide +kernel
example : "000006.ldb" ∈ toDelete exState exDir ∧
    parseFileName "000006.ldb" = some (.table, 6) ∧ 6 ∉ liveSet exState :=
  ⟨by simp [toDelete_exDir], by decide +kernel, by decide⟩
example : "000003.log" ∈ toDelete exState exDir ∧
    parseFileName "000003.log" = some (.log, 3) :=
  ⟨by simp [toDelete_exDir], by decide +kernel⟩
example : "MANIFEST-000002" ∈ toDelete exState exDir := by simp [toDelete_exDir]
example : 9 ∈ exState.pending ∧ fileNumStr 9 ++ ".ldb" = "000009.ldb" ∧ "000009.ldb" ∈ exDir :=
  ⟨by decide, by decide +kernel, by simp [exDir]⟩
example : (fileNumStr 9 ++ ".ldb") ∉ toDelete exState exDir :=
  pending_protects exState exDir 9 (by decide) (by decide)
example : toDelete { exState with bgError := true } exDir = [] := bg_error_suspends _ _ rfl
example : ∀ name ∈ removeObsolete exState exDir,
    parseFileName name = none ∨ ownedAndLive exState name = true := no_garbage_owned _ _ rfl
example : parseFileName "notes.txt" = none ∧ "notes.txt" ∈ removeObsolete exState exDir := by
  have hp : parseFileName "notes.txt" = none := by decide +kernel
  exact ⟨hp, removeObsolete_complete _ _ _ (by simp [exDir]) (.inl hp)⟩
-- the previous log is kept even though it is older than the current log
example : toDelete { exState with prevLogNumber := 3 } ["000003.log", "000002.log"] =
    ["000002.log"] := by decide +kernel

example : runAlloc exState [.new, .mark 20, .new, .new] =
    ({ exState with nextFile := 23 }, [11, 21, 22]) := rfl
example : ∀ op ∈ [AllocOp.new, .mark 20, .new, .new], op.isReuse = false := by decide
-- new 11; reuse 11 (file creation failed); new 11 again; new 12; reuse 11 is then a no-op
example : runAlloc exState [.new, .reuse 11, .new, .new, .reuse 11, .new] =
    ({ exState with nextFile := 14 }, [11, 11, 12, 13]) := rfl
example : Disciplined exState [.new, .reuse 11, .new, .mark 3, .new] := by
  simp [Disciplined, exState]
example : dropCancelled [.new, .reuse 11, .new, .mark 3, .new] = [.new, .mark 3, .new] := rfl
example : (runAlloc exState [.new, .reuse 11, .new, .mark 3, .new]).2 = [11, 11, 12] ∧
    (runAlloc exState (dropCancelled [.new, .reuse 11, .new, .mark 3, .new])).2 = [11, 12] := by
  decide
-- without the discipline a number can come back later: this is what `handed_out_twice_needs_reuse`
-- describes (the `reuse 11` happens while nextFile = 12)
example : (runAlloc exState [.new, .new, .reuse 12, .reuse 11, .new]).2 = [11, 12, 11] := by decide
example : ¬ Disciplined exState [.new, .new, .reuse 12, .reuse 11, .new] := by
  simp [Disciplined, exState, newFileNumber]
example : 17 < (markFileNumber exState 17).nextFile := mark_above _ _

end Lcdb.C13
