/-
  The compaction MECHANISM (`Model/Compaction.lean`: the merged input, drop rules (A) and (B), the
  base-level test with its monotone pointers) meets the compaction CONTRACT (`stepOk (.compact ..)`,
  clause (c) of `Model/Lsm.lean`), from which `Props/C06.lean` derives that every view at or above the
  smallest protected sequence is preserved.
-/
import LcdbModel.Lemmas.Compaction
import LcdbModel.Props.C06
import LcdbModel.Props.IterProps
namespace Lcdb.Compaction
open Lcdb

/-- the merged input (`mergeInputs_sorted_perm`: strictly sorted, a permutation of all input entries) is the run `mergedRun c runs` that the merging iterator walks (`C07x.merge_is_cursor`) -/
theorem mergeInputs_eq_mergedRun (c : Cmp) (runs : List Run) (hs : ∀ r ∈ runs, RunSorted c r)
    (hd : DistinctKeys c runs) : mergeInputs c runs = mergedRun c runs := by
  obtain ⟨h1, h2⟩ := mergeInputs_sorted_perm c runs hs hd
  exact eq_of_pairwise_of_mem_iff (fun h => by simp [Lsm.entryLt_asymm c h]) h1 (Merge.mergedRun_sorted c runs hd)
    fun _ => (h2.trans (Merge.mergedRun_perm c runs).symm).mem_iff

/-- `C07x.merge_is_cursor` restated: the merging iterator that `ldb_inputiter_create` builds over the input
    runs, after ANY operation sequence (in particular `first` followed by `next`s, which is how the loop
    drives it), stands where a plain cursor over `mergeInputs c runs` stands -/
theorem inputIter_walks_mergeInputs (c : Cmp) (runs : List Run) (hs : ∀ r ∈ runs, RunSorted c r)
    (hd : DistinctKeys c runs) (ops : List InternalOp) :
    ∃ mi p, (mergeIterI c).run ops (mergeCreate (C07x.freshChildren runs)) = some mi ∧
      (runIter c (mergeInputs c runs)).run ops none = some p ∧
      mi.valid = (runEntry (mergeInputs c runs) p).isSome ∧
      mi.entry = runEntry (mergeInputs c runs) p ∧ mi.status = .ok := by
  rw [mergeInputs_eq_mergedRun c runs hs hd]
  exact C07x.merge_is_cursor c runs hs hd ops

theorem dropLoop_sublist (c : Cmp) (sm : Nat) (isBase : Bytes → Bool) (r : Run) :
    (dropLoop c sm isBase r).Sublist r :=
  dropLoopFrom_sublist c sm isBase {} r

/-- the loop exactly as C runs it (monotone `level_ptrs`, short-circuit evaluation) equals the loop with the
    stateless test "no deeper file's user-key range contains the key".
    Invariant (`PtrsOk`): each pointer has only skipped files whose largest user key is below every key
    still to come. -/
theorem dropLoopPtr_eq_dropLoop (c : Cmp) (sm : Nat) (deeper : List (List FileMeta)) (r : Run)
    (hs : ∀ files ∈ deeper, LevelSorted c files)
    (hw : ∀ files ∈ deeper, ∀ f ∈ files, c.compare f.sk f.lk ≠ .gt)
    (hr : RunSorted c r) :
    dropLoopPtrFrom c sm deeper {} (deeper.map fun _ => 0) r =
      dropLoop c sm (fun k => !deeper.any (·.any (fileContainsUser c · k))) r :=
  dropLoopPtrFrom_eq c sm deeper hs hw {} _ r hr (fun e _ => ptrsOk_zero c e.ukey deeper)

/-- what the compaction writes (`expectedOutput`, the loop as C runs it) is what the contract theorems speak of
    (`expectedOutputSpec`, the stateless test) -/
theorem expectedOutput_eq_spec (c : Cmp) (st : DbState) (level : Nat) (in0 in1 : List FileMeta) (sm : Nat)
    (h : Inv c st) (h0 : in0.Sublist (st.level level)) (h1 : in1.Sublist (st.level (level + 1))) :
    expectedOutput c st level in0 in1 sm = expectedOutputSpec c st level in0 in1 sm := by
  unfold expectedOutput expectedOutputSpec
  exact dropLoopPtr_eq_dropLoop c sm _ _ (deeper_sorted h level)
    (fun files hf f hff => (deeper_filesOk h _ files hf f hff).sk_le_lk) (merged_sorted_perm h h0 h1).1

/-- the core: at every sequence `s ≥ sm` the output answers for `k` like the input, except that a
    deletion marker at or below `sm` for a key the base-level test accepts may turn into absence -/
theorem dropLoop_sameAnswer (c : Cmp) (sm : Nat) (isBase : Bytes → Bool) (r : Run)
    (hs : RunSorted c r) (hk : ∀ e ∈ r, e.kind ≤ 1) (hnt : KeyNoTies r) (k : Bytes) (s : Nat) (hsm : sm ≤ s) :
    newestVisible c (dropLoop c sm isBase r) k s = newestVisible c r k s ∨
    ∃ a, newestVisible c r k s = some a ∧ a.kind = 0 ∧ isBase a.ukey = true ∧ a.seq ≤ sm ∧
      newestVisible c (dropLoop c sm isBase r) k s = none := by
  have hsub := dropLoop_sublist c sm isBase r
  have hnt' : KeyNoTies (dropLoop c sm isBase r) := hnt.of_subset fun _ => hsub.mem
  cases hn : newestVisible c r k s with
  | none =>
    left
    rw [newestVisible_eq_none_iff] at hn ⊢
    exact fun e he => hn e (hsub.mem he)
  | some a =>
    obtain ⟨ha1, ha2, ha3, ha4⟩ := newestVisible_spec hn
    have hA : NotShadowed sm r a := by
      intro q hq hqk hlt
      exact Nat.lt_of_not_le (fun hle =>
        absurd (ha4 q hq (hqk.trans ha2) (Nat.le_trans hle hsm)) (Nat.not_le.mpr hlt))
    cases hB : ruleB sm isBase a with
    | false =>
      left
      have hmem := (mem_dropLoop_iff c sm isBase r hs hk hnt a).mpr ⟨ha1, hA, hB⟩
      exact newestVisible_eq_some_of hnt' hmem ha2 ha3 (fun e he => ha4 e (hsub.mem he))
    | true =>
      right
      have hB' : a.kind = 0 ∧ a.seq ≤ sm ∧ isBase a.ukey = true := by
        simpa [ruleB, and_assoc] using hB
      refine ⟨a, rfl, hB'.1, hB'.2.2, hB'.2.1, ?_⟩
      rw [newestVisible_eq_none_iff]
      intro e he hek hes
      obtain ⟨he1, he2, he3⟩ := (mem_dropLoop_iff c sm isBase r hs hk hnt e).mp he
      have hle := ha4 e he1 hek hes
      by_cases heq : e.seq = a.seq
      · have : e = a := hnt e he1 a ha1 (hek.trans ha2.symm) heq
        rw [this, hB] at he3
        cases he3
      · exact absurd hB'.2.1 (Nat.not_le.mpr (he2 a ha1 (ha2.trans hek.symm) (Nat.lt_of_le_of_ne hle heq)))

/-- the converse safety fact (at EVERY sequence, no hypothesis): the output never shows anything the input
    does not hold, so what it answers is never newer than what the input answers -/
theorem dropLoop_not_newer (c : Cmp) (sm : Nat) (isBase : Bytes → Bool) (r : Run) (k : Bytes) (s : Nat) :
    (newestVisible c r k s = none → newestVisible c (dropLoop c sm isBase r) k s = none) ∧
    ∀ b, newestVisible c (dropLoop c sm isBase r) k s = some b →
      b ∈ r ∧ ∃ a, newestVisible c r k s = some a ∧ b.seq ≤ a.seq := by
  have hsub := dropLoop_sublist c sm isBase r
  constructor
  · intro hn
    rw [newestVisible_eq_none_iff] at hn ⊢
    exact fun e he => hn e (hsub.mem he)
  · intro b hb
    obtain ⟨hb1, hb2, hb3, _⟩ := newestVisible_spec hb
    refine ⟨hsub.mem hb1, ?_⟩
    cases hn : newestVisible c r k s with
    | none => exact absurd hb3 ((newestVisible_eq_none_iff.mp hn) b (hsub.mem hb1) hb2)
    | some a => exact ⟨a, rfl, (newestVisible_spec hn).2.2.2 b (hsub.mem hb1) hb2 hb3⟩

theorem expectedOutput_sameAnswer (c : Cmp) (st : DbState) (level : Nat) (in0 in1 : List Nat) (sm : Nat)
    (h : Inv c st) (hnt : NoSeqTies c st) (k : Bytes) (s : Nat) (hsm : sm ≤ s) :
    sameAnswer c st level (compactIns st level in0 in1)
      (expectedOutput c st level (pickNums (st.level level) in0) (pickNums (st.level (level + 1)) in1) sm)
      k s = true := by
  rw [expectedOutput_eq_spec c st level _ _ sm h (pickNums_sublist _ _) (pickNums_sublist _ _)]
  unfold expectedOutputSpec
  obtain ⟨hsorted, hperm⟩ := merged_sorted_perm h (pickNums_sublist _ in0) (pickNums_sublist _ in1)
  generalize mergeInputs c (inputRuns level (pickNums (st.level level) in0) (pickNums (st.level (level + 1)) in1))
    = M at hsorted hperm
  have hperm' : M.Perm (compactIns st level in0 in1) := hperm
  have hKM : KeyNoTies M :=
    hnt.keyNoTies.of_subset fun _ he => compactIns_sub (hperm'.mem_iff.mp he)
  have hkM : ∀ e ∈ M, e.kind ≤ 1 := fun e he => h.kinds e (compactIns_sub (hperm'.mem_iff.mp he))
  have hins : newestVisible c (compactIns st level in0 in1) k s = newestVisible c M k s :=
    newestVisible_congr hKM (fun e _ _ => hperm'.mem_iff.symm)
  unfold sameAnswer
  rw [hins]
  rcases dropLoop_sameAnswer c sm (isBaseSpec c st.levels level) M hsorted hkM hKM k s hsm with heq | ⟨a, ha, hk0, hbase, _, hnone⟩
  · rw [heq]
    cases newestVisible c M k s with
    | none => rfl
    | some a => simp
  · rw [ha, hnone]
    have hak : a.ukey = k := (newestVisible_spec ha).2.1
    have := isBaseSpec_sound h level a.ukey hbase
    rw [hak] at this
    simp [hk0, this]

/-- the three conjuncts of clause (c) of `stepOk c st (.compact level in0 in1 outs)`, literally, for a
    compaction whose tables hold `expectedOutput` computed with a smallest snapshot `sm` that is not above
    the smallest protected sequence.  (`in0 ⊆` file numbers of `level` etc. are not needed here:
    `pickNums` ignores numbers that name no file.) -/
theorem expectedOutput_meets_contract (c : Cmp) (st : DbState) (level : Nat) (in0 in1 : List Nat)
    (outs : List FileMeta) (sm : Nat) (h : Inv c st) (hnt : NoSeqTies c st)
    (hsm : sm ≤ smallestProtected st)
    (hout : outs.flatMap (·.run) =
      expectedOutput c st level (pickNums (st.level level) in0) (pickNums (st.level (level + 1)) in1) sm) :
    let ins := (pickNums (st.level level) in0 ++ pickNums (st.level (level + 1)) in1).flatMap (·.run)
    let outEntries := outs.flatMap (·.run)
    (∀ e ∈ outEntries, e ∈ ins) ∧
    (∀ e ∈ ins, ∀ s ∈ protectedSeqs st, sameAnswer c st level ins outEntries e.ukey s = true) ∧
    (∀ e ∈ ins, ∀ e' ∈ ins, e'.seq ≥ smallestProtected st →
      sameAnswer c st level ins outEntries e.ukey e'.seq = true) := by
  intro ins outEntries
  have hsame : ∀ k s, sm ≤ s → sameAnswer c st level ins outEntries k s = true := by
    intro k s hs
    show sameAnswer c st level (compactIns st level in0 in1) (outs.flatMap (·.run)) k s = true
    rw [hout]
    exact expectedOutput_sameAnswer c st level in0 in1 sm h hnt k s hs
  refine ⟨?_, ?_, ?_⟩
  · intro e he
    have he' : e ∈ expectedOutput c st level (pickNums (st.level level) in0)
        (pickNums (st.level (level + 1)) in1) sm := by rw [← hout]; exact he
    rw [expectedOutput_eq_spec c st level _ _ sm h (pickNums_sublist _ _) (pickNums_sublist _ _)] at he'
    exact (merged_sorted_perm h (pickNums_sublist _ _) (pickNums_sublist _ _)).2.mem_iff.mp ((dropLoop_sublist _ _ _ _).mem he')
  · intro e _ s hs
    exact hsame e.ukey s (Nat.le_trans hsm (smallestProtected_le st s hs))
  · intro e _ e' _ hge
    exact hsame e.ukey e'.seq (Nat.le_trans hsm hge)

/-- everything `stepOk c st (.compact level in0 in1 outs)` asks for except clause (c): the side
    conditions and clauses (a), (a'), (b) — they concern which files are picked and how the output is
    cut into files, not what the loop drops -/
def compactFrame (c : Cmp) (st : DbState) (level : Nat) (in0 in1 : List Nat) (outs : List FileMeta) : Prop :=
  let ins := (pickNums (st.level level) in0 ++ pickNums (st.level (level + 1)) in1).flatMap (·.run)
  level + 1 < 7 ∧ in0 ≠ [] ∧
  (∀ n ∈ in0, ∃ f ∈ st.level level, f.num = n) ∧ (∀ n ∈ in1, ∃ f ∈ st.level (level + 1), f.num = n) ∧
  (∀ g ∈ removeNums (st.level level) in0, ∀ f ∈ pickNums (st.level level) in0, NewerThan c g.run f.run) ∧
  (∀ g ∈ removeNums (st.level (level + 1)) in1, NewerThan c g.run ins) ∧
  (∀ f ∈ outs, FileOk c f) ∧
  LevelSorted c (addFiles c (level + 1) (removeNums (st.level (level + 1)) in1) outs) ∧
  (∀ f ∈ outs, (∀ g ∈ allFiles st, g.num = f.num → g ∈ pickNums (st.level level) in0 ∧ outs = [g])) ∧
  outs.Pairwise (fun f g => f.num ≠ g.num)

instance (c : Cmp) (st : DbState) (level : Nat) (in0 in1 : List Nat) (outs : List FileMeta) :
    Decidable (compactFrame c st level in0 in1 outs) := by
  unfold compactFrame; infer_instance

/-- a compaction that writes `expectedOutput` (however cut into files) and respects the frame is a
    contract-respecting step -/
theorem mechanism_stepOk (c : Cmp) (st : DbState) (level : Nat) (in0 in1 : List Nat)
    (outs : List FileMeta) (sm : Nat) (h : Inv c st) (hnt : NoSeqTies c st)
    (hframe : compactFrame c st level in0 in1 outs) (hsm : sm ≤ smallestProtected st)
    (hout : outs.flatMap (·.run) =
      expectedOutput c st level (pickNums (st.level level) in0) (pickNums (st.level (level + 1)) in1) sm) :
    stepOk c st (.compact level in0 in1 outs) := by
  obtain ⟨a1, a2, a3, a4, a5, a6, a7, a8, a9, a10⟩ := hframe
  obtain ⟨c1, c2, c3⟩ := expectedOutput_meets_contract c st level in0 in1 outs sm h hnt hsm hout
  exact ⟨a1, a2, a3, a4, a5, a6, a7, a8, a9, a10, c1, c2, c3⟩

/-- such a compaction changes no view at any sequence `q ≥ smallestProtected st`, and keeps `Inv` -/
theorem mechanism_preserves_view (c : Cmp) (st : DbState) (level : Nat) (in0 in1 : List Nat)
    (outs : List FileMeta) (sm : Nat) (h : Inv c st) (hnt : NoSeqTies c st)
    (hframe : compactFrame c st level in0 in1 outs) (hsm : sm ≤ smallestProtected st)
    (hout : outs.flatMap (·.run) =
      expectedOutput c st level (pickNums (st.level level) in0) (pickNums (st.level (level + 1)) in1) sm)
    (k : Bytes) (q : Nat) (hq : smallestProtected st ≤ q) :
    view c (allEntries (applyStep c st (.compact level in0 in1 outs))) k q = view c (allEntries st) k q ∧
    Inv c (applyStep c st (.compact level in0 in1 outs)) := by
  have hok := mechanism_stepOk c st level in0 in1 outs sm h hnt hframe hsm hout
  exact ⟨C06.compact_preserves_view_above c st level in0 in1 outs h hnt hok k q hq,
    C14.step_preserves_inv c st _ h hok⟩

/-- the bound `sm ≤ smallestProtected st` is needed: below the smallest snapshot the loop does change answers: with `sm = 6`, the value `(k, 3)` is dropped
    by rule (A) because `(k, 5)` shadows it from sequence 5 on; a reader at sequence 4 (which no live
    snapshot is) would see the key vanish.  Rule (B) is not involved (`isBase` constantly false). -/
theorem dropLoop_not_safe_below_smallest :
    ∃ (r : Run) (sm s : Nat) (k : Bytes),
      RunSorted .bytewise r ∧ (∀ e ∈ r, e.kind ≤ 1) ∧ KeyNoTies r ∧ s < sm ∧
      view .bytewise r k s = some "old" ∧
      view .bytewise (dropLoop .bytewise sm (fun _ => false) r) k s = none ∧
      newestVisible .bytewise (dropLoop .bytewise sm (fun _ => false) r) k s ≠ newestVisible .bytewise r k s :=
  ⟨[⟨[1], 5, 1, "new"⟩, ⟨[1], 3, 1, "old"⟩], 6, 4, [1],
    by decide +kernel, by decide +kernel, by decide +kernel, by decide +kernel, by decide +kernel, by decide +kernel, by decide +kernel⟩

/-! non-vacuity: a concrete state where rule (A), rule (B) at the base level, and rule (B) refused
    because a deeper level holds the key all fire -/

namespace Ex
open Lcdb.C14.Ex

def e5 : FileMeta := mkFile 5 [⟨k1, 7, 1, "x"⟩]
def e4 : FileMeta := mkFile 4 [⟨k1, 5, 0, ""⟩, ⟨k3, 6, 0, ""⟩]
def e3 : FileMeta := mkFile 3 [⟨k1, 3, 1, "z"⟩, ⟨k3, 2, 1, "v"⟩]
def e2 : FileMeta := mkFile 2 [⟨k1, 1, 1, "old"⟩]
/-- two overlapping level-0 files, one level-1 file, one level-2 file that holds `k1` but not `k3`;
    one live snapshot at sequence 6 -/
def stE : DbState :=
  { mem := [], imm := none, levels := [[e5, e4], [e3], [e2], [], [], [], []],
    lastSeq := 10, snaps := [6], nextFile := 7 }
/-- what the level 0 -> 1 compaction of everything writes -/
def e8 : FileMeta := mkFile 8 [⟨k1, 7, 1, "x"⟩, ⟨k1, 5, 0, ""⟩]

theorem invE : Inv .bytewise stE := inv_of_invRel (by decide +kernel)
theorem ntE : NoSeqTies .bytewise stE := by decide +kernel

theorem mergedE : mergeInputs .bytewise (inputRuns 0 [e5, e4] [e3]) =
    [⟨k1, 7, 1, "x"⟩, ⟨k1, 5, 0, ""⟩, ⟨k1, 3, 1, "z"⟩, ⟨k3, 6, 0, ""⟩, ⟨k3, 2, 1, "v"⟩] := by
  rw [mergeInputs_eq_mergedRun _ _ (by decide +kernel) (by decide +kernel)]
  decide +kernel

/-- the hypotheses of `mergeInputs_sorted_perm` hold for the three input runs -/
example : (inputRuns 0 [e5, e4] [e3]).length = 3 ∧ (∀ r ∈ inputRuns 0 [e5, e4] [e3], RunSorted .bytewise r) ∧
    DistinctKeys .bytewise (inputRuns 0 [e5, e4] [e3]) := by decide +kernel

/-- the base-level test: level 2 holds `k1` (range `[k1, k1]`), nothing deeper holds `k3` -/
example : isBaseSpec .bytewise stE.levels 0 k1 = false ∧ isBaseSpec .bytewise stE.levels 0 k3 = true := by
  decide +kernel
/-- the pointer walk for `k3` moves the level-2 pointer past `e2` -/
example : isBasePtr .bytewise k3 (stE.levels.drop 2) [0, 0, 0, 0, 0] = (true, [1, 0, 0, 0, 0]) ∧
    isBasePtr .bytewise k1 (stE.levels.drop 2) [0, 0, 0, 0, 0] = (false, [0, 0, 0, 0, 0]) := by decide +kernel

/-- rule (A): `(k1, 3)` comes after `(k1, 5)` and `5 ≤ 6` -/
example : (stepEntry .bytewise 6 (isBaseSpec .bytewise stE.levels 0)
    { curKey := some k1, lastSeq := some 5 } ⟨k1, 3, 1, "z"⟩).1 = true := by decide +kernel
/-- rule (B) at the base level: the deletion `(k3, 6)` is the first entry of its key, `6 ≤ 6`, base level -/
example : (stepEntry .bytewise 6 (isBaseSpec .bytewise stE.levels 0)
    { curKey := some k1, lastSeq := some 3 } ⟨k3, 6, 0, ""⟩).1 = true := by decide +kernel
/-- rule (B) refused: the deletion `(k1, 5)` is not hidden (`7 > 6`), `5 ≤ 6`, but level 2 holds `k1`;
    were it the base level it would be dropped -/
example : (stepEntry .bytewise 6 (isBaseSpec .bytewise stE.levels 0)
      { curKey := some k1, lastSeq := some 7 } ⟨k1, 5, 0, ""⟩).1 = false ∧
    (stepEntry .bytewise 6 (fun _ => true) { curKey := some k1, lastSeq := some 7 } ⟨k1, 5, 0, ""⟩).1 = true := by
  decide +kernel

theorem outE : expectedOutput .bytewise stE 0 [e5, e4] [e3] 6 = [⟨k1, 7, 1, "x"⟩, ⟨k1, 5, 0, ""⟩] := by
  unfold expectedOutput
  rw [mergedE]
  decide +kernel
example : expectedOutputSpec .bytewise stE 0 [e5, e4] [e3] 6 = [⟨k1, 7, 1, "x"⟩, ⟨k1, 5, 0, ""⟩] := by
  rw [← expectedOutput_eq_spec _ _ _ _ _ _ invE (by decide +kernel) (by decide +kernel)]
  exact outE

/-- hypotheses of `dropLoop_sameAnswer` on the merged input; the tombstone-to-absence case really occurs
    (`k3` at sequence 8) and so does the plain case (`k1` at sequence 6) -/
example : let r : Run := [⟨k1, 7, 1, "x"⟩, ⟨k1, 5, 0, ""⟩, ⟨k1, 3, 1, "z"⟩, ⟨k3, 6, 0, ""⟩, ⟨k3, 2, 1, "v"⟩]
    RunSorted .bytewise r ∧ (∀ e ∈ r, e.kind ≤ 1) ∧ KeyNoTies r ∧
    newestVisible .bytewise r k3 8 = some ⟨k3, 6, 0, ""⟩ ∧
    newestVisible .bytewise (dropLoop .bytewise 6 (isBaseSpec .bytewise stE.levels 0) r) k3 8 = none ∧
    newestVisible .bytewise r k1 6 = some ⟨k1, 5, 0, ""⟩ ∧
    newestVisible .bytewise (dropLoop .bytewise 6 (isBaseSpec .bytewise stE.levels 0) r) k1 6 =
      some ⟨k1, 5, 0, ""⟩ := by decide +kernel

theorem houtE : [e8].flatMap (·.run) =
    expectedOutput .bytewise stE 0 (pickNums (stE.level 0) [4, 5]) (pickNums (stE.level 1) [3]) 6 := by
  have p0 : pickNums (stE.level 0) [4, 5] = [e5, e4] := by decide +kernel
  have p1 : pickNums (stE.level 1) [3] = [e3] := by decide +kernel
  rw [p0, p1, outE]
  decide +kernel

theorem frameE : compactFrame .bytewise stE 0 [4, 5] [3] [e8] := by decide +kernel

example : smallestProtected stE = 6 := by decide +kernel

example : stepOk .bytewise stE (.compact 0 [4, 5] [3] [e8]) :=
  mechanism_stepOk _ _ _ _ _ _ 6 invE ntE frameE (by decide +kernel) houtE

example (k : Bytes) (q : Nat) (hq : 6 ≤ q) :
    view .bytewise (allEntries (applyStep .bytewise stE (.compact 0 [4, 5] [3] [e8]))) k q =
      view .bytewise (allEntries stE) k q :=
  (mechanism_preserves_view _ _ _ _ _ _ 6 invE ntE frameE (by decide +kernel) houtE k q hq).1

/-- `dropLoop_not_safe_below_smallest` on the state: below the snapshot the view does change (`(k1, 3)` gone, level 2 shows through) -/
example : view .bytewise (allEntries stE) k1 4 = some "z" ∧
    view .bytewise (allEntries (applyStep .bytewise stE (.compact 0 [4, 5] [3] [e8]))) k1 4 = some "old" := by
  decide +kernel

/-- a smallest snapshot ABOVE the smallest protected sequence breaks the contract: with `sm = 10`
    (as if snapshot 6 were ignored) `(k1, 5)` is hidden by `(k1, 7)` and the snapshot's answer changes -/
example : ¬ stepOk .bytewise stE (.compact 0 [4, 5] [3] [mkFile 8 [⟨k1, 7, 1, "x"⟩]]) ∧
    expectedOutput .bytewise stE 0 [e5, e4] [e3] 10 = [⟨k1, 7, 1, "x"⟩] := by
  refine ⟨by decide +kernel, ?_⟩
  unfold expectedOutput
  rw [mergedE]
  decide +kernel

end Ex

end Lcdb.Compaction
