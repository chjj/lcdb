/-
  C10 — concurrent calls on one database handle, its caches and snapshots never constitute a data race.

  What is proved:
  * the *obligations that tie the discipline to /repo's current source*, re-proved by kernel evaluation
    against the tables the translators T3/T4 (tools/gen_conc.py) regenerate on every check;
  * a *discipline theorem* over the happens-before model of Model/HB.lean: a trace in which every plain
    location is accessed according to its class (`guarded` by mutexes, `published` through a
    release/acquire pair, `threadLocal`, `immutableAfterInit`) has no data race
    (`discipline_implies_drf`).
  The skiplist publication protocol, instantiated with the orders found in the source, is in
  Props/C10Skiplist.lean.

  What is NOT proved: that the C program's executions are the traces of the model (that needs a C
  semantics); the link is the syntactic tables of the first part plus the ThreadSanitizer workload of checks/C10.py.
-/
import LcdbModel.Model.HB
import LcdbModel.Spec.ConcPolicy
namespace Lcdb.C10
open Lcdb.Conc Lcdb.HB Lcdb.ConcPolicy

/-- `lockViolations` is what checks/C10.py prints on failure -/
theorem lockViolations_nil : lockViolations = [] := by decide +kernel

/-- T4: every access to mutex-protected state of src/db_impl.c (struct ldb_s, iterator state), src/util/cache.c
    (LRU shards, id counter), src/util/thread_pool.c and every write of a table-cache field is made with the
    protecting mutex held — or is definitely made without it inside a listed single-threaded phase or is one of
    the individually justified rows of `knownUnlocked`.  Rows the translator could not judge (`unknown`) fail.
    The translator also emits as a row (pseudo field `<borrowed:FIELD>`) every use, outside the mutex and without a
    reference taken first, of a local loaded from `db->versions->current`, `db->mem` or `db->imm`; such a row is judged like any other. -/
theorem lock_table_ok : ∀ row ∈ Generated.lockTable,
    row.held = .yes ∨ (row.held = .no ∧ (row.function ∈ singleThreadedNames ∨ isKnownUnlocked row = true)) := by
  intro row hrow
  have h : lockRowOk row = true := by simpa using List.filter_eq_nil_iff.mp lockViolations_nil row hrow
  simpa [lockRowOk] using h

/-- T4, call sites: a function that asserts (or is inferred) to be entered with the mutex held is only called with
    it held, or from a single-threaded phase; a function that takes the mutex itself is never called with it held
    (self-deadlock); the mutex is passed on only to `ldb_versions_apply`, with the mutex held. -/
theorem call_table_ok : ∀ c ∈ Generated.callTable, callRowOk c = true := by decide +kernel

/-- T4, balance: every function leaves the mutex in the state in which it is entered, and no function has
    irreconcilable call sites. -/
theorem lock_entry_ok : ∀ e ∈ Generated.lockEntry, entryRowOk e = true := by decide +kernel

theorem any_and_eq_any_filter {α : Type} (p q : α → Bool) (l : List α) :
    l.any (fun r => p r && q r) = (l.filter q).any p :=
  (congrArg l.any (funext fun _ => Bool.and_comm ..)).trans List.any_filter.symm

/-- the fields the property lists are still declared under the "protected by mutex" comments, and the allow-lists
    contain no stale entry -/
theorem protected_fields_ok : protectedMissing = [] ∧ unusedAllowances = [] := by
  refine ⟨by decide +kernel, ?_⟩
  -- rewritten so that an allowance is compared by name only with the rows accessed without the mutex, not with the
  -- whole lock table (which is slow to evaluate)
  simp only [unusedAllowances, any_and_eq_any_filter]
  decide +kernel

theorem matches_op_first (p : OrderPolicy) (r : AtomicRow) : p.matches r = (decide (p.op = r.op) &&
    (p.file == r.file && (p.function == "*" || p.function == r.function) && p.object == r.object)) :=
  Bool.and_comm _ _

theorem atomicsViolations_nil : atomicsViolations = [] := by
  -- rewritten so that names are compared only between a policy row and the table rows of its operation (comparing
  -- every pair by name is slow to evaluate)
  simp only [atomicsViolations, atomicRowOk, policyFor, matches_op_first]
  decide +kernel

/-- T3: no atomic object is accessed without the macros, every call site was parsed, and every atomic operation
    of the in-scope files has a policy row whose minimal order it satisfies: skiplist links are published with
    release and followed with acquire, the no-barrier helpers are called only from `ldb_skiplist_insert`,
    `shutting_down` / `has_imm` stores are release and loads acquire (the one relaxed `has_imm` hint is re-checked
    under the mutex), counters and statistics may be relaxed. -/
theorem atomics_ok :
    (∀ r ∈ Generated.atomics, atomicRowOk r = true) ∧ wrapperViolations = [] ∧
    insertPublishesLast = true ∧ readersUseAcquire = true ∧ hasImmRecheck = true :=
  ⟨fun r hr => by simpa using List.filter_eq_nil_iff.mp atomicsViolations_nil r hr, by decide +kernel⟩

/-- translator self-checks: tokenizer and gcc's preprocessor agree on the number of atomic call sites per file;
    no unparsed construct, no undecided conditional group in the analysed files -/
theorem translators_clean : crossCheckMismatch = [] ∧ translatorNotes = [] := by decide +kernel

/-- the orders of the two skiplist link helpers in the current source -/
theorem skiplist_orders_found : skiplistStoreOrder = some .release ∧ skiplistLoadOrder = some .acquire := by
  decide +kernel

/-- how a plain memory location may be accessed -/
inductive Class where
  /-- every write is made holding ALL mutexes of `ms`, every read holding AT LEAST ONE (`ms ≠ []`).
      `guarded [m]` is the usual "protected by mutex m"; `guarded [m, token]` is the writer-queue pattern of
      ldb_write (db->log, db->logfile, db->mem: written under db->mutex by the head writer, read either under
      the mutex or by the head writer). -/
  | guarded (ms : List Mutex)
  /-- written only by thread `c`, before a release store to atomic `a`; read by another thread only after an
      acquire load of `a` that read that store (or a later release store of `c`: see `PublishedTo`) -/
  | published (a : AVar) (c : Tid)
  | threadLocal (t : Tid)
  /-- written only by the constructing thread `c`; any other thread reads it only after an event that
      happens-after a point of `c` that follows all the writes (the handle is handed over through some
      synchronisation: thread creation, a mutex, ...) -/
  | immutableAfterInit (c : Tid)

abbrev byMutex (m : Mutex) : Class := .guarded [m]

/-- thread `t`'s read at `i` of a location whose write `w` (by `c`) it may only see through atomic `a`:
    `c` made a release store `s` after `w`, and `t` acquire-loaded THAT store before `i`.
    (Release sequence used: the stores of the creating thread itself — reading a later release store `s'` of `c`
    is the same statement with `s := s'`, since `w < s'` too.) -/
def PublishedTo (tr : Trace) (a : AVar) (c t : Tid) (w i : Nat) : Prop :=
  ∃ s l o o' tag, w < s ∧ tr[s]? = some (c, Ev.astore a o tag) ∧ o.isRelease = true ∧
    s < l ∧ tr[l]? = some (t, Ev.aload a o' (some tag)) ∧ o'.isAcquire = true ∧ l < i

def AccessOk (tr : Trace) (cls : Loc → Class) (i : Nat) (t : Tid) (x : Loc) (isWrite : Bool) : Prop :=
  match cls x with
  | .guarded ms => ms ≠ [] ∧ (if isWrite then ∀ m ∈ ms, Holds tr t m i else ∃ m ∈ ms, Holds tr t m i)
  | .threadLocal t0 => t = t0
  | .published a c =>
      (isWrite = true → t = c) ∧
      (isWrite = false → t ≠ c → ∀ w, tr[w]? = some (c, Ev.write x) → PublishedTo tr a c t w i)
  | .immutableAfterInit c =>
      (isWrite = true → t = c) ∧
      (isWrite = false → t ≠ c → ∃ h e, tr[h]? = some (c, e) ∧ (∀ w, tr[w]? = some (c, Ev.write x) → w < h) ∧ HB tr h i)

def Respects (tr : Trace) (cls : Loc → Class) : Prop :=
  ∀ i t e x w, tr[i]? = some (t, e) → e.access = some (x, w) → AccessOk tr cls i t x w

theorem PublishedTo.hb {tr : Trace} {a : AVar} {c t : Tid} {w i : Nat} {e₁ e₂ : Ev} (h : PublishedTo tr a c t w i)
    (hw : tr[w]? = some (c, e₁)) (hi : tr[i]? = some (t, e₂)) : HB tr w i := by
  obtain ⟨_, _, _, _, _, hws, hs, ho, hsl, hl, ho', hli⟩ := h
  exact (HB.po hws hw hs).trans ((HB.sw hsl hs ho hl ho').trans (HB.po hli hl hi))

private theorem access_write {e : Ev} {x : Loc} (h : e.access = some (x, true)) : e = Ev.write x := by
  cases e <;> simp [Ev.access] at h
  · subst h; rfl

/-- A well-formed trace (mutexes exclude each other, store tags are unique) that respects a classification of
    its plain locations into mutex-guarded, published, thread-local and immutable-after-init has no data race. -/
theorem discipline_implies_drf (tr : Trace) (cls : Loc → Class) (wf : WellFormed tr) (hr : Respects tr cls) : DRF tr := by
  intro i j hrace
  obtain ⟨t1, t2, e1, e2, x, w1, w2, hij, h1, h2, hne, ha1, ha2, hw, hnhb⟩ := hrace
  have ok1 := hr i t1 e1 x w1 h1 ha1
  have ok2 := hr j t2 e2 x w2 h2 ha2
  unfold AccessOk at ok1 ok2
  cases hc : cls x with
  | guarded ms =>
    rw [hc] at ok1 ok2
    simp only at ok1 ok2
    obtain ⟨hms, k1⟩ := ok1
    obtain ⟨_, k2⟩ := ok2
    -- a mutex held at both accesses: a writer holds all of `ms`, a reader at least one
    have common : ∃ m, Holds tr t1 m i ∧ Holds tr t2 m j := by
      cases w1 <;> cases w2
      · cases hw
      · obtain ⟨m, hm, h⟩ := k1
        exact ⟨m, h, k2 m hm⟩
      · obtain ⟨m, hm, h⟩ := k2
        exact ⟨m, k1 m hm, h⟩
      · obtain ⟨m, hm⟩ := List.exists_mem_of_ne_nil ms hms
        exact ⟨m, k1 m hm, k2 m hm⟩
    obtain ⟨m, hh1, hh2⟩ := common
    exact hnhb (ordered_of_common_mutex wf hij h1 h2 hne hh1 hh2)
  | threadLocal t0 =>
    rw [hc] at ok1 ok2
    simp only at ok1 ok2
    exact hne (ok1.trans ok2.symm)
  | published a c =>
    rw [hc] at ok1 ok2
    simp only at ok1 ok2
    cases w1 <;> cases w2
    · cases hw
    · -- foreign read at i, write at j > i: impossible, the read must come after a store that follows the write
      obtain rfl := ok2.1 rfl
      obtain rfl := access_write ha2
      obtain ⟨s, l, _, _, _, hws, _, _, hsl, _, _, hli⟩ := ok1.2 rfl hne j h2
      omega
    · -- write (by c) at i, foreign read at j: the reader acquired a release store made after the write
      obtain rfl := ok1.1 rfl
      obtain rfl := access_write ha1
      exact hnhb ((ok2.2 rfl (Ne.symm hne) i h1).hb h1 h2)
    · exact hne ((ok1.1 rfl).trans (ok2.1 rfl).symm)
  | immutableAfterInit c =>
    rw [hc] at ok1 ok2
    simp only at ok1 ok2
    cases w1 <;> cases w2
    · cases hw
    · -- foreign read at i: it happens after a point of `c` that follows all of `c`'s writes, the one at j > i included
      obtain rfl := ok2.1 rfl
      obtain rfl := access_write ha2
      obtain ⟨h, e, hh, hall, hhb⟩ := ok1.2 rfl hne
      have := hall j h2
      have := hhb.lt
      omega
    · obtain rfl := ok1.1 rfl
      obtain rfl := access_write ha1
      obtain ⟨h, e, hh, hall, hhb⟩ := ok2.2 rfl (Ne.symm hne)
      exact hnhb (HB.trans (HB.po (hall i h1) h1 hh) hhb)
    · exact hne ((ok1.1 rfl).trans (ok2.1 rfl).symm)

/-- every happens-before edge other than program order needs an unlock, fork, join or release store -/
def noSync : Ev → Bool
  | .rel _ | .fork _ | .join _ => false
  | .astore _ o _ => !o.isRelease
  | _ => true

theorem hb_same_thread {tr : Trace} (hns : ∀ p ∈ tr, noSync p.2 = true) {i j : Nat} (h : HB tr i j) :
    ∃ t e1 e2, tr[i]? = some (t, e1) ∧ tr[j]? = some (t, e2) := by
  induction h with
  | po _ h1 h2 => exact ⟨_, _, _, h1, h2⟩
  | lock _ h1 _ => exact absurd (hns _ (List.mem_of_getElem? h1)) Bool.false_ne_true
  | fork _ h1 _ => exact absurd (hns _ (List.mem_of_getElem? h1)) Bool.false_ne_true
  | join _ _ h2 => exact absurd (hns _ (List.mem_of_getElem? h2)) Bool.false_ne_true
  | sw _ h1 hrel _ _ =>
    have := hns _ (List.mem_of_getElem? h1)
    simp [noSync, hrel] at this
  | trans _ _ ih1 ih2 =>
    obtain ⟨t, e1, e2, h1, h2⟩ := ih1
    obtain ⟨_, _, e3, h2', h3⟩ := ih2
    cases h2.symm.trans h2'
    exact ⟨t, e1, e3, h1, h3⟩

def exGuarded : Trace :=
  [(1, .acq 0), (1, .write 7), (1, .rel 0), (2, .acq 0), (2, .read 7), (2, .rel 0)]

def exPublished : Trace :=
  [(1, .write 7), (1, .astore 3 .release 100), (2, .aload 3 .acquire (some 100)), (2, .read 7)]

private theorem getElem?_some_lt {α} {l : List α} {i : Nat} {v : α} (h : l[i]? = some v) : i < l.length :=
  (List.getElem?_eq_some_iff.mp h).1

private theorem exGuarded_at {i : Nat} {t : Tid} {e : Ev} (h : exGuarded[i]? = some (t, e)) :
    (i = 0 ∧ t = 1 ∧ e = .acq 0) ∨ (i = 1 ∧ t = 1 ∧ e = .write 7) ∨ (i = 2 ∧ t = 1 ∧ e = .rel 0) ∨
    (i = 3 ∧ t = 2 ∧ e = .acq 0) ∨ (i = 4 ∧ t = 2 ∧ e = .read 7) ∨ (i = 5 ∧ t = 2 ∧ e = .rel 0) := by
  rcases i with _ | _ | _ | _ | _ | _ | i <;> cases h <;> simp

example : WellFormed exGuarded := by
  constructor
  · intro a1 a2 t1 t2 m hlt h1 h2
    -- the acquisitions are at 0 (thread 1) and 3 (thread 2); thread 1 releases at 2
    rcases exGuarded_at h1 with ⟨rfl, rfl, e⟩ | ⟨_, _, e⟩ | ⟨_, _, e⟩ | ⟨rfl, _, e⟩ | ⟨_, _, e⟩ | ⟨_, _, e⟩ <;> cases e
    · rcases exGuarded_at h2 with ⟨rfl, _⟩ | ⟨_, _, e⟩ | ⟨_, _, e⟩ | ⟨rfl, _⟩ | ⟨_, _, e⟩ | ⟨_, _, e⟩ <;> try cases e
      · omega
      · exact ⟨2, by omega, by omega, rfl⟩
    · rcases exGuarded_at h2 with ⟨rfl, _⟩ | ⟨_, _, e⟩ | ⟨_, _, e⟩ | ⟨rfl, _⟩ | ⟨_, _, e⟩ | ⟨_, _, e⟩ <;> try cases e
      all_goals omega
  · intro i j t1 t2 a o1 o2 tag h1 h2
    rcases exGuarded_at h1 with ⟨_, _, e⟩ | ⟨_, _, e⟩ | ⟨_, _, e⟩ | ⟨_, _, e⟩ | ⟨_, _, e⟩ | ⟨_, _, e⟩ <;> cases e

example : Respects exGuarded (fun _ => byMutex 0) := by
  intro i t e x w h ha
  -- the accesses are the write at 1 (mutex taken at 0) and the read at 4 (mutex taken at 3)
  rcases exGuarded_at h with ⟨_, _, rfl⟩ | ⟨rfl, rfl, rfl⟩ | ⟨_, _, rfl⟩ | ⟨_, _, rfl⟩ | ⟨rfl, rfl, rfl⟩ | ⟨_, _, rfl⟩ <;> cases ha
  · exact ⟨by simp, fun m hm => by
      obtain rfl : m = 0 := by simpa using hm
      exact ⟨0, by omega, rfl, fun k h1 h2 => by omega⟩⟩
  · exact ⟨by simp, 0, by simp, 3, by omega, rfl, fun k h1 h2 => by omega⟩

example : HB exPublished 0 3 :=
  have h : PublishedTo exPublished 3 1 2 0 3 := ⟨1, 2, .release, .acquire, 100, by omega, rfl, rfl, by omega, rfl, rfl, by omega⟩
  h.hb (e₁ := .write 7) (e₂ := .read 7) rfl rfl

/-- a racy trace IS a race in the model (the definitions are not vacuous) -/
def exRacy : Trace := [(1, .write 7), (2, .write 7)]

theorem exRacy_no_hb : ∀ i j, HB exRacy i j → False := by
  intro i j h
  -- the two events of the trace belong to two threads
  obtain ⟨t, e1, e2, h1, h2⟩ := hb_same_thread (tr := exRacy) (by decide) h
  have hi := h.lt
  have hj : j < 2 := h.lt_length
  obtain ⟨rfl, rfl⟩ : i = 0 ∧ j = 1 := by omega
  cases h1
  cases h2

example : Race exRacy 0 1 :=
  ⟨1, 2, .write 7, .write 7, 7, true, true, by omega, rfl, rfl, by decide, rfl, rfl, rfl,
    fun h => exRacy_no_hb 0 1 h⟩

end Lcdb.C10
