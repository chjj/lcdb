/-
  C14: the level structure stays well-formed.  Every step kind whose contract (`stepOk`) holds
  preserves the invariant `Inv` (sorted runs and levels, well-formed files, recency along the
  search order, sequence / file-number bounds); hence so does every run of such steps, starting
  from the empty database.
-/
import LcdbModel.Lemmas.LsmSteps
namespace Lcdb.C14
open Lcdb

theorem write_preserves_inv (c : Cmp) (st : DbState) (ops : List WOp) (h : Inv c st)
    (hs : stepOk c st (.write ops)) : Inv c (applyStep c st (.write ops)) := by
  obtain ⟨_, hk⟩ := hs
  have hR := h.toRec
  have hmemb : ∀ x ∈ st.mem, x.seq ≤ st.lastSeq ∧ x.kind ≤ 1 := fun x hx =>
    h.entry_bounds (mem_allEntries.mpr (.inl hx))
  -- the batch's sequence numbers lie above everything the state holds
  have hnew : ∀ r : Run, (∀ y ∈ r, y.seq ≤ st.lastSeq) → NewerThan c st.mem r →
      NewerThan c (applyOps c st.mem (st.lastSeq + 1) ops) r := by
    intro r hb hn x hx y hy he
    rcases mem_applyOps.mp hx with hx' | hx'
    · exact hn x hx' y hy he
    · have := (mem_opsEntries hx').1
      have := hb y hy
      omega
  refine h.of_levels_eq rfl ?_ h.immSorted ?_ ?_ hR.immFiles ?_ ?_ (Nat.le_add_right _ _)
    (Nat.le_refl _) ?_
  · exact applyOps_sorted h.memSorted
      (fun x hx => ⟨Nat.lt_succ_of_le (hmemb x hx).1, (hmemb x hx).2⟩) hk
  · exact fun r hr => hnew r
      (fun y hy => h.seqBound y (mem_allEntries.mpr (.inr (.inl ⟨r, hr, hy⟩)))) (hR.memImm r hr)
  · exact fun f hf => hnew f.run
      (fun y hy => h.seqBound y (mem_allEntries.mpr (.inr (.inr ⟨f, hf, hy⟩)))) (hR.memFiles f hf)
  · intro e he
    show e.seq ≤ st.lastSeq + ops.length ∧ e.kind ≤ 1
    rcases mem_applyOps.mp he with he' | he'
    · exact ⟨Nat.le_trans (hmemb e he').1 (Nat.le_add_right _ _), (hmemb e he').2⟩
    · obtain ⟨_, hlt, o, ho, hko⟩ := mem_opsEntries he'
      exact ⟨by omega, hko ▸ hk o ho⟩
  · intro r hr e he
    have := h.entry_bounds (mem_allEntries.mpr (.inr (.inl ⟨r, hr, he⟩)))
    exact ⟨Nat.le_trans this.1 (Nat.le_add_right _ _), this.2⟩
  · exact fun s hs => Nat.le_trans (h.snapsBound s hs) (Nat.le_add_right _ _)

/-- what `Inv c st'` asks of a file `f` that `st'` holds at level `l` and `st` did not -/
structure InstalledFile (c : Cmp) (st st' : DbState) (l : Nat) (f : FileMeta) : Prop where
  ok : FileOk c f
  bounds : ∀ e ∈ f.run, e.seq ≤ st.lastSeq ∧ e.kind ≤ 1
  numLt : f.num < st'.nextFile
  numNe : ∀ i, i ≠ l → ∀ g ∈ st'.level i, g.num ≠ f.num
  mem : NewerThan c st.mem f.run
  imm : ∀ r ∈ st'.imm, NewerThan c r f.run
  up : ∀ i, i < l → ∀ a ∈ st'.level i, NewerThan c a.run f.run
  down : ∀ j, l < j → ∀ b ∈ st'.level j, NewerThan c f.run b.run
  l0 : l = 0 → ∀ b ∈ st'.level 0,
    (b.num > f.num → NewerThan c b.run f.run) ∧ (f.num > b.num → NewerThan c f.run b.run)

/-- The shape flush, recovery and compaction share: memory and the counters of `st'` are those of `st`,
    and its files are files of `st` at their old level and in their old order, except that level `l`
    also holds the files satisfying `New`. -/
theorem install_preserves_inv {c : Cmp} {st st' : DbState} (h : Inv c st) (l : Nat) (New : FileMeta → Prop)
    (hlen : st'.levels.length = 7) (hmem : st'.mem = st.mem) (himm : ∀ r ∈ st'.imm, r ∈ st.imm)
    (hseq : st'.lastSeq = st.lastSeq) (hsnaps : st'.snaps = st.snaps) (hnf : st.nextFile ≤ st'.nextFile)
    (hother : ∀ i, i ≠ l → (st'.level i).Sublist (st.level i))
    (hat : ∀ g ∈ st'.level l, g ∈ st.level l ∨ New g)
    (hnew : ∀ f, New f → InstalledFile c st st' l f)
    (hsorted : 1 ≤ l → LevelSorted c (st'.level l))
    (hwithin : (st'.level l).Pairwise (fun f g => f.num ≠ g.num)) :
    Inv c st' := by
  have hR := h.toRec
  have hN := h.numsRel
  have hfile : ∀ i, ∀ g ∈ st'.level i, g ∈ st.level i ∨ (New g ∧ i = l) := by
    intro i g hg
    by_cases hi : i = l
    · subst hi; exact (hat g hg).imp id (⟨·, rfl⟩)
    · exact .inl ((hother i hi).subset hg)
  have hall : ∀ g ∈ allFiles st', g ∈ allFiles st ∨ New g := by
    intro g hg
    obtain ⟨i, hi⟩ := mem_allFiles.mp hg
    exact (hfile i g hi).imp (fun hi' => mem_allFiles.mpr ⟨i, hi'⟩) (·.1)
  have hentries : ∀ e ∈ allEntries st', e.seq ≤ st'.lastSeq ∧ e.kind ≤ 1 := by
    intro e he
    rw [hseq]
    rcases mem_allEntries.mp he with he | ⟨r, hr, he⟩ | ⟨g, hg, he⟩
    · rw [hmem] at he
      exact h.entry_bounds (mem_allEntries.mpr (.inl he))
    · exact h.entry_bounds (mem_allEntries.mpr (.inr (.inl ⟨r, himm r hr, he⟩)))
    · rcases hall g hg with hg' | hg'
      · exact h.entry_bounds (mem_allEntries.mpr (.inr (.inr ⟨g, hg', he⟩)))
      · exact (hnew g hg').bounds e he
  apply Inv.ofRel hlen (hmem ▸ h.memSorted) (fun r hr => h.immSorted r (himm r hr))
  · exact fun g hg => (hall g hg).elim (h.filesOk g) (hnew g · |>.ok)
  · intro i hi
    by_cases hil : i = l
    · subst hil; exact hsorted hi
    · exact (h.levelsSorted i hi).sublist (hother i hil)
  · refine ⟨fun r hr => hmem ▸ hR.memImm r (himm r hr),
      fun g hg => hmem ▸ (hall g hg).elim (hR.memFiles g) (hnew g · |>.mem),
      fun r hr g hg => (hall g hg).elim (hR.immFiles r (himm r hr) g) (hnew g · |>.imm r hr), ?_, ?_⟩
    · intro a ha b hb hab
      by_cases hl0 : l = 0
      · subst hl0
        rcases hat a ha with ha' | ha'
        · rcases hat b hb with hb' | hb'
          · exact hR.l0 a ha' b hb' hab
          · exact ((hnew b hb').l0 rfl a ha).1 hab
        · exact ((hnew a ha').l0 rfl b hb).2 hab
      · have hsub := (hother 0 (Ne.symm hl0)).subset
        exact hR.l0 a (hsub ha) b (hsub hb) hab
    · intro i j hij a ha b hb
      rcases hfile i a ha with ha' | ⟨ha', rfl⟩ <;> rcases hfile j b hb with hb' | ⟨hb', rfl⟩
      · exact hR.levels i j hij a ha' b hb'
      · exact (hnew b hb').up i hij a ha
      · exact (hnew a ha').down j hij b hb
      · omega
  · exact hentries
  · constructor
    · intro i
      by_cases hil : i = l
      · subst hil; exact hwithin
      · exact (hN.within i).sublist (hother i hil)
    · intro i j hij a ha b hb
      rcases hfile i a ha with ha' | ⟨ha', rfl⟩ <;> rcases hfile j b hb with hb' | ⟨hb', rfl⟩
      · exact hN.across i j hij a ha' b hb'
      · exact (hnew b hb').numNe i (by omega) a ha
      · exact Ne.symm ((hnew a ha').numNe j (by omega) b hb)
      · omega
  · exact fun g hg => (hall g hg).elim (fun hg' => Nat.lt_of_lt_of_le (h.numsBound g hg') hnf) (hnew g · |>.numLt)
  · rw [hsnaps, hseq]; exact h.snapsBound

theorem addFile_preserves_inv (c : Cmp) (st : DbState) (l : Nat) (f : FileMeta) (imm' : Option Run)
    (h : Inv c st) (hl : l < 7) (hf : FileOk c f)
    (himm : ∀ r ∈ imm', r ∈ st.imm)
    (hnum : ∀ g ∈ allFiles st, g.num ≠ f.num)
    (hmem : NewerThan c st.mem f.run)
    (himmf : ∀ r ∈ imm', NewerThan c r f.run)
    (hup : ∀ i, i < l → ∀ a ∈ st.level i, NewerThan c a.run f.run)
    (hdown : ∀ j, l < j → ∀ b ∈ st.level j, NewerThan c f.run b.run)
    (h0 : l = 0 → ∀ b ∈ st.level 0,
      (b.num > f.num → NewerThan c b.run f.run) ∧ (f.num > b.num → NewerThan c f.run b.run))
    (hsorted : 1 ≤ l → LevelSorted c (insertSorted c f (st.level l)))
    (hent : ∀ e ∈ f.run, e.seq ≤ st.lastSeq ∧ e.kind ≤ 1) :
    Inv c (addFileState c st l f imm' (max st.nextFile (f.num + 1))) := by
  have hl' := h.lt_length hl
  have hlev := level_addFileState c st l f imm' (max st.nextFile (f.num + 1)) hl'
  have hold : ∀ i, i ≠ l → (addFileState c st l f imm' (max st.nextFile (f.num + 1))).level i = st.level i :=
    fun i hi => by rw [hlev, if_neg hi]
  refine install_preserves_inv h l (· = f) (levels_length_setLevel.trans h.nlevels) rfl himm rfl rfl
    (Nat.le_max_left _ _) (hother := fun i hi => hold i hi ▸ List.Sublist.refl _) (hat := ?_) (hnew := ?_)
    (hsorted := fun h1 => by rw [hlev, if_pos rfl]; exact hsorted h1) (hwithin := ?_)
  · intro g hg
    rw [hlev, if_pos rfl, mem_insertSorted] at hg
    exact hg.symm
  · rintro _ rfl
    refine ⟨hf, hent, Nat.lt_of_lt_of_le (Nat.lt_succ_self _) (Nat.le_max_right _ _),
      fun i hi g hg => hnum g (mem_allFiles.mpr ⟨i, hold i hi ▸ hg⟩), hmem, himmf,
      fun i hi a ha => hup i hi a (hold i (by omega) ▸ ha),
      fun j hj b hb => hdown j hj b (hold j (by omega) ▸ hb), ?_⟩
    -- at level 0 the new table meets the old ones and itself
    intro hl0 b hb
    subst hl0
    rw [hlev, if_pos rfl, mem_insertSorted] at hb
    rcases hb with rfl | hb
    · exact ⟨fun hgt => absurd hgt (Nat.lt_irrefl _), fun hgt => absurd hgt (Nat.lt_irrefl _)⟩
    · exact h0 rfl b hb
  · rw [hlev, if_pos rfl, List.Perm.pairwise_iff (fun h => Ne.symm h) (insertSorted_perm c f (st.level l)),
      List.pairwise_cons]
    exact ⟨fun g hg => Ne.symm (hnum g (mem_allFiles.mpr ⟨l, hg⟩)), h.numsRel.within l⟩

theorem flush_preserves_inv (c : Cmp) (st : DbState) (level : Nat) (f : FileMeta) (h : Inv c st)
    (hs : stepOk c st (.flush level f)) : Inv c (applyStep c st (.flush level f)) := by
  obtain ⟨himm, hf, hl, hnf, hno⟩ := hs
  have hR := h.toRec
  have hmemimm : f.run ∈ st.imm := Option.mem_def.mpr himm
  show Inv c (addFileState c st level f none (max st.nextFile (f.num + 1)))
  apply addFile_preserves_inv c st level f none h hl hf
  · intro r hr; cases hr
  · intro g hg
    have := h.numsBound g hg
    omega
  · exact hR.memImm f.run hmemimm
  · intro r hr; cases hr
  · intro i hi a ha
    exact Lsm.newerThan_of_apart hf (h.filesOk a (mem_allFiles.mpr ⟨i, ha⟩))
      (hno i (by omega) (by omega) a ha)
  · intro j _ b hb
    exact hR.immFiles f.run hmemimm b (mem_allFiles.mpr ⟨j, hb⟩)
  · intro _ b hb
    constructor
    · intro hgt
      have := h.numsBound b (mem_allFiles.mpr ⟨0, hb⟩)
      omega
    · intro _
      exact hR.immFiles f.run hmemimm b (mem_allFiles.mpr ⟨0, hb⟩)
  · intro h1
    apply insertSorted_levelSorted (h.levelsSorted level h1) hf
    · exact fun g hg => h.filesOk g (mem_allFiles.mpr ⟨level, hg⟩)
    · exact fun g hg => hno level (Nat.le_refl _) (by omega) g hg
  · intro e he
    have hmem : e ∈ allEntries st := mem_allEntries.mpr (.inr (.inl ⟨f.run, hmemimm, he⟩))
    exact ⟨h.seqBound e hmem, h.kinds e hmem⟩

theorem addL0_preserves_inv (c : Cmp) (st : DbState) (f : FileMeta) (h : Inv c st)
    (hs : stepOk c st (.addL0 f)) : Inv c (applyStep c st (.addL0 f)) := by
  obtain ⟨hf, hmem, himm, hnums, hsrc, hent, _, hdist⟩ := hs
  have hall : ∀ g ∈ allFiles st, NewerThan c f.run g.run :=
    ((forall_mem_sourceRuns st _ fun _ => newerThan_flatMap_right).mp hsrc).2.2
  show Inv c (addFileState c st 0 f st.imm (max st.nextFile (f.num + 1)))
  apply addFile_preserves_inv c st 0 f st.imm h (by omega) hf
  · exact fun r hr => hr
  · exact hdist
  · rw [hmem]; exact newerThan_nil_left
  · intro r hr; rw [himm] at hr; cases hr
  · intro i hi; omega
  · intro j _ b hb
    exact hall b (mem_allFiles.mpr ⟨j, hb⟩)
  · intro _ b hb
    constructor
    · intro hgt
      have := hnums b hb
      omega
    · intro _
      exact hall b (mem_allFiles.mpr ⟨0, hb⟩)
  · intro h1; omega
  · exact hent

theorem compact_preserves_inv (c : Cmp) (st : DbState) (level : Nat) (in0 in1 : List Nat)
    (outs : List FileMeta) (h : Inv c st) (hs : stepOk c st (.compact level in0 in1 outs)) :
    Inv c (applyStep c st (.compact level in0 in1 outs)) := by
  have hkept := kept_newerThan_ins h hs
  obtain ⟨hl, _, _, _, _, _, houtsOk, hsorted, hnums, houtsDistinct, hsub, _, _⟩ := hs
  have hR := h.toRec
  have hN := h.numsRel
  have hl' := h.lt_length hl
  have hlev := level_compact c st level in0 in1 outs hl'
  have hml := fun i g => (mem_level_compact c st level in0 in1 outs hl' i g).mp
  -- every entry of an output is an input, so what is newer than the inputs is newer than the outputs
  have hout : ∀ r : Run, NewerThan c r (compactIns st level in0 in1) → ∀ b ∈ outs, NewerThan c r b.run :=
    fun r hr b hb => hr.mono (fun _ hx => hx) (fun y hy => hsub y (List.mem_flatMap.mpr ⟨b, hb, hy⟩))
  -- an old file that shares its number with an output is an input taken from `level` (a trivial move)
  have hclash : ∀ f ∈ outs, ∀ i, ∀ g ∈ st.level i, g.num = f.num → i = level ∧ g.num ∈ in0 := by
    intro f hf i g hg heq
    have hp := mem_pickNums.mp (hnums f hf g (mem_allFiles.mpr ⟨i, hg⟩) heq).1
    exact ⟨hN.level_unique hg hp.1, hp.2⟩
  refine install_preserves_inv h (level + 1) (· ∈ outs)
    (levels_length_setLevel.trans (levels_length_setLevel.trans h.nlevels)) rfl
    (fun _ hr => hr) rfl rfl (foldl_max_bounds (·.num + 1) outs _).1 (hother := ?_)
    (hat := fun g hg => (hml _ g hg).imp (·.1) (·.1))
    (hnew := fun f hf => ⟨houtsOk f hf, ?_, (foldl_max_bounds (·.num + 1) outs _).2 f hf, ?_, hout _ hkept.1 f hf,
      fun r hr => hout r (hkept.2.1 r hr) f hf, ?_, ?_, fun e => absurd e (Nat.succ_ne_zero _)⟩)
    (hsorted := fun _ => by rw [hlev, if_pos rfl]; exact hsorted) (hwithin := ?_)
  · intro i hi
    rw [hlev, if_neg hi]
    split
    · rename_i hi0
      rw [hi0]
      exact List.filter_sublist
    · exact List.Sublist.refl _
  · exact fun e he => h.entry_bounds (compactIns_sub (hsub e (List.mem_flatMap.mpr ⟨f, hf, he⟩)))
  · intro i hi g hg heq
    rcases hml i g hg with hg' | ⟨_, e⟩
    · obtain ⟨hi', hin⟩ := hclash f hf i g hg'.1 heq
      exact hg'.2.1 hi' hin
    · exact hi e
  · intro i hi a ha
    rcases hml i a ha with ha' | ⟨_, e⟩
    · exact hout a.run (hkept.2.2 i a (Nat.le_of_lt hi) ha'.1 ha'.2.1 ha'.2.2) f hf
    · omega
  · -- an output against a file strictly deeper than both input levels
    intro j hj b hb x hx y hy he
    rcases hml j b hb with hb' | ⟨_, e⟩
    · obtain ⟨g, hg, hxg⟩ := mem_compactIns.mp (hsub x (List.mem_flatMap.mpr ⟨f, hf, hx⟩))
      rcases hg with hg | hg
      · exact hR.levels level j (by omega) g hg.1 b hb'.1 x hxg y hy he
      · exact hR.levels (level + 1) j hj g hg.1 b hb'.1 x hxg y hy he
    · omega
  · rw [hlev, if_pos rfl, List.Perm.pairwise_iff (fun h => Ne.symm h) (addFiles_perm c _ _ outs),
      List.pairwise_append]
    refine ⟨List.Pairwise.filter _ (hN.within _), houtsDistinct, ?_⟩
    intro g hg f hf heq
    have := (hclash f hf _ g (mem_removeNums.mp hg).1 heq).1
    omega

theorem step_preserves_inv (c : Cmp) (st : DbState) (s : Step) (h : Inv c st) (hs : stepOk c st s) :
    Inv c (applyStep c st s) := by
  cases s with
  | write ops => exact write_preserves_inv c st ops h hs
  | flush level f => exact flush_preserves_inv c st level f h hs
  | addL0 f => exact addL0_preserves_inv c st f h hs
  | compact level in0 in1 outs => exact compact_preserves_inv c st level in0 in1 outs h hs
  | switchMem =>
    refine h.of_levels_eq rfl List.Pairwise.nil ?_ (fun _ _ => newerThan_nil_left)
      (fun f _ => newerThan_nil_left) ?_ (fun _ he => nomatch he) ?_ (Nat.le_refl _) (Nat.le_refl _) h.snapsBound
    · intro r hr; cases hr; exact h.memSorted
    · intro r hr; cases hr; exact h.toRec.memFiles
    · intro r hr e he; cases hr
      exact h.entry_bounds (mem_allEntries.mpr (.inl he))
  | dropImm =>
    exact h.of_levels_eq rfl h.memSorted (fun _ hr => nomatch hr) (fun _ hr => nomatch hr)
      h.toRec.memFiles (fun _ hr => nomatch hr)
      (fun _ he => h.entry_bounds (mem_allEntries.mpr (.inl he))) (fun _ hr => nomatch hr) (Nat.le_refl _)
      (Nat.le_refl _) h.snapsBound
  | snapshot =>
    refine { h with snapsBound := fun s hs' => ?_ }
    rcases List.mem_append.mp hs' with hs' | hs'
    · exact h.snapsBound s hs'
    · rw [List.mem_singleton.mp hs']; exact Nat.le_refl _
  | release s => exact { h with snapsBound := fun s' hs' => h.snapsBound s' (List.mem_of_mem_erase hs') }
  | bumpNextFile n =>
    exact { h with numsBound := fun f hf => Nat.lt_of_lt_of_le (h.numsBound f hf) (Nat.le_max_left _ _) }

theorem steps_preserve_inv (c : Cmp) (st : DbState) (steps : List Step) (h : Inv c st)
    (hs : StepsOk c st steps) : Inv c (runSteps c st steps) := by
  induction steps generalizing st with
  | nil => exact h
  | cons s ss ih => exact ih _ (step_preserves_inv c st s h hs.1) hs.2

theorem initial_inv (c : Cmp) : Inv c emptyState := by
  have hlev : ∀ l, emptyState.level l = [] := by
    intro l
    simp only [DbState.level, emptyState, List.getD_eq_getElem?_getD, List.getElem?_replicate]
    split <;> rfl
  have hno : ∀ {l : Nat} {f : FileMeta}, f ∈ emptyState.level l → False :=
    fun h => by rw [hlev] at h; cases h
  have hfiles : ∀ f ∈ allFiles emptyState, False := fun f hf => (mem_allFiles.mp hf).elim fun _ => hno
  have hentries : ∀ e ∈ allEntries emptyState, False := fun _ he => nomatch he
  exact Inv.ofRel rfl List.Pairwise.nil (fun _ hr => nomatch hr) (fun f hf => (hfiles f hf).elim)
    (fun l _ => hlev l ▸ List.Pairwise.nil)
    ⟨fun _ hr => (nomatch hr), fun f hf => (hfiles f hf).elim, fun _ hr => (nomatch hr),
      fun _ ha => (hno ha).elim, fun _ _ _ _ ha => (hno ha).elim⟩
    (fun e he => (hentries e he).elim)
    ⟨fun l => hlev l ▸ List.Pairwise.nil, fun _ _ _ _ ha => (hno ha).elim⟩
    (fun f hf => (hfiles f hf).elim) (fun _ hs => nomatch hs)

namespace Ex

def k1 : Bytes := [1]
def k2 : Bytes := [2]
def k3 : Bytes := [3]
def k5 : Bytes := [5]

/-- a table file with consistent metadata for a non-empty run -/
def mkFile (num : Nat) (run : Run) : FileMeta :=
  match run.head?, run.getLast? with
  | some a, some b => ⟨num, run.length, a.ukey, a.packed, b.ukey, b.packed, run⟩
  | _, _ => ⟨num, 0, [], 0, [], 0, run⟩

def g2 : FileMeta := mkFile 2 [⟨k1, 1, 1, "old"⟩, ⟨k2, 2, 1, "old2"⟩]
def g3 : FileMeta := mkFile 3 [⟨k1, 3, 1, "z"⟩]
def g4 : FileMeta := mkFile 4 [⟨k1, 5, 0, ""⟩, ⟨k2, 6, 1, "y"⟩]
def g5 : FileMeta := mkFile 5 [⟨k1, 7, 1, "x"⟩]
def g6 : FileMeta := mkFile 6 [⟨k3, 4, 1, "w"⟩]

/-- memtable, immutable memtable, two overlapping level-0 files, two level-1 files, one level-2
    file, one live snapshot -/
def stA : DbState :=
  { mem := [⟨k1, 10, 1, "m"⟩], imm := some [⟨k2, 9, 0, ""⟩, ⟨k3, 8, 1, "i"⟩],
    levels := [[g5, g4], [g3, g6], [g2], [], [], [], []], lastSeq := 10, snaps := [6], nextFile := 7 }

/-- the same with an immutable memtable that overlaps nothing (flush to a deeper level) -/
def stB : DbState := { stA with imm := some [⟨k5, 9, 1, "q"⟩] }
def stC : DbState := { stA with imm := none }
def stD : DbState := { stA with imm := some [] }
/-- during recovery: nothing in memory -/
def stG : DbState := { stA with mem := [], imm := none, snaps := [] }

def g7 : FileMeta := mkFile 7 [⟨k2, 9, 0, ""⟩, ⟨k3, 8, 1, "i"⟩]
def g7b : FileMeta := mkFile 7 [⟨k5, 9, 1, "q"⟩]
/-- level 0 -> 1 output: the shadowed `(k1, 3)` is dropped, the tombstone `(k1, 5)` must stay
    (level 2 still holds `k1`, and snapshot 6 sees the tombstone) -/
def g8 : FileMeta := mkFile 8 [⟨k1, 7, 1, "x"⟩, ⟨k1, 5, 0, ""⟩, ⟨k2, 6, 1, "y"⟩]
/-- level 1 -> 2 output: `(k1, 1)` is shadowed at every protected sequence -/
def g9 : FileMeta := mkFile 9 [⟨k1, 3, 1, "z"⟩, ⟨k2, 2, 1, "old2"⟩]
/-- a replayed log: newer than everything on disk -/
def g10 : FileMeta := mkFile 10 [⟨k1, 9, 1, "r"⟩, ⟨k3, 10, 0, ""⟩]

theorem invA : Inv .bytewise stA := inv_of_invRel (by decide +kernel)
theorem invB : Inv .bytewise stB := inv_of_invRel (by decide +kernel)
theorem invD : Inv .bytewise stD := inv_of_invRel (by decide +kernel)
theorem invC : Inv .bytewise stC := step_preserves_inv .bytewise stD .dropImm invD rfl
theorem invG : Inv .bytewise stG := inv_of_invRel (by decide +kernel)

def writeA : Step := .write [⟨k2, 1, "n"⟩, ⟨k1, 0, ""⟩]
def compact01 : Step := .compact 0 [4, 5] [3] [g8]
def compact12 : Step := .compact 1 [3] [2] [g9]
/-- trivial move of `g6` from level 1 to level 2 -/
def moveA : Step := .compact 1 [6] [] [g6]

theorem okWrite : stepOk .bytewise stA writeA := by decide +kernel
theorem okSwitch : stepOk .bytewise stC .switchMem := by decide +kernel
theorem okFlush0 : stepOk .bytewise stA (.flush 0 g7) := by decide +kernel
theorem okFlush1 : stepOk .bytewise stB (.flush 1 g7b) := by decide +kernel
theorem okDrop : stepOk .bytewise stD .dropImm := by decide +kernel
theorem okCompact01 : stepOk .bytewise stA compact01 := by decide +kernel
theorem okCompact12 : stepOk .bytewise stA compact12 := by decide +kernel
theorem okMove : stepOk .bytewise stA moveA := by decide +kernel
theorem okRelease : stepOk .bytewise stA (.release 6) := by decide +kernel
theorem okAddL0 : stepOk .bytewise stG (.addL0 g10) :=
  ⟨by decide +kernel, by decide +kernel, by decide +kernel, by decide +kernel,
    (forall_mem_sourceRuns _ _ fun _ => newerThan_flatMap_right).mpr
      ⟨by decide +kernel, by decide +kernel, by decide +kernel⟩,
    by decide +kernel, by decide +kernel, by decide +kernel⟩

example : Inv .bytewise (applyStep .bytewise stA writeA) := write_preserves_inv _ _ _ invA okWrite
example : Inv .bytewise (applyStep .bytewise stC .switchMem) := step_preserves_inv _ _ _ invC okSwitch
example : Inv .bytewise (applyStep .bytewise stA (.flush 0 g7)) := flush_preserves_inv _ _ _ _ invA okFlush0
example : Inv .bytewise (applyStep .bytewise stB (.flush 1 g7b)) := flush_preserves_inv _ _ _ _ invB okFlush1
example : Inv .bytewise (applyStep .bytewise stD .dropImm) := step_preserves_inv _ _ _ invD okDrop
example : Inv .bytewise (applyStep .bytewise stG (.addL0 g10)) := addL0_preserves_inv _ _ _ invG okAddL0
example : Inv .bytewise (applyStep .bytewise stA compact01) :=
  compact_preserves_inv _ _ _ _ _ _ invA okCompact01
example : Inv .bytewise (applyStep .bytewise stA compact12) :=
  compact_preserves_inv _ _ _ _ _ _ invA okCompact12
example : Inv .bytewise (applyStep .bytewise stA moveA) := compact_preserves_inv _ _ _ _ _ _ invA okMove
example : Inv .bytewise (applyStep .bytewise stA .snapshot) := step_preserves_inv _ _ _ invA trivial
example : Inv .bytewise (applyStep .bytewise stA (.release 6)) := step_preserves_inv _ _ _ invA okRelease
example : Inv .bytewise (applyStep .bytewise stA (.bumpNextFile 20)) :=
  step_preserves_inv _ _ _ invA trivial

/-- the contracts are not trivially true: `stepOk` rejects wrong steps -/
example : ¬ stepOk .bytewise stA (.flush 1 g7) := by decide +kernel         -- overlaps level 0 / level 1
example : ¬ stepOk .bytewise stA (.compact 0 [4] [3] [g8]) := by decide +kernel  -- g8 holds an entry that is no input
example : ¬ stepOk .bytewise stA (.compact 0 [4, 5] [3] [mkFile 8 [⟨k1, 7, 1, "x"⟩, ⟨k2, 6, 1, "y"⟩]]) := by
  decide +kernel                                                            -- drops a tombstone level 2 needs

def h1 : FileMeta := mkFile 1 [⟨k1, 3, 0, ""⟩, ⟨k1, 1, 1, "a"⟩, ⟨k2, 2, 1, "b"⟩]
def h2 : FileMeta := mkFile 2 [⟨k2, 4, 1, "c"⟩]
def h3 : FileMeta := mkFile 3 [⟨k1, 3, 0, ""⟩, ⟨k1, 1, 1, "a"⟩, ⟨k2, 4, 1, "c"⟩, ⟨k2, 2, 1, "b"⟩]
def h4 : FileMeta := mkFile 4 [⟨k2, 4, 1, "c"⟩]

def prefix1 : List Step := [.write [⟨k1, 1, "a"⟩, ⟨k2, 1, "b"⟩], .snapshot]
def middle1 : List Step :=
  [.write [⟨k1, 0, ""⟩], .switchMem, .flush 0 h1, .write [⟨k2, 1, "c"⟩], .switchMem, .flush 0 h2,
    .compact 0 [1, 2] [] [h3]]
def suffix1 : List Step := [.release 2, .compact 1 [3] [] [h4]]
/-- a whole life from the empty database: writes, a snapshot, two flushes, a compaction that has to
    keep everything the snapshot sees, the release, and a compaction that drops the tombstone -/
def run1 : List Step := prefix1 ++ middle1 ++ suffix1

theorem okRun1 : StepsOk .bytewise emptyState run1 := by decide +kernel

example : Inv .bytewise (runSteps .bytewise emptyState run1) :=
  steps_preserve_inv _ _ _ (initial_inv _) okRun1

/-- before the release the compaction may not drop the tombstone's shadow `(k1, 1)` -/
example : ¬ StepsOk .bytewise emptyState (prefix1 ++ [.write [⟨k1, 0, ""⟩], .switchMem, .flush 0 h1,
    .write [⟨k2, 1, "c"⟩], .switchMem, .flush 0 h2, .compact 0 [1, 2] [] [h4]]) := by decide +kernel

end Ex

end Lcdb.C14
