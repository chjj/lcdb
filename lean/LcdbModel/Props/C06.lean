/-
  C06 / C01 at the model level: views are preserved.

  * background work (memtable switch, flush, compaction, snapshot bookkeeping) does not change what
    any protected sequence (the present, every live snapshot) sees;
  * a write changes nothing at or below the old last sequence, and at the new last sequence the
    view is the old one updated by the batch;
  * hence a snapshot's view is immutable until it is released, and the state reached by any run
    from the empty database answers like the plain log of its writes.
-/
import LcdbModel.Props.C14
namespace Lcdb.C06
open Lcdb Lcdb.C14

theorem mem_allEntries_flush (c : Cmp) (st : DbState) (level : Nat) (f : FileMeta) (h : Inv c st)
    (hs : stepOk c st (.flush level f)) (e : Entry) :
    e ∈ allEntries (applyStep c st (.flush level f)) ↔ e ∈ allEntries st := by
  obtain ⟨himm, _, hl, _, _⟩ := hs
  have hl' := h.lt_length hl
  -- the table takes the place of the immutable memtable it was written from
  refine (mem_allEntries_addFileState hl').trans ?_
  simp [mem_allEntries, himm]

theorem allEntries_switchMem (c : Cmp) (st : DbState) (hs : stepOk c st .switchMem) :
    allEntries (applyStep c st .switchMem) = allEntries st := by
  have himm : st.imm = none := hs
  simp [allEntries, applyStep, allFiles, himm]

theorem allEntries_dropImm (c : Cmp) (st : DbState) (hs : stepOk c st .dropImm) :
    allEntries (applyStep c st .dropImm) = allEntries st := by
  have himm : st.imm = some [] := hs
  simp [allEntries, applyStep, allFiles, himm]

theorem flush_preserves_view (c : Cmp) (st : DbState) (level : Nat) (f : FileMeta) (h : Inv c st)
    (hnt : NoSeqTies c st) (hs : stepOk c st (.flush level f)) (k : Bytes) (q : Nat) :
    view c (allEntries (applyStep c st (.flush level f))) k q = view c (allEntries st) k q :=
  view_congr hnt.keyNoTies (fun e _ _ => mem_allEntries_flush c st level f h hs e)

theorem other_snapshots_irrelevant (c : Cmp) (st : DbState) (s' : Nat) (k : Bytes) (q : Nat) :
    view c (allEntries (applyStep c st .snapshot)) k q = view c (allEntries st) k q ∧
    view c (allEntries (applyStep c st (.release s'))) k q = view c (allEntries st) k q ∧
    allEntries (applyStep c st .snapshot) = allEntries st ∧
    allEntries (applyStep c st (.release s')) = allEntries st :=
  ⟨rfl, rfl, rfl, rfl⟩

/-- the heart of compaction correctness: if the outputs answer like the inputs for key `k` at
    sequence `q` (contract (c)), the whole state does -/
theorem compact_view_of_sameAnswer (c : Cmp) (st : DbState) (level : Nat) (in0 in1 : List Nat)
    (outs : List FileMeta) (h : Inv c st) (hnt : NoSeqTies c st)
    (hs : stepOk c st (.compact level in0 in1 outs)) (k : Bytes) (q : Nat)
    (hsame : ∀ e ∈ compactIns st level in0 in1,
      sameAnswer c st level (compactIns st level in0 in1) (outs.flatMap (·.run)) e.ukey q = true) :
    view c (allEntries (applyStep c st (.compact level in0 in1 outs))) k q =
      view c (allEntries st) k q := by
  have hkept := kept_newerThan_ins h hs
  obtain ⟨hl, _, _, _, _, _, _, _, _, _, hsub, _, _⟩ := hs
  have hl' := h.lt_length hl
  have hK := hnt.keyNoTies
  have hF1 : ∀ e ∈ allEntries (applyStep c st (.compact level in0 in1 outs)), e ∈ allEntries st :=
    compact_entries_sub hl' hsub
  have hK' := hK.of_subset hF1
  unfold view
  cases hn : newestVisible c (allEntries st) k q with
  | none =>
    rw [newestVisible_eq_none_iff.mpr fun e he => newestVisible_eq_none_iff.mp hn e (hF1 e he)]
  | some m =>
    obtain ⟨hm1, hm2, hm3, hm4⟩ := newestVisible_spec hn
    by_cases hmE' : m ∈ allEntries (applyStep c st (.compact level in0 in1 outs))
    · rw [newestVisible_eq_some_of hK' hmE' hm2 hm3 (fun e he => hm4 e (hF1 e he))]
    · -- `m` was consumed: it is the newest visible input, so by the contract the outputs either
      -- hold it (impossible) or hold nothing visible, `m` is a tombstone and nothing deeper has `k`
      have hmins : m ∈ compactIns st level in0 in1 :=
        (compact_entries_kept c st level in0 in1 outs hl' hm1).resolve_left hmE'
      have ha : newestVisible c (compactIns st level in0 in1) k q = some m :=
        newestVisible_eq_some_of (hK.of_subset fun _ => compactIns_sub) hmins hm2 hm3
          (fun e he => hm4 e (compactIns_sub he))
      have hsa := hsame m hmins
      unfold sameAnswer at hsa
      rw [hm2, ha] at hsa
      cases hb : newestVisible c (outs.flatMap (·.run)) k q with
      | some b =>
        rw [hb] at hsa
        cases eq_of_beq hsa
        exact absurd ((mem_allEntries_compact hl').mpr
          (.inr (.inr (.inl (newestVisible_spec hb).1)))) hmE'
      | none =>
        rw [hb] at hsa
        obtain ⟨hkind, hdeep⟩ := Bool.and_eq_true_iff.mp hsa
        have hnone : newestVisible c (allEntries (applyStep c st (.compact level in0 in1 outs))) k q
            = none := by
          rw [newestVisible_eq_none_iff]
          intro e he hek hes
          -- `e` is older than `m`, yet everything that stays at or above the outputs' level is newer
          have hlt : e.seq < m.seq :=
            (hK.eq_or_lt (hF1 e he) hm1 (hek.trans hm2.symm) (hm4 e (hF1 e he) hek hes)).resolve_left
              (fun h => hmE' (h ▸ he))
          have hcmp : c.compare e.ukey m.ukey = .eq := (CmpBasic.compare_eq_iff c _ _).mpr (hek.trans hm2.symm)
          have hnewer : ∀ r : Run, e ∈ r → ¬ NewerThan c r (compactIns st level in0 in1) :=
            fun r her hr => Nat.lt_asymm hlt (hr e her m hmins hcmp)
          rcases (mem_allEntries_compact hl').mp he with
            he1 | ⟨r, hr, he2⟩ | he3 | ⟨i, g, hg, hu0, hu1, heg⟩
          · exact hnewer _ he1 hkept.1
          · exact hnewer r he2 (hkept.2.1 r hr)
          · exact newestVisible_eq_none_iff.mp hb e he3 hek hes
          · by_cases hi : i ≤ level + 1
            · exact hnewer _ heg (hkept.2.2 i g hi hg hu0 hu1)
            · rw [keyInDeeperLevels_of_mem (c := c) (level := level + 1) (by omega) hg heg hek] at hdeep
              cases hdeep
        rw [hnone]
        show none = if m.kind == 1 then some m.val else none
        rw [if_neg (by rw [eq_of_beq hkind]; decide)]

theorem compact_preserves_view (c : Cmp) (st : DbState) (level : Nat) (in0 in1 : List Nat)
    (outs : List FileMeta) (h : Inv c st) (hnt : NoSeqTies c st)
    (hs : stepOk c st (.compact level in0 in1 outs)) (k : Bytes) (q : Nat)
    (hq : q ∈ protectedSeqs st) :
    view c (allEntries (applyStep c st (.compact level in0 in1 outs))) k q =
      view c (allEntries st) k q :=
  compact_view_of_sameAnswer c st level in0 in1 outs h hnt hs k q
    (fun e he => hs.2.2.2.2.2.2.2.2.2.2.2.1 e he q hq)

theorem sameAnswer_eq_of_bound {c : Cmp} {st : DbState} {level : Nat} {ins outE : List Entry}
    {k : Bytes} {q q' : Nat} (hsub : ∀ x ∈ outE, x ∈ ins) (hq : q' ≤ q)
    (hb : ∀ x ∈ ins, x.ukey = k → x.seq ≤ q → x.seq ≤ q') :
    sameAnswer c st level ins outE k q = sameAnswer c st level ins outE k q' := by
  unfold sameAnswer newestVisible
  rw [visibleEntries_eq_of_bound hq hb, visibleEntries_eq_of_bound hq (fun x hx => hb x (hsub x hx))]

/-- under contract (c) the outputs answer like the inputs at EVERY sequence
    `q ≥ smallestProtected st`.  The answer at `q` only changes where an input entry of the key has
    its sequence, so `q` can be lowered to the sequence of the newest input visible at `q` if that
    is `≥ smallestProtected st` (third conjunct of (c)), and to `smallestProtected st` otherwise (second
    conjunct) -/
theorem sameAnswer_above (c : Cmp) (st : DbState) (level : Nat) (in0 in1 : List Nat)
    (outs : List FileMeta) (hs : stepOk c st (.compact level in0 in1 outs)) (q : Nat)
    (hq : smallestProtected st ≤ q) (e : Entry) (he : e ∈ compactIns st level in0 in1) :
    sameAnswer c st level (compactIns st level in0 in1) (outs.flatMap (·.run)) e.ukey q = true := by
  obtain ⟨_, _, _, _, _, _, _, _, _, _, hsub, hprot, habove⟩ := hs
  cases hn : newestVisible c (compactIns st level in0 in1) e.ukey q with
  | none =>
    have hn' : newestVisible c (outs.flatMap (·.run)) e.ukey q = none := by
      rw [newestVisible_eq_none_iff] at hn ⊢
      exact fun x hx => hn x (hsub x hx)
    unfold sameAnswer
    rw [hn, hn']
  | some m =>
    obtain ⟨hm1, hm2, hm3, hm4⟩ := newestVisible_spec hn
    by_cases hm : smallestProtected st ≤ m.seq
    · rw [sameAnswer_eq_of_bound hsub hm3 hm4]
      exact habove e he m hm1 hm
    · rw [sameAnswer_eq_of_bound hsub hq (fun x hx hk hxq => by have := hm4 x hx hk hxq; omega)]
      exact hprot e he _ (smallestProtected_mem st)

theorem compact_preserves_view_above (c : Cmp) (st : DbState) (level : Nat) (in0 in1 : List Nat)
    (outs : List FileMeta) (h : Inv c st) (hnt : NoSeqTies c st)
    (hs : stepOk c st (.compact level in0 in1 outs)) (k : Bytes) (q : Nat)
    (hq : smallestProtected st ≤ q) :
    view c (allEntries (applyStep c st (.compact level in0 in1 outs))) k q =
      view c (allEntries st) k q :=
  compact_view_of_sameAnswer c st level in0 in1 outs h hnt hs k q
    (sameAnswer_above c st level in0 in1 outs hs q hq)

theorem background_preserves_view (c : Cmp) (st : DbState) (s : Step) (h : Inv c st)
    (hnt : NoSeqTies c st) (hs : stepOk c st s) (hbg : s.isBackground = true) (k : Bytes) (q : Nat)
    (hq : q ∈ protectedSeqs st) :
    view c (allEntries (applyStep c st s)) k q = view c (allEntries st) k q := by
  cases s with
  | write ops => cases hbg
  | addL0 f => cases hbg
  | switchMem => rw [allEntries_switchMem c st hs]
  | flush level f => exact flush_preserves_view c st level f h hnt hs k q
  | dropImm => rw [allEntries_dropImm c st hs]
  | compact level in0 in1 outs => exact compact_preserves_view c st level in0 in1 outs h hnt hs k q hq
  | snapshot => rfl
  | release s => rfl
  | bumpNextFile n => rfl

theorem write_view (c : Cmp) (st : DbState) (ops : List WOp) (h : Inv c st)
    (_hs : stepOk c st (.write ops)) (k : Bytes) :
    (∀ q, q ≤ st.lastSeq →
      view c (allEntries (applyStep c st (.write ops))) k q = view c (allEntries st) k q) ∧
    view c (allEntries (applyStep c st (.write ops))) k (st.lastSeq + ops.length) =
      applyOpsView c k ops (view c (allEntries st) k st.lastSeq) := by
  constructor
  · intro q hq
    rw [allEntries_write, allEntries_eq_mem_append st]
    have hv : ∀ rest : List Entry,
        visibleEntries c (applyOps c st.mem (st.lastSeq + 1) ops ++ rest) k q =
          visibleEntries c (st.mem ++ rest) k q := by
      intro rest
      unfold visibleEntries
      rw [List.filter_append, List.filter_append, filter_applyOps_of_false]
      intro e he
      have := (mem_opsEntries he).1
      have : ¬ e.seq ≤ q := by omega
      simp [this]
    unfold view newestVisible
    rw [hv]
  · exact view_write c st ops k h.seqBound

theorem initial_entries : allEntries emptyState = [] := rfl

theorem initial_noSeqTies (c : Cmp) : NoSeqTies c emptyState := by
  intro x hx
  rw [initial_entries] at hx
  cases hx

theorem write_preserves_noSeqTies (c : Cmp) (st : DbState) (ops : List WOp) (h : Inv c st)
    (hnt : NoSeqTies c st) : NoSeqTies c (applyStep c st (.write ops)) := by
  refine hnt.of_old_new (new := opsEntries (st.lastSeq + 1) ops) ?_
    (fun x hx y hy _ hs => opsEntries_seq_inj hx hy hs)
    (fun x hx y hy _ => Nat.lt_of_le_of_lt (h.seqBound y hy) (mem_opsEntries hx).1)
  intro e he
  rw [allEntries_write] at he
  rw [allEntries_eq_mem_append st]
  rcases List.mem_append.mp he with he | he
  · rcases mem_applyOps.mp he with he | he
    · exact .inl (List.mem_append.mpr (.inl he))
    · exact .inr he
  · exact .inl (List.mem_append.mpr (.inr he))

theorem addL0_preserves_noSeqTies (c : Cmp) (st : DbState) (f : FileMeta) (h : Inv c st)
    (hnt : NoSeqTies c st) (hs : stepOk c st (.addL0 f)) :
    NoSeqTies c (applyStep c st (.addL0 f)) := by
  obtain ⟨_, _, _, _, hsrc, _, hties, _⟩ := hs
  have hl' := h.lt_length (Nat.succ_pos 6)
  refine hnt.of_old_new (new := f.run) ?_ hties ?_
  · intro e he
    rcases (mem_allEntries_addFileState hl').mp he with he | he | he | he
    · exact .inl (mem_allEntries.mpr (.inl he))
    · exact .inl (mem_allEntries.mpr (.inr (.inl he)))
    · exact .inr he
    · exact .inl (mem_allEntries.mpr (.inr (.inr he)))
  · intro x hx y hy hk
    obtain ⟨r, hr, hyr⟩ := List.mem_flatten.mp (Lsm.mem_sourceRuns_flatten_iff.mpr hy)
    exact hsrc r hr x hx y hyr hk

theorem step_preserves_noSeqTies (c : Cmp) (st : DbState) (s : Step) (h : Inv c st)
    (hnt : NoSeqTies c st) (hs : stepOk c st s) : NoSeqTies c (applyStep c st s) := by
  cases s with
  | write ops => exact write_preserves_noSeqTies c st ops h hnt
  | addL0 f => exact addL0_preserves_noSeqTies c st f h hnt hs
  | switchMem => exact hnt.of_subset (fun e he => by rwa [allEntries_switchMem c st hs] at he)
  | flush level f => exact hnt.of_subset (fun e he => (mem_allEntries_flush c st level f h hs e).mp he)
  | dropImm => exact hnt.of_subset (fun e he => by rwa [allEntries_dropImm c st hs] at he)
  | compact level in0 in1 outs =>
    have hl' := h.lt_length hs.1
    exact hnt.of_subset (compact_entries_sub hl' hs.2.2.2.2.2.2.2.2.2.2.1)
  | snapshot => exact hnt
  | release s => exact hnt
  | bumpNextFile n => exact hnt

theorem steps_preserve_noSeqTies (c : Cmp) (st : DbState) (steps : List Step) (h : Inv c st)
    (hnt : NoSeqTies c st) (hs : StepsOk c st steps) : NoSeqTies c (runSteps c st steps) := by
  induction steps generalizing st with
  | nil => exact hnt
  | cons s ss ih =>
    exact ih _ (step_preserves_inv c st s h hs.1) (step_preserves_noSeqTies c st s h hnt hs.1) hs.2

theorem step_snapshot_view (c : Cmp) (st : DbState) (s : Step) (h : Inv c st) (hnt : NoSeqTies c st)
    (hs : stepOk c st s) (q : Nat) (hq : q ∈ st.snaps) (hrel : s ≠ .release q)
    (hno : s.isAddL0 = false) (k : Bytes) :
    q ∈ (applyStep c st s).snaps ∧
      view c (allEntries (applyStep c st s)) k q = view c (allEntries st) k q := by
  have hprot : q ∈ protectedSeqs st := List.mem_cons_of_mem _ hq
  cases s with
  | write ops => exact ⟨hq, (write_view c st ops h hs k).1 q (h.snapsBound q hq)⟩
  | addL0 f => cases hno
  | snapshot => exact ⟨List.mem_append.mpr (.inl hq), rfl⟩
  | release s' =>
    have : q ≠ s' := fun e => hrel (by rw [e])
    exact ⟨(List.mem_erase_of_ne this).mpr hq, rfl⟩
  | _ => exact ⟨hq, background_preserves_view c st _ h hnt hs rfl k q hprot⟩

/-- along any run of contract-respecting steps (no recovery step), a snapshot that is not
    released sees, for every key, exactly what it saw when the run started -/
theorem snapshot_view_stable (c : Cmp) (st : DbState) (steps : List Step) (h : Inv c st)
    (hnt : NoSeqTies c st) (hs : StepsOk c st steps) (q : Nat) (hq : q ∈ st.snaps)
    (hrel : ∀ s ∈ steps, s ≠ .release q) (hno : ∀ s ∈ steps, s.isAddL0 = false) (k : Bytes) :
    view c (allEntries (runSteps c st steps)) k q = view c (allEntries st) k q := by
  induction steps generalizing st with
  | nil => rfl
  | cons s ss ih =>
    have h1 := step_snapshot_view c st s h hnt hs.1 q hq (hrel s (by simp)) (hno s (by simp)) k
    have := ih (applyStep c st s) (step_preserves_inv c st s h hs.1)
      (step_preserves_noSeqTies c st s h hnt hs.1) hs.2 h1.1
      (fun s' hs' => hrel s' (List.mem_cons_of_mem _ hs'))
      (fun s' hs' => hno s' (List.mem_cons_of_mem _ hs'))
    exact this.trans h1.2

theorem background_frame (c : Cmp) (st : DbState) {s : Step} (hb : s.isBackground = true) :
    (applyStep c st s).lastSeq = st.lastSeq ∧
      ∀ n ss, historyOf n (s :: ss) = historyOf n ss := by
  cases s with
  | write _ => cases hb
  | addL0 _ => cases hb
  | _ => exact ⟨rfl, fun _ _ => rfl⟩

/-- `H` is a plain log that answers like `st` at its last sequence; the induction over the steps
    appends each batch to it -/
theorem history_refines_gen (c : Cmp) (st : DbState) (steps : List Step) (H : List Entry)
    (h : Inv c st) (hnt : NoSeqTies c st) (hs : StepsOk c st steps)
    (hno : ∀ s ∈ steps, s.isAddL0 = false)
    (hH : ∀ x ∈ H, x.seq ≤ st.lastSeq)
    (hview : ∀ k, view c (allEntries st) k st.lastSeq = view c H k st.lastSeq) (k : Bytes) :
    view c (allEntries (runSteps c st steps)) k (runSteps c st steps).lastSeq =
      view c (H ++ historyOf st.lastSeq steps) k (runSteps c st steps).lastSeq := by
  induction steps generalizing st H with
  | nil => simpa [runSteps, historyOf] using hview k
  | cons s ss ih =>
    have hinv' := step_preserves_inv c st s h hs.1
    have hnt' := step_preserves_noSeqTies c st s h hnt hs.1
    have hno' : ∀ s' ∈ ss, s'.isAddL0 = false := fun s' hs' => hno s' (List.mem_cons_of_mem _ hs')
    by_cases hb : s.isBackground = true
    · -- nothing changes at the present sequence, and the log does not grow
      obtain ⟨hls, hhist⟩ := background_frame c st hb
      have := ih (applyStep c st s) H hinv' hnt' hs.2 hno' (by rw [hls]; exact hH)
        (by
          intro k'
          rw [hls, background_preserves_view c st s h hnt hs.1 hb k' st.lastSeq List.mem_cons_self]
          exact hview k')
      rw [hls] at this
      rw [hhist]
      exact this
    · cases s with
      | write ops =>
        have hw := fun k' => (write_view c st ops h hs.1 k').2
        have hH' : ∀ x ∈ H ++ opsEntries (st.lastSeq + 1) ops, x.seq ≤ st.lastSeq + ops.length := by
          intro x hx
          rcases List.mem_append.mp hx with hx | hx
          · have := hH x hx; omega
          · have := (mem_opsEntries hx).2.1; omega
        have := ih (applyStep c st (.write ops)) (H ++ opsEntries (st.lastSeq + 1) ops) hinv' hnt' hs.2
          hno' hH'
          (by
            intro k'
            show view c (allEntries (applyStep c st (.write ops))) k' (st.lastSeq + ops.length) = _
            rw [hw k', hview k']
            exact (view_append_opsEntries c H st.lastSeq ops k' hH).symm)
        simpa [runSteps, historyOf, List.append_assoc, applyStep] using this
      | addL0 f => exact absurd (hno (.addL0 f) List.mem_cons_self) nofun
      | _ => exact absurd rfl hb

/-- whatever flushes and compactions happened in between, the state reached from the empty
    database answers, at its last sequence, like the plain log of all writes -/
theorem history_refines (c : Cmp) (steps : List Step) (hs : StepsOk c emptyState steps)
    (hno : ∀ s ∈ steps, s.isAddL0 = false) (k : Bytes) :
    view c (allEntries (runSteps c emptyState steps)) k (runSteps c emptyState steps).lastSeq =
      view c (historyOf 0 steps) k (runSteps c emptyState steps).lastSeq := by
  have := history_refines_gen c emptyState steps [] (initial_inv c) (initial_noSeqTies c) hs hno
    (by intro x hx; cases hx) (by intro k'; rw [initial_entries]) k
  simpa [emptyState] using this

namespace Ex
open Lcdb.C14.Ex

theorem ntA : NoSeqTies .bytewise stA := by decide +kernel
theorem ntB : NoSeqTies .bytewise stB := by decide +kernel
theorem ntC : NoSeqTies .bytewise stC := by decide +kernel
theorem ntD : NoSeqTies .bytewise stD := by decide +kernel

example : 6 ∈ protectedSeqs stA ∧ 10 ∈ protectedSeqs stA := by decide +kernel

example (k : Bytes) : view .bytewise (allEntries (applyStep .bytewise stA compact01)) k 6 =
    view .bytewise (allEntries stA) k 6 :=
  background_preserves_view _ _ _ invA ntA okCompact01 rfl k 6 (by decide +kernel)
example (k : Bytes) : view .bytewise (allEntries (applyStep .bytewise stA compact12)) k 10 =
    view .bytewise (allEntries stA) k 10 :=
  background_preserves_view _ _ _ invA ntA okCompact12 rfl k 10 (by decide +kernel)
example (k : Bytes) : view .bytewise (allEntries (applyStep .bytewise stA (.flush 0 g7))) k 6 =
    view .bytewise (allEntries stA) k 6 :=
  background_preserves_view _ _ _ invA ntA okFlush0 rfl k 6 (by decide +kernel)
example (k : Bytes) : view .bytewise (allEntries (applyStep .bytewise stB (.flush 1 g7b))) k 10 =
    view .bytewise (allEntries stB) k 10 :=
  background_preserves_view _ _ _ invB ntB okFlush1 rfl k 10 (by decide +kernel)
example (k : Bytes) : view .bytewise (allEntries (applyStep .bytewise stC .switchMem)) k 10 =
    view .bytewise (allEntries stC) k 10 :=
  background_preserves_view _ _ _ invC ntC okSwitch rfl k 10 (by decide +kernel)
example (k : Bytes) : view .bytewise (allEntries (applyStep .bytewise stD .dropImm)) k 6 =
    view .bytewise (allEntries stD) k 6 :=
  background_preserves_view _ _ _ invD ntD okDrop rfl k 6 (by decide +kernel)
/-- the protected-sequence hypothesis matters: below the oldest snapshot a compaction does change
    the view (`(k1, 3)` was dropped because `(k1, 5)` shadows it from sequence 5 on) -/
example : view .bytewise (allEntries stA) k1 4 = some "z" ∧
    view .bytewise (allEntries (applyStep .bytewise stA compact01)) k1 4 = some "old" := by decide +kernel

example : smallestProtected stA = 6 := by decide +kernel
example (k : Bytes) : view .bytewise (allEntries (applyStep .bytewise stA compact01)) k 8 =
    view .bytewise (allEntries stA) k 8 :=
  compact_preserves_view_above _ _ _ _ _ _ invA ntA okCompact01 k 8 (by decide +kernel)

example : (∀ q, q ≤ 10 → view .bytewise (allEntries (applyStep .bytewise stA writeA)) k1 q =
      view .bytewise (allEntries stA) k1 q) ∧
    view .bytewise (allEntries (applyStep .bytewise stA writeA)) k1 12 = none :=
  write_view _ _ _ invA okWrite k1
example : view .bytewise (allEntries stA) k1 10 = some "m" ∧
    applyOpsView .bytewise k1 [⟨k2, 1, "n"⟩, ⟨k1, 0, ""⟩] (some "m") = none ∧
    applyOpsView .bytewise k2 [⟨k2, 1, "n"⟩, ⟨k1, 0, ""⟩] none = some "n" := by decide +kernel

-- `snapshot_view_stable`: the snapshot taken after the first batch keeps seeing `k1 ↦ a`, `k2 ↦ b` through the
--    deletion, the overwrite, both flushes and the compaction
def stSnap : DbState := runSteps .bytewise emptyState prefix1

theorem okPrefix : StepsOk .bytewise emptyState prefix1 := by decide +kernel
theorem okMiddle : StepsOk .bytewise stSnap middle1 := by decide +kernel

-- the argument by `rcases` is `hrel`: none of the seven steps of `middle1` releases snapshot 2
example (k : Bytes) : view .bytewise (allEntries (runSteps .bytewise stSnap middle1)) k 2 =
    view .bytewise (allEntries stSnap) k 2 :=
  snapshot_view_stable _ _ _ (steps_preserve_inv _ _ _ (initial_inv _) okPrefix)
    (steps_preserve_noSeqTies _ _ _ (initial_inv _) (initial_noSeqTies _) okPrefix) okMiddle 2
    (by decide +kernel) (by intro s hs; simp [middle1] at hs; rcases hs with h | h | h | h | h | h | h <;> simp [h])
    (by decide +kernel) k
example : view .bytewise (allEntries stSnap) k1 2 = some "a" ∧
    view .bytewise (allEntries (runSteps .bytewise stSnap middle1)) k1 2 = some "a" ∧
    view .bytewise (allEntries (runSteps .bytewise stSnap middle1)) k1 4 = none := by decide +kernel

-- `history_refines`: the final state (one level-2 file holding `k2 ↦ c`) answers like the log of the three batches
example (k : Bytes) :
    view .bytewise (allEntries (runSteps .bytewise emptyState run1)) k (runSteps .bytewise emptyState run1).lastSeq =
      view .bytewise (historyOf 0 run1) k (runSteps .bytewise emptyState run1).lastSeq :=
  history_refines _ _ okRun1 (by decide +kernel) k
example : allEntries (runSteps .bytewise emptyState run1) = [⟨k2, 4, 1, "c"⟩] ∧
    historyOf 0 run1 = [⟨k1, 1, 1, "a"⟩, ⟨k2, 2, 1, "b"⟩, ⟨k1, 3, 0, ""⟩, ⟨k2, 4, 1, "c"⟩] := by decide +kernel

example : NoSeqTies .bytewise (applyStep .bytewise stG (.addL0 g10)) :=
  addL0_preserves_noSeqTies _ _ _ invG (by decide +kernel) okAddL0

end Ex

end Lcdb.C06
