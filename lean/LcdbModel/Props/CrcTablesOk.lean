/-
  T2 obligations: the CRC-32C lookup tables in /repo's current src/util/crc32c.c
  (LcdbModel/Generated/CrcTables.lean, rewritten on every check) are the tables of the
  bitwise-defined CRC-32C -- all 5 x 256 entries.

  Feeding bytes to the CRC register is linear over GF(2), so each table is the xor-span of its eight
  entries at the powers of two: only those are evaluated bit by bit; that the C table is their span
  is plain arithmetic on its entries.
-/
import LcdbModel.Generated.CrcTables
import LcdbModel.Lemmas.Crc32c
namespace Lcdb.CrcTablesOk
open Lcdb

/-- the table, on `0 .. 2^k - 1`, of an xor-linear function with the given values at `2^0 .. 2^(k-1)`:
    entries `2^j .. 2^(j+1) - 1` are entries `0 .. 2^j - 1` xor-ed with entry `2^j` -/
def spanTable (basis : List Nat) : List Nat :=
  basis.foldl (fun acc b => acc ++ acc.map (· ^^^ b)) [0]

theorem two_pow_add_eq_xor {k i : Nat} (h : i < 2 ^ k) : 2 ^ k + i = 2 ^ k ^^^ i := by
  apply Nat.eq_of_testBit_eq
  intro j
  rw [Nat.testBit_xor, Nat.testBit_two_pow]
  rcases Nat.lt_trichotomy j k with hj | rfl | hj
  · rw [Nat.testBit_two_pow_add_gt hj, decide_eq_false (Nat.ne_of_gt hj), Bool.false_xor]
  · rw [Nat.testBit_two_pow_add_eq, Nat.testBit_lt_two_pow h, decide_eq_true rfl]
    rfl
  · have hk : 2 ^ (k + 1) ≤ 2 ^ j := Nat.pow_le_pow_right Nat.two_pos hj
    rw [Nat.pow_succ] at hk
    rw [Nat.testBit_lt_two_pow (by omega : 2 ^ k + i < 2 ^ j), Nat.testBit_lt_two_pow (by omega : i < 2 ^ j),
      decide_eq_false (Nat.ne_of_lt hj)]
    rfl

theorem map_range_eq_spanTable (f : Nat → Nat) (hf : ∀ i j, f (i ^^^ j) = f i ^^^ f j) :
    ∀ k, (List.range (2 ^ k)).map f = spanTable ((List.range k).map fun j => f (2 ^ j))
  | 0 => by
    have h0 : f 0 = 0 := by
      have := hf 0 0
      rwa [Nat.xor_self, Nat.xor_self] at this
    simp [spanTable, h0]
  | k + 1 => by
    have ih : _ = spanTable _ := map_range_eq_spanTable f hf k
    rw [List.range_succ, List.map_append, spanTable, List.foldl_append, ← spanTable, ← ih,
      Nat.pow_succ, Nat.mul_two, List.range_add, List.map_append]
    simp only [List.map_cons, List.map_nil, List.foldl_cons, List.foldl_nil, List.map_map]
    refine congrArg _ (List.map_congr_left fun i hi => ?_)
    simp only [Function.comp, two_pow_add_eq_xor (List.mem_range.mp hi), hf, Nat.xor_comm]

def zeroExtend (n : Nat) (l : W32) : W32 := (List.replicate n (0 : UInt8)).foldl crcByteSpec l

theorem zeroExtend_xor (n : Nat) (a b : W32) :
    zeroExtend n (a ^^^ b) = zeroExtend n a ^^^ zeroExtend n b := by
  unfold zeroExtend
  induction n generalizing a b with
  | zero => rfl
  | succ n ih =>
    simp only [List.replicate_succ, List.foldl_cons, crcByteSpec_zero, crcBit8_xor, ih]

theorem zeroTable_eq_span (n : Nat) :
    crcTable.map (fun x => (zeroExtend n x).toNat) =
      spanTable ((List.range 8).map fun j => (zeroExtend n (crcBit8 (BitVec.ofNat 32 (2 ^ j)))).toNat) := by
  rw [crcTable, List.map_map]
  exact map_range_eq_spanTable (fun i => (zeroExtend n (crcBit8 (BitVec.ofNat 32 i))).toNat)
    (fun i j => by simp only [BitVec.ofNat_xor, crcBit8_xor, zeroExtend_xor, BitVec.toNat_xor]) 8

/-- T2: the C byte table is the bitwise-defined CRC-32C table (all 256 entries) -/
theorem byteExtTable_ok : Generated.byteExtTable = crcTable.map BitVec.toNat :=
  (by decide +kernel : Generated.byteExtTable = spanTable _).trans (zeroTable_eq_span 0).symm

/-- T2: the stride tables of crc32c_generic (`STEP4`).  Table k is indexed by byte 3-k of a register
    word and accounts for the rest of the 16-byte stride: entry i of table k is the register after
    feeding byte i followed by 12 + k zero bytes. -/
theorem strideTables_ok :
    Generated.strideExtTable0 = crcTable.map (fun x => (zeroExtend 12 x).toNat) ∧
    Generated.strideExtTable1 = crcTable.map (fun x => (zeroExtend 13 x).toNat) ∧
    Generated.strideExtTable2 = crcTable.map (fun x => (zeroExtend 14 x).toNat) ∧
    Generated.strideExtTable3 = crcTable.map (fun x => (zeroExtend 15 x).toNat) := by
  refine ⟨?_, ?_, ?_, ?_⟩ <;> rw [zeroTable_eq_span] <;> decide +kernel

end Lcdb.CrcTablesOk
